import SlimProps.C01
import SlimProps.C02
import SlimProps.C03
import SlimProps.C04
import SlimProps.C04Iter
import SlimProps.C05Wire
import SlimProps.C05
import SlimProps.C05Input
import SlimProps.C06
import SlimProps.C06Wire
import SlimProps.C06View
import SlimProps.C06Legacy3
import SlimProps.C06Legacy3Wire
import SlimProps.C06Upgrade
import SlimProps.C06Input
import SlimProps.C07Wire
import SlimProps.C07
import SlimProps.C07Input
import SlimProps.C08
import SlimProps.C08Accept
import SlimProps.C09
import SlimProps.C10Agree
import SlimProps.C11
import SlimProps.C12
import SlimProps.C12Closed
import SlimProps.C13Shape
import SlimProps.C13
import SlimProps.C13Complete
import SlimProps.C14
import SlimProps.C15
import SlimProps.C15Lookup
import SlimProps.C16
import SlimProps.C17
import SlimProps.C17Exact
import SlimProps.C18
import SlimProps.C19
import SlimProps.C20
import SlimProps.L2Transport
import SlimProps.L2
import SlimProps.L2b
import SlimProps.L2c
import SlimProps.Loaded
import SlimProps.LoadedInput
import SlimProps.Bridge
import SlimProps.BridgeSem
