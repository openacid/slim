import SlimProps.Loaded
import SlimProofs.InputSmall
/-
  SlimProps.LoadedInput — the `_loaded` theorems of `SlimProps/Loaded.lean` (the headline theorem of
  C01, C02, C03, C04, C09, C10, C13, C14, C18, C19 and C05's `answers identical`, for a SlimTrie
  instance that was LOADED from the bytes `Marshal` produced) with the hypothesis about the
  intermediate trie, `Refine.Small t`, derived from the decidable predicate on the user's input

      InputSmall keys vals  :=  514·|keys| + (total key bytes) + (total value bytes) + 64 < 2^31

  (`SlimProofs/InputSmall.lean`: `small_of_input : build keys vals opt = .ok t → InputSmall keys vals
  → Small t`).  Remaining hypotheses: `hb : build keys vals opt = .ok t` (names the result of the
  construction), `hi : InputSmall keys vals`, and each property's own hypotheses on keys / options /
  query.  Every theorem is the `_loaded` theorem of the same name composed with `small_of_input`.
-/

open Wire Frame Version Legacy Refine

section loadedInput
variable (keys : List Bytes) (vals : Option (List Bytes)) (opt : Opt) (t : Trie1)
  (hb : build keys vals opt = .ok t) (hin : InputSmall keys vals) (σ : Instance) (encSize : Option Nat)
include hb hin

theorem loaded_eq_input :
    ∃ lv, Slim.initLevels (Slim.encode t) = .ok lv ∧
      Instance.unmarshal σ encSize (marshalSlim (Slim.encode t))
        = ({ inner := Slim.encode t, levels := lv, varsNil := false }, none) :=
  loaded_eq keys vals opt t hb (small_of_input keys vals opt t hb hin) σ encSize

theorem loaded_inner_input : (loadedFrom σ t encSize).inner = Slim.encode t :=
  loaded_inner keys vals opt t hb (small_of_input keys vals opt t hb hin) σ encSize

theorem loaded_view_input : Slim.view (loadedFrom σ t encSize).inner = L2view t :=
  loaded_view keys vals opt t hb (small_of_input keys vals opt t hb hin) σ encSize

theorem loaded_indep_input (σ' : Instance) : loadedFrom σ t encSize = loadedFrom σ' t encSize :=
  loaded_indep keys vals opt t hb (small_of_input keys vals opt t hb hin) σ encSize σ'

theorem C05_answers_identical_built_input :
    ∃ lv, Slim.initLevels (Slim.encode t) = .ok lv ∧
      (loadedFrom σ t encSize).inner = Slim.encode t ∧
      Slim.view (loadedFrom σ t encSize).inner = Slim.view (Slim.encode t) ∧
      (loadedFrom σ t encSize).levels = lv ∧ (loadedFrom σ t encSize).varsNil = false ∧
      Slim.stat (loadedFrom σ t encSize).inner (loadedFrom σ t encSize).levels
        = Slim.stat (Slim.encode t) lv :=
  C05_answers_identical_built keys vals opt t hb (small_of_input keys vals opt t hb hin) σ encSize

theorem C01_get_retained_loaded_input (i : Nat) (hi : i < keys.length)
    (hk : keptAt (keepMask keys.length vals opt.dedup) i = true) :
    (∃ id, getID (Slim.view (loadedFrom σ t encSize).inner) (keys.getD i []) = .ok (some id)) ∧
    get (Slim.view (loadedFrom σ t encSize).inner) (keys.getD i [])
      = .ok (some (expectedValue vals t i)) :=
  C01_get_retained_loaded keys vals opt t hb (small_of_input keys vals opt t hb hin) σ encSize i hi hk

theorem C01_get_retained_bytes_loaded_input (i : Nat) (hi : i < keys.length)
    (hk : keptAt (keepMask keys.length vals opt.dedup) i = true) :
    ∃ r, get (Slim.view (loadedFrom σ t encSize).inner) (keys.getD i []) = .ok (some r) ∧
      (vals = none → r = none) ∧ (∀ vs, vals = some vs → r.getD [] = vs.getD i []) :=
  C01_get_retained_bytes_loaded keys vals opt t hb (small_of_input keys vals opt t hb hin) σ encSize i hi hk

theorem C02_rangeget_indexed_loaded_input (hne : keys ≠ []) (i : Nat) (hi : i < keys.length) :
    rangeGet (Slim.view (loadedFrom σ t encSize).inner) (keys.getD i []) =
      .ok (some (recVal (keepMask keys.length vals opt.dedup) vals i)) :=
  C02_rangeget_indexed_loaded keys vals opt t hb (small_of_input keys vals opt t hb hin) σ encSize hne i hi

theorem C03_search_loaded_input (hc : opt.complete = true) (q : Bytes) :
    search (Slim.view (loadedFrom σ t encSize).inner) q =
      .ok (shownVal (retained keys vals opt.dedup) (Spec.lt (retained keys vals opt.dedup) q),
           shownVal (retained keys vals opt.dedup) (Spec.get (retained keys vals opt.dedup) q),
           shownVal (retained keys vals opt.dedup) (Spec.gt (retained keys vals opt.dedup) q)) :=
  C03_search_loaded keys vals opt t hb (small_of_input keys vals opt t hb hin) σ encSize hc q

theorem C03_getID_loaded_input (hc : opt.complete = true) (q : Bytes) :
    ∃ e, getID (Slim.view (loadedFrom σ t encSize).inner) q = .ok e ∧
      e.isSome = (Spec.get (retained keys vals opt.dedup) q).isSome :=
  C03_getID_loaded keys vals opt t hb (small_of_input keys vals opt t hb hin) σ encSize hc q

theorem C03_get_loaded_input (hc : opt.complete = true) (q : Bytes) :
    get (Slim.view (loadedFrom σ t encSize).inner) q =
      .ok (shownVal (retained keys vals opt.dedup) (Spec.get (retained keys vals opt.dedup) q)) :=
  C03_get_loaded keys vals opt t hb (small_of_input keys vals opt t hb hin) σ encSize hc q

theorem C03_rangeget_loaded_input (hc : opt.complete = true) (q : Bytes) :
    rangeGet (Slim.view (loadedFrom σ t encSize).inner) q =
      .ok (shownVal (retained keys vals opt.dedup) (Spec.le (retained keys vals opt.dedup) q)) :=
  C03_rangeget_loaded keys vals opt t hb (small_of_input keys vals opt t hb hin) σ encSize hc q

open IterLemmas Scan in
theorem C04_getGEPath_loaded_input (hc : opt.complete = true) (start : Bytes) :
    ∃ p, getGEPath (Slim.view (loadedFrom σ t encSize).inner) start = .ok p ∧
      GERes keys (keepMask keys.length vals opt.dedup) t start p :=
  C04_getGEPath_loaded keys vals opt t hb (small_of_input keys vals opt t hb hin) σ encSize hc start

open Scan in
theorem C04_iter_loaded_input (hc : opt.complete = true) (start : Bytes) (incl wv : Bool) :
    ∃ s, newIterFrom (Slim.view (loadedFrom σ t encSize).inner) start incl = .ok s ∧
      ∀ k, iterTake (Slim.view (loadedFrom σ t encSize).inner) wv k s =
        .ok (IterStack.expect k ((Spec.scanFrom (retained keys vals opt.dedup) start incl).map
          (C04.item (retained keys vals opt.dedup) wv))) :=
  C04_iter_loaded keys vals opt t hb (small_of_input keys vals opt t hb hin) σ encSize hc start incl wv

open Scan in
theorem C04_scanFrom_loaded_input (hc : opt.complete = true) (start : Bytes) (incl wv : Bool)
    (keepFn : Bytes → Bool) (stopAfter : Option Nat) :
    scanFrom (Slim.view (loadedFrom σ t encSize).inner) start incl wv keepFn stopAfter =
      .ok (IterScan.truncate stopAfter
        (((Spec.scanFrom (retained keys vals opt.dedup) start incl).map
          (C04.pair (retained keys vals opt.dedup) wv)).takeWhile (fun y => keepFn y.1))) :=
  C04_scanFrom_loaded keys vals opt t hb (small_of_input keys vals opt t hb hin) σ encSize hc start incl wv keepFn stopAfter

open Scan in
theorem C04_scanFromTo_loaded_input (hc : opt.complete = true) (start : Bytes) (incl : Bool)
    (stop : Bytes) (inclEnd wv : Bool) (stopAfter : Option Nat) :
    scanFromTo (Slim.view (loadedFrom σ t encSize).inner) start incl stop inclEnd wv stopAfter =
      .ok (IterScan.truncate stopAfter
        ((Spec.scanFromTo (retained keys vals opt.dedup) start incl stop inclEnd).map
          (C04.pair (retained keys vals opt.dedup) wv))) :=
  C04_scanFromTo_loaded keys vals opt t hb (small_of_input keys vals opt t hb hin) σ encSize hc start incl stop inclEnd wv stopAfter

theorem C09_search_retained_loaded_input (hne : keys ≠ []) (m : Nat) (hm : m < keys.length)
    (hk : keptAt (keepMask keys.length vals opt.dedup) m = true) :
    search (Slim.view (loadedFrom σ t encSize).inner) (keys.getD m []) =
      .ok (valOf (keepMask keys.length vals opt.dedup) vals
             (prevKept (keepMask keys.length vals opt.dedup) m),
           valOf (keepMask keys.length vals opt.dedup) vals (some m),
           valOf (keepMask keys.length vals opt.dedup) vals
             (nextKept (keepMask keys.length vals opt.dedup) m)) :=
  C09_search_retained_loaded keys vals opt t hb (small_of_input keys vals opt t hb hin) σ encSize hne m hm hk

theorem C09_search_retained_R_loaded_input (hne : keys ≠ []) (i : Nat) (e : Entry)
    (hi : (retained keys vals opt.dedup)[i]? = some e) :
    search (Slim.view (loadedFrom σ t encSize).inner) e.1 =
      .ok (shownVal (retained keys vals opt.dedup)
             (if i = 0 then none else (retained keys vals opt.dedup)[i - 1]?),
           shownVal (retained keys vals opt.dedup) (some e),
           shownVal (retained keys vals opt.dedup) (retained keys vals opt.dedup)[i + 1]?) :=
  C09_search_retained_R_loaded keys vals opt t hb (small_of_input keys vals opt t hb hin) σ encSize hne i e hi

theorem C10_total_loaded_input (q : Bytes) :
    (∃ a, getID (Slim.view (loadedFrom σ t encSize).inner) q = .ok a) ∧
    (∃ a, get (Slim.view (loadedFrom σ t encSize).inner) q = .ok a) ∧
    (∃ a, searchID (Slim.view (loadedFrom σ t encSize).inner) q = .ok a) ∧
    (∃ a, rangeGet (Slim.view (loadedFrom σ t encSize).inner) q = .ok a) ∧
    (∃ a, search (Slim.view (loadedFrom σ t encSize).inner) q = .ok a) :=
  C10_total_loaded keys vals opt t hb (small_of_input keys vals opt t hb hin) σ encSize q

theorem C10_searchID_eq_getID_loaded_input (q : Bytes) (a : Option Nat)
    (b : Option Nat × Option Nat × Option Nat)
    (hg : getID (Slim.view (loadedFrom σ t encSize).inner) q = .ok a)
    (hs : searchID (Slim.view (loadedFrom σ t encSize).inner) q = .ok b) : b.2.1 = a :=
  C10_searchID_eq_getID_loaded keys vals opt t hb (small_of_input keys vals opt t hb hin) σ encSize q a b hg hs

theorem C10_search_eq_get_loaded_input (q : Bytes) (a : Option (Option Bytes))
    (y : Option (Option Bytes) × Option (Option Bytes) × Option (Option Bytes))
    (hg : get (Slim.view (loadedFrom σ t encSize).inner) q = .ok a)
    (hs : search (Slim.view (loadedFrom σ t encSize).inner) q = .ok y) : y.2.1 = a :=
  C10_search_eq_get_loaded keys vals opt t hb (small_of_input keys vals opt t hb hin) σ encSize q a y hg hs

theorem C19_render_loaded_input (fmtVal : Option Bytes → String) :
    Slim.toStringSlim (Slim.view (loadedFrom σ t encSize).inner) fmtVal
      = Slim.toStringSlim t.view fmtVal :=
  C19_render_loaded keys vals opt t hb (small_of_input keys vals opt t hb hin) σ encSize fmtVal

open Slim C18 in
theorem C18_stat_loaded_input (hne : keys ≠ []) :
    ∃ lv, (loadedFrom σ t encSize).levels = lv ∧
      stat (loadedFrom σ t encSize).inner (loadedFrom σ t encSize).levels
        = .ok { levels := lv, keyCnt := (retained keys vals opt.dedup).length,
                nodeCnt := t.nodes.size } ∧
      (∀ e ∈ lv, e.1 = e.2.1 + e.2.2) ∧ lv.Pairwise LevelLe ∧ lv.head? = some (0, 0, 0) ∧
      lv.getLast? = some (t.nodes.size, innerCnt t, t.nodes.size - innerCnt t) :=
  C18_stat_loaded keys vals opt t hb (small_of_input keys vals opt t hb hin) σ encSize hne

end loadedInput

/-! ### C10 (supplied values), C13, C14: statements with their own shapes of hypotheses -/

theorem C10_hit_supplied_loaded_input (keys : List Bytes) (vs : List Bytes) (opt : Opt) (t : Trie1)
    (hb : build keys (some vs) opt = .ok t) (hin : InputSmall keys (some vs)) (σ : Instance)
    (encSize : Option Nat) (hne : keys ≠ []) (hvs : ∀ b ∈ vs, b ≠ [])
    (q : Bytes) (x : Option Bytes)
    (h : get (Slim.view (loadedFrom σ t encSize).inner) q = .ok (some x)) :
    ∃ b, x = some b ∧ b ∈ vs :=
  C10_hit_supplied_loaded keys vs opt t hb (small_of_input keys (some vs) opt t hb hin) σ encSize
    hne hvs q x h

/-- C13 on loaded tries: both tries are built from the SAME keys and values, so one `InputSmall`
    hypothesis covers both -/
theorem C13_monotone_loaded_input (keys : List Bytes) (vals : Option (List Bytes)) (o o' : Opt)
    (t t' : Trie1) (hd : o.dedup = o'.dedup) (hin : o'.inner = true → o.inner = true)
    (hlf : o'.leaf = true → o.leaf = true)
    (hb : build keys vals o = .ok t) (hb' : build keys vals o' = .ok t')
    (hsmall : InputSmall keys vals) (σ σ' : Instance) (e e' : Option Nat) (q : Bytes) (id : Nat)
    (h : getID (Slim.view (loadedFrom σ t e).inner) q = .ok (some id)) :
    getID (Slim.view (loadedFrom σ' t' e').inner) q = .ok (some id) :=
  C13_monotone_loaded keys vals o o' t t' hd hin hlf hb hb'
    (small_of_input keys vals o t hb hsmall) (small_of_input keys vals o' t' hb' hsmall)
    σ σ' e e' q id h

theorem C13_monotone_get_loaded_input (keys : List Bytes) (vals : Option (List Bytes)) (o o' : Opt)
    (t t' : Trie1) (hd : o.dedup = o'.dedup) (hin : o'.inner = true → o.inner = true)
    (hlf : o'.leaf = true → o.leaf = true)
    (hb : build keys vals o = .ok t) (hb' : build keys vals o' = .ok t')
    (hsmall : InputSmall keys vals) (σ σ' : Instance) (e e' : Option Nat) (q : Bytes)
    (x : Option Bytes)
    (h : get (Slim.view (loadedFrom σ t e).inner) q = .ok (some x)) :
    get (Slim.view (loadedFrom σ' t' e').inner) q = .ok (some x) :=
  C13_monotone_get_loaded keys vals o o' t t' hd hin hlf hb hb'
    (small_of_input keys vals o t hb hsmall) (small_of_input keys vals o' t' hb' hsmall)
    σ σ' e e' q x h

theorem C14_getInt_loaded_input (keys : List Bytes) (vs : List Bytes) (opt : Opt) (t : Trie1)
    (hb : build keys (some vs) opt = .ok t) (hin : InputSmall keys (some vs)) (σ : Instance)
    (encSize : Option Nat)
    (hne : keys ≠ []) (w : Nat) (hw : 0 < w) (hwidth : ∀ v ∈ vs, v.length = w) (key : Bytes) :
    Slim.getInt (loadedFrom σ t encSize).inner w key
      = (get (Slim.view (loadedFrom σ t encSize).inner) key).map
          (fun r => r.map (fun b => Slim.leSigned (b.getD []))) :=
  C14_getInt_loaded keys vs opt t hb (small_of_input keys (some vs) opt t hb hin) σ encSize
    hne w hw hwidth key

/-! ### non-vacuity

  The input of `C05.ex_hyps` (3 keys, Complete mode, values) is `InputSmall` by evaluation and
  `build` succeeds on it; loaded into an instance with arbitrary prior contents and any encoder
  width it finds the key `ab` with its value, answers every query without panic, scans its three
  entries in order, reports 3 keys, and `GetI8` agrees with `Get`. -/

example : InputSmall C05.exKeys (some C05.exVals) := by decide

example (σ : Instance) (e : Option Nat) :
    ∃ t, build C05.exKeys (some C05.exVals) C05.exOpt = .ok t ∧
      (∃ r, get (Slim.view (loadedFrom σ t e).inner) [0x61, 0x62] = .ok (some r) ∧
        r.getD [] = [2]) ∧
      (∀ q, ∃ a, search (Slim.view (loadedFrom σ t e).inner) q = .ok a) ∧
      Scan.scanFrom (Slim.view (loadedFrom σ t e).inner) [] true true (fun _ => true) none =
        .ok [([0x61], some [1]), ([0x61, 0x62], some [2]), ([0x62, 0xff], some [3])] ∧
      (∃ lv, Slim.stat (loadedFrom σ t e).inner (loadedFrom σ t e).levels
        = .ok { levels := lv, keyCnt := 3, nodeCnt := t.nodes.size }) ∧
      (∀ key, Slim.getInt (loadedFrom σ t e).inner 1 key
        = (get (Slim.view (loadedFrom σ t e).inner) key).map
            (fun r => r.map (fun b => Slim.leSigned (b.getD [])))) := by
  obtain ⟨t, _, hb, _, _, _⟩ := C05.ex_hyps
  have hin : InputSmall C05.exKeys (some C05.exVals) := by decide
  have hne : C05.exKeys ≠ [] := by simp [C05.exKeys]
  refine ⟨t, hb, ?_, ?_, ?_, ?_, ?_⟩
  · obtain ⟨r, hr, _, hv⟩ := C01_get_retained_bytes_loaded_input _ _ _ t hb hin σ e 1 (by decide)
      (by decide)
    exact ⟨r, hr, hv _ rfl⟩
  · exact fun q => (C10_total_loaded_input _ _ _ t hb hin σ e q).2.2.2.2
  · rw [C04_scanFrom_loaded_input _ _ _ t hb hin σ e (by decide)]
    exact congrArg Except.ok (by decide +kernel)
  · obtain ⟨lv, _, hstat, _⟩ := C18_stat_loaded_input _ _ _ t hb hin σ e hne
    refine ⟨lv, ?_⟩
    rw [hstat]
    have : (retained C05.exKeys (some C05.exVals) C05.exOpt.dedup).length = 3 := by decide
    rw [this]
  · exact fun key => C14_getInt_loaded_input _ _ _ t hb hin σ e hne 1 (by omega) (by decide) key

#print axioms loaded_eq_input
#print axioms loaded_inner_input
#print axioms loaded_view_input
#print axioms loaded_indep_input
#print axioms C05_answers_identical_built_input
#print axioms C01_get_retained_loaded_input
#print axioms C01_get_retained_bytes_loaded_input
#print axioms C02_rangeget_indexed_loaded_input
#print axioms C03_search_loaded_input
#print axioms C03_getID_loaded_input
#print axioms C03_get_loaded_input
#print axioms C03_rangeget_loaded_input
#print axioms C04_getGEPath_loaded_input
#print axioms C04_iter_loaded_input
#print axioms C04_scanFrom_loaded_input
#print axioms C04_scanFromTo_loaded_input
#print axioms C09_search_retained_loaded_input
#print axioms C09_search_retained_R_loaded_input
#print axioms C10_total_loaded_input
#print axioms C10_searchID_eq_getID_loaded_input
#print axioms C10_search_eq_get_loaded_input
#print axioms C10_hit_supplied_loaded_input
#print axioms C13_monotone_loaded_input
#print axioms C13_monotone_get_loaded_input
#print axioms C14_getInt_loaded_input
#print axioms C18_stat_loaded_input
#print axioms C19_render_loaded_input
