import SlimModel.ArrayPkg
import SlimProofs.ArrayPkg
import SlimProofs.ArrayPkgGet
import SlimProofs.ArrayPkgInit
/-
  Property C16 — compacted arrays behave as a sparse map and survive serialization.

  Model: `SlimModel/ArrayPkg.lean` (array.Base, typed arrays, generic Array, GetBytes, field-level
  protobuf round trip).  Specification: `ArrayPkg.lookup idx elts i`, the element paired with
  position `i` in the parallel lists (`C16_lookup_spec` characterises it).

  Hypotheses of the positive theorems (`Valid`): the positions are strictly ascending, as many as
  the elements, fit `bitmap.Of`'s int32 word count (`x + 65 ≤ 2^31`; the property's domain is
  `[0, 2^20)`), and the packed elements fit int32 offsets (`|idx|·w < 2^31`, the Go code computes
  `stIdx` in int32).  No other bound: all sizes, by induction.
-/
namespace C16
open Encode ArrayPkg

/-- `lookup` is the sparse map: the `p`-th element at the `p`-th position, nothing elsewhere. -/
theorem C16_lookup_spec {α : Type} (idx : List Nat) (elts : List α) (hasc : StrictAsc idx)
    (hlen : idx.length = elts.length) :
    (∀ p (h : p < idx.length), lookup idx elts idx[p] = some (elts[p]'(hlen ▸ h))) ∧
    (∀ i, i ∉ idx → lookup idx elts i = none) := by
  refine ⟨?_, fun i hi => lookup_none_of_not_mem idx elts i hi⟩
  induction idx generalizing elts with
  | nil => intro p h; exact absurd h (Nat.not_lt_zero p)
  | cons i is ih =>
    cases elts with
    | nil => exact absurd hlen (Nat.succ_ne_zero _)
    | cons e es =>
      obtain ⟨hhead, htail⟩ := List.pairwise_cons.mp hasc
      intro p h
      cases p with
      | zero => exact if_pos rfl
      | succ p =>
        have hp : p < is.length := Nat.lt_of_succ_lt_succ h
        have hne := Nat.ne_of_lt (hhead _ (List.getElem_mem hp))
        exact (if_neg hne).trans (ih es htail (Nat.succ.inj hlen) p hp)

/-!
  The constructors establish `Holds` on the message fields, and every accessor is a function of
  those fields (`Get` also of the element encoder).  So the theorems below first obtain `Holds` for
  the built array and then read through it, from the array itself (C16_get) or from whatever was
  unmarshalled from its fields (C16_roundtrip): `(b.unmarshal a.marshal).toArray32` is
  `a.toArray32` by definition.
-/

private theorem inDom_nat {w e : Nat} (h : InU w e) : InDom (.prim false w) (.int (e : Int)) :=
  .unsigned (Int.natCast_nonneg e) (by exact_mod_cast h)

private theorem map_int_cast (elts : List Nat) :
    (elts.map (fun e : Nat => (e : Int))).map Val.int = elts.map (fun e : Nat => Val.int (e : Int)) :=
  List.map_map

/-- `NewU16`, `NewU32`, `NewU64` on valid input: the fields hold the encodings of the elements. -/
private theorem newTyped_nat_ok {w : Nat} {idx : List Nat} {elts : List Nat}
    (hv : Valid idx elts.length w) (hdom : ∀ e ∈ elts, InU w e) :
    ∃ a, newTyped (.prim false w) (idx.map Int.ofNat) (elts.map (fun e : Nat => (e : Int)))
          = .ok (some a, none) ∧
      Holds a.toArray32 idx
        ((elts.map (fun e : Nat => Val.int (e : Int))).map (encOf (TE .le (.prim false w)))) w := by
  obtain ⟨a, h1, h2, _⟩ := newTyped_ok false (elts := elts.map (fun e : Nat => (e : Int)))
    ((List.length_map _).symm ▸ hv) (List.forall_mem_map.mpr fun e he => inDom_nat (hdom e he))
  exact ⟨a, h1, map_int_cast elts ▸ h2⟩

/-! ## C16_get — typed, generic and raw accessors return exactly the sparse map -/

/-- Typed unsigned arrays (`w` = 2, 4, 8: `array.U16`, `U32`, `U64`): every element value of the
    full range, every probe within the bitmap span; `Get` and `GetBytes`. -/
theorem C16_get_typed_unsigned (w : Nat) (idx : List Nat) (elts : List Nat)
    (hv : Valid idx elts.length w) (hdom : ∀ e ∈ elts, InU w e) :
    ∃ a, newTyped (.prim false w) (idx.map Int.ofNat) (elts.map (fun e : Nat => (e : Int)))
          = .ok (some a, none) ∧
      ∀ i : Nat, i < 64 * a.bitmaps.length →
        a.getU w (i : Int) = .ok (resU (lookup idx elts i)) ∧
        a.getBytes (i : Int) w = .ok ((lookup idx elts i).map (leBytes w)) := by
  obtain ⟨a, h1, H⟩ := newTyped_nat_ok hv hdom
  refine ⟨a, h1, fun i hi => ⟨H.getU hdom i hi, ?_⟩⟩
  rw [H.getBytes i hi, lookup_map, lookup_map, Option.map_map]
  refine congrArg Except.ok (Option.map_congr fun e he => ?_)
  exact (encOf_prim false w e).trans
    (congrArg (leBytes w) (toU_natCast (hdom e (lookup_mem idx elts i e he))))

/-- Typed signed arrays (`w` = 2, 4, 8: `array.I16`, `I32`, `I64`). -/
theorem C16_get_typed_signed (w : Nat) (hw : 1 ≤ w) (idx : List Nat) (elts : List Int)
    (hv : Valid idx elts.length w) (hdom : ∀ e ∈ elts, InS w e) :
    ∃ a, newTyped (.prim true w) (idx.map Int.ofNat) elts = .ok (some a, none) ∧
      ∀ i : Nat, i < 64 * a.bitmaps.length →
        a.getS w (i : Int) = .ok (resS (lookup idx elts i)) ∧
        a.getBytes (i : Int) w =
          .ok ((lookup idx elts i).map (fun e => leBytes w (e % (2 : Int) ^ (8 * w)).toNat)) := by
  obtain ⟨a, h1, H, _⟩ := newTyped_ok true hv fun e he => .signed hw (hdom e he)
  refine ⟨a, h1, fun i hi => ⟨H.getS hw hdom i hi, ?_⟩⟩
  rw [H.getBytes i hi, lookup_map, lookup_map, Option.map_map]
  exact congrArg (fun f => Except.ok ((lookup idx elts i).map f)) (funext (encOf_prim true w))

/-- Generic `array.Array` over any fixed-size element type `t` (integers, arrays, structs) built by
    `array.New`: `Get` decodes exactly the paired element, `GetBytes` returns its encoding. -/
theorem C16_get_generic (t : Ty) (idx : List Nat) (vals : List Val)
    (hv : Valid idx vals.length t.size) (hdom : ∀ v ∈ vals, InDom t v) :
    ∃ a, ArrayPkg.new (some t) (idx.map Int.ofNat) vals = .ok (some a, none) ∧
      ∀ i : Nat, i < 64 * a.bitmaps.length →
        a.get (i : Int) = .ok (lookup idx vals i) ∧
        a.getBytes (i : Int) t.size = .ok ((lookup idx vals i).map (encOf (TE .le t))) := by
  obtain ⟨a, h1, H, he⟩ := new_ok t hv hdom
  refine ⟨a, h1, fun i hi => ?_⟩
  -- a probe inside the span means there is a bitmap word, so there is an element
  have hne : idx ≠ [] := by
    intro h
    have hb : a.bitmaps.length = nWordsOf [] := h ▸ H.bm.1
    rw [hb] at hi
    exact Nat.not_lt_zero i hi
  exact ⟨H.get (he hne) (te_fixedRT .le t) hdom i hi, by rw [H.getBytes i hi, lookup_map]⟩

/-- Generic array with any preset round-tripping fixed-width `EltEncoder` (e.g. `encode.U32{}`,
    `encode.Bytes{n}`, a big-endian TypeEncoder). -/
theorem C16_get_generic_preset (enc : Enc) (D : Val → Prop) (w : Nat) (f : Val → Bytes)
    (hF : FixedRT enc.codec D w f) (ety : Option Ty) (idx : List Nat) (vals : List Val)
    (hv : Valid idx vals.length w) (hdom : ∀ v ∈ vals, D v) :
    ∃ a, Array.init { eltEncoder := some enc } ety (idx.map Int.ofNat) vals = .ok (a, none) ∧
      ∀ i : Nat, i < 64 * a.bitmaps.length →
        a.get (i : Int) = .ok (lookup idx vals i) ∧
        a.getBytes (i : Int) w = .ok ((lookup idx vals i).map f) := by
  have h1 := Base.init_eq { eltEncoder := some enc } ety rfl hF hv hdom
  have H := built_holds { eltEncoder := some enc } hF hv hdom fun _ => rfl
  refine ⟨_, Array.init_eq h1 rfl, fun i hi => ⟨?_, ?_⟩⟩
  · exact Holds.get H rfl hF hdom i hi
  · exact (Holds.getBytes H i hi).trans (congrArg Except.ok (lookup_map f idx vals i))

/-! ## C16_roundtrip — marshal/unmarshal at the level of the message fields preserves `Get` -/

/-- The round trip copies every field of the message and keeps the target's element encoder. -/
theorem C16_roundtrip_fields (a b : Base) :
    (b.unmarshal a.marshal).toArray32 = a.toArray32 ∧
    (b.unmarshal a.marshal).eltEncoder = b.eltEncoder := ⟨rfl, rfl⟩

/-- typed → typed and typed → generic, unsigned element kinds. -/
theorem C16_roundtrip_typed_unsigned (w : Nat) (idx : List Nat) (elts : List Nat)
    (hv : Valid idx elts.length w) (hdom : ∀ e ∈ elts, InU w e) :
    ∃ a, newTyped (.prim false w) (idx.map Int.ofNat) (elts.map (fun e : Nat => (e : Int)))
          = .ok (some a, none) ∧
      ∀ i : Nat, i < 64 * a.bitmaps.length →
        -- into a fresh typed array
        (({} : Base).unmarshal a.marshal).getU w (i : Int) = .ok (resU (lookup idx elts i)) ∧
        -- into `NewEmpty(uintW(0))`
        ((newEmpty (.prim false w)).unmarshal a.marshal).get (i : Int) =
          .ok ((lookup idx elts i).map (fun e : Nat => Val.int (e : Int))) := by
  obtain ⟨a, h1, H⟩ := newTyped_nat_ok hv hdom
  refine ⟨a, h1, fun i hi => ⟨Holds.getU (a := ({} : Base).unmarshal a.marshal) H hdom i hi, ?_⟩⟩
  rw [← lookup_map]
  exact Holds.get (a := (newEmpty (.prim false w)).unmarshal a.marshal) H rfl
    (te_fixedRT .le (.prim false w)) (List.forall_mem_map.mpr fun e he => inDom_nat (hdom e he)) i hi

/-- typed → typed and typed → generic, signed element kinds. -/
theorem C16_roundtrip_typed_signed (w : Nat) (hw : 1 ≤ w) (idx : List Nat) (elts : List Int)
    (hv : Valid idx elts.length w) (hdom : ∀ e ∈ elts, InS w e) :
    ∃ a, newTyped (.prim true w) (idx.map Int.ofNat) elts = .ok (some a, none) ∧
      ∀ i : Nat, i < 64 * a.bitmaps.length →
        (({} : Base).unmarshal a.marshal).getS w (i : Int) = .ok (resS (lookup idx elts i)) ∧
        ((newEmpty (.prim true w)).unmarshal a.marshal).get (i : Int) =
          .ok ((lookup idx elts i).map Val.int) := by
  obtain ⟨a, h1, H, _⟩ := newTyped_ok true hv fun e he => .signed hw (hdom e he)
  refine ⟨a, h1, fun i hi => ⟨Holds.getS (a := ({} : Base).unmarshal a.marshal) hw H hdom i hi, ?_⟩⟩
  rw [← lookup_map]
  exact Holds.get (a := (newEmpty (.prim true w)).unmarshal a.marshal) H rfl
    (te_fixedRT .le (.prim true w)) (List.forall_mem_map.mpr fun e he => .signed hw (hdom e he)) i hi

/-- generic → generic (`NewEmpty` of the same element type), any element type of the universe. -/
theorem C16_roundtrip_generic (t : Ty) (idx : List Nat) (vals : List Val)
    (hv : Valid idx vals.length t.size) (hdom : ∀ v ∈ vals, InDom t v) :
    ∃ a, ArrayPkg.new (some t) (idx.map Int.ofNat) vals = .ok (some a, none) ∧
      ∀ i : Nat, i < 64 * a.bitmaps.length →
        ((newEmpty t).unmarshal a.marshal).get (i : Int) = .ok (lookup idx vals i) ∧
        ((newEmpty t).unmarshal a.marshal).getBytes (i : Int) t.size =
          .ok ((lookup idx vals i).map (encOf (TE .le t))) := by
  obtain ⟨a, h1, H, _⟩ := new_ok t hv hdom
  refine ⟨a, h1, fun i hi => ?_⟩
  have H' : Holds ((newEmpty t).unmarshal a.marshal).toArray32 idx (vals.map (encOf (TE .le t)))
      t.size := H
  exact ⟨H'.get rfl (te_fixedRT .le t) hdom i hi, by rw [H'.getBytes i hi, lookup_map]⟩

/-- generic → typed, for the integer element kinds the typed arrays exist for. -/
theorem C16_roundtrip_generic_to_typed_unsigned (w : Nat) (idx : List Nat) (elts : List Nat)
    (hv : Valid idx elts.length w) (hdom : ∀ e ∈ elts, InU w e) :
    ∃ a, ArrayPkg.new (some (.prim false w)) (idx.map Int.ofNat)
          (elts.map (fun e : Nat => Val.int (e : Int))) = .ok (some a, none) ∧
      ∀ i : Nat, i < 64 * a.bitmaps.length →
        (({} : Base).unmarshal a.marshal).getU w (i : Int) = .ok (resU (lookup idx elts i)) := by
  obtain ⟨a, h1, H, _⟩ := new_ok (.prim false w) (vals := elts.map (fun e : Nat => Val.int (e : Int)))
    ((List.length_map _).symm ▸ hv) (List.forall_mem_map.mpr fun e he => inDom_nat (hdom e he))
  exact ⟨a, h1, fun i hi => Holds.getU (a := ({} : Base).unmarshal a.marshal) H hdom i hi⟩

theorem C16_roundtrip_generic_to_typed_signed (w : Nat) (hw : 1 ≤ w) (idx : List Nat)
    (elts : List Int) (hv : Valid idx elts.length w) (hdom : ∀ e ∈ elts, InS w e) :
    ∃ a, ArrayPkg.new (some (.prim true w)) (idx.map Int.ofNat) (elts.map Val.int)
          = .ok (some a, none) ∧
      ∀ i : Nat, i < 64 * a.bitmaps.length →
        (({} : Base).unmarshal a.marshal).getS w (i : Int) = .ok (resS (lookup idx elts i)) := by
  obtain ⟨a, h1, H, _⟩ := new_ok (.prim true w) (vals := elts.map Val.int)
    ((List.length_map _).symm ▸ hv) (List.forall_mem_map.mpr fun e he => .signed hw (hdom e he))
  exact ⟨a, h1, fun i hi => Holds.getS (a := ({} : Base).unmarshal a.marshal) hw H hdom i hi⟩

/-! ## C16_reject — invalid input is refused with the dedicated error and builds nothing -/

/-- `New` and `NewU16 … NewI64` turn an error reported by `Init` into `(nil, err)`. -/
private theorem new_of_init_err {ety : Option Ty} {index : List Int} {vals : List Val} {a : Base}
    {e : ArrErr} (h : Array.init {} ety index vals = .ok (a, some e)) :
    ArrayPkg.new ety index vals = .ok (none, some e) := by
  unfold ArrayPkg.new; rw [h]; rfl

private theorem newTyped_of_init_err {t : Ty} {index elts : List Int} {a : Base} {e : ArrErr}
    (h : Base.init {} (some t) index (elts.map Val.int) = .ok (a, some e)) :
    newTyped t index elts = .ok (none, some e) := by
  unfold newTyped; rw [h]; rfl

/-- Length mismatch (by any amount; checked first, so also for non-ascending lists):
    `ErrIndexLen`; `Init` returns the receiver untouched, the constructors return nil. -/
theorem C16_reject_index_len (a0 : Base) (ety : Option Ty) (t : Ty) (index : List Int)
    (vals : List Val) (elts : List Int) :
    (index.length ≠ vals.length →
      a0.init ety index vals = .ok (a0, some .indexLen) ∧
      Array.init a0 ety index vals = .ok (a0, some .indexLen) ∧
      ArrayPkg.new ety index vals = .ok (none, some .indexLen)) ∧
    (index.length ≠ elts.length →
      newTyped t index elts = .ok (none, some .indexLen)) :=
  ⟨fun h => ⟨Base.init_len_mismatch a0 ety index vals h,
      Array.init_of_err (Base.init_len_mismatch a0 ety index vals h),
      new_of_init_err (Array.init_of_err (Base.init_len_mismatch {} ety index vals h))⟩,
   fun h => newTyped_of_init_err
      (Base.init_len_mismatch {} (some t) index _ (by rwa [List.length_map]))⟩

/-- Equal or descending neighbours at any position (with matching lengths):
    `ErrIndexNotAscending`; `Init` returns the receiver untouched, the constructors return nil. -/
theorem C16_reject_not_ascending (a0 : Base) (ety : Option Ty) (t : Ty) (index : List Int)
    (vals : List Val) (elts : List Int) (h : ¬ index.Pairwise (· < ·)) :
    (index.length = vals.length →
      a0.init ety index vals = .ok (a0, some .indexNotAscending) ∧
      Array.init a0 ety index vals = .ok (a0, some .indexNotAscending) ∧
      ArrayPkg.new ety index vals = .ok (none, some .indexNotAscending)) ∧
    (index.length = elts.length →
      newTyped t index elts = .ok (none, some .indexNotAscending)) :=
  ⟨fun hl => ⟨Base.init_not_asc a0 ety index vals hl h,
      Array.init_of_err (Base.init_not_asc a0 ety index vals hl h),
      new_of_init_err (Array.init_of_err (Base.init_not_asc {} ety index vals hl h))⟩,
   fun hl => newTyped_of_init_err
      (Base.init_not_asc {} (some t) index _ (by rwa [List.length_map]) h)⟩

/-- "Not ascending" is exactly: some neighbours are equal or descending. -/
theorem C16_not_ascending_iff (index : List Int) :
    ¬ index.Pairwise (· < ·) ↔ ascCheck index = false := by
  rw [← ascCheck_iff]; cases ascCheck index <;> simp

/-- The example of the package's tests: positions 1, 5, 9, 203 (two empty words in between). -/
example : Valid [1, 5, 9, 203] 4 2 :=
  ⟨by decide, rfl, by decide, by decide⟩

/-- What `NewU16([1,5,9,203], [12,15,19,120])` builds (array/marshal_test.go; the harness replays it):
    the offset of the last word is 3, those of the two empty words are 0. -/
def sample : Base :=
  { cnt := 4, bitmaps := [546, 0, 0, 2048], offsets := [0, 0, 0, 3],
    elts := [12, 0, 15, 0, 19, 0, 120, 0] }

example : (bitmapOf [1, 5, 9, 203]).toOption = some sample.bitmaps := by decide +kernel
example : zeroEmpty sample.bitmaps (indexRank64 sample.bitmaps) = sample.offsets := by decide +kernel
example : (sample.getU 2 203).toOption = some (120, true) := by decide +kernel
example : (sample.getU 2 64).toOption = some (0, false) := by decide +kernel
example : (sample.getBytes 9 2).toOption = some (some [19, 0]) := by decide +kernel
example : (sample.getU 2 256).toOption = none := by decide +kernel   -- beyond the span: Go panics

example : (∀ e ∈ [12, 15, 19, 120], InU 2 e) := by decide
example : lookup [1, 5, 9, 203] [12, 15, 19, 120] 203 = some 120 := by decide
example : lookup [1, 5, 9, 203] [12, 15, 19, 120] 64 = none := by decide
example : ¬ ([1, 5, 5, 203] : List Int).Pairwise (· < ·) := by decide
example : (newTyped .u16 [1, 5, 5, 203] [12, 15, 19, 120]).toOption.map (·.2) =
    some (some .indexNotAscending) := by decide
example : (newTyped .u16 [1, 5, 9, 203] [12, 15, 19]).toOption.map (·.2) = some (some .indexLen) := by
  decide

end C16

#print axioms C16.C16_lookup_spec
#print axioms C16.C16_get_typed_unsigned
#print axioms C16.C16_get_typed_signed
#print axioms C16.C16_get_generic
#print axioms C16.C16_get_generic_preset
#print axioms C16.C16_roundtrip_fields
#print axioms C16.C16_roundtrip_typed_unsigned
#print axioms C16.C16_roundtrip_typed_signed
#print axioms C16.C16_roundtrip_generic
#print axioms C16.C16_roundtrip_generic_to_typed_unsigned
#print axioms C16.C16_roundtrip_generic_to_typed_signed
#print axioms C16.C16_reject_index_len
#print axioms C16.C16_reject_not_ascending
#print axioms C16.C16_not_ascending_iff
