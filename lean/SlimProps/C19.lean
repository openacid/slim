import SlimProofs.Render
import SlimProofs.CutSpec
import SlimProps.C08Accept
/-
  SlimProps.C19 — "String() renders every trie faithfully and never panics", at record level
  (L1: `Slim.toStringSlim` / `Slim.render` of SlimModel/Stat.lean on `t.view` of a built trie).

  Claimed: `String()` returns normally for every trie `build` returns (`C19_total`); the rendering has
  exactly one line per node (`C19_each_node_once`); the leaf lines, top to bottom, are the leaves of the
  retained keys in ascending key order, each showing the value of its key (`C19_leaf_order`,
  `C19_leaf_lines`; "value of key `m`" is `recVal`, SlimProofs/CutSpec.lean).

  The "loaded trie renders identically" half of C19 is at the bit level: `C19_render_eq_L2` (L2b.lean),
  `C19_render_loaded` (Loaded.lean).
-/

open Slim Render Subtree

namespace C19

/-- the leaf lines of a rendering: the lines whose node is a leaf -/
def leafLinesOf (t : Trie1) (lines : List String) (ids : List Nat) : List String :=
  (lines.zip ids).filterMap (fun p => if (leafKey t p.2).isSome then some p.1 else none)

theorem forall2_filterMap {R Q : String → Nat → Prop} {key : Nat → Option Nat}
    {lines : List String} {ids : List Nat} (h : Forall2 R lines ids)
    (hq : ∀ line id m, R line id → key id = some m → Q line m) :
    Forall2 Q ((lines.zip ids).filterMap (fun p => if (key p.2).isSome then some p.1 else none))
      (ids.filterMap key) := by
  induction h with
  | nil => exact Forall2.nil
  | @cons a b l m hx _ ih =>
    simp only [List.zip_cons_cons, List.filterMap_cons]
    cases hk : key b with
    | none => simpa using ih
    | some k =>
      simp only [Option.isSome_some, if_true]
      exact Forall2.cons (hq a b k hx hk) ih

end C19

open C19

/-- **C19 (each node exactly once).**  The rendering consists of one line per node: line `k` is
    the line of node `ids[k]`, where `ids = renderIds …` is a permutation of all node ids. -/
theorem C19_each_node_once (keys : List Bytes) (vals : Option (List Bytes)) (opt : Opt) (t : Trie1)
    (hb : build keys vals opt = .ok t) (hne : keys ≠ []) (fmtVal : Option Bytes → String) :
    ∃ lines, toStringSlim t.view fmtVal = .ok ("\n".intercalate lines) ∧
      Forall2 (LineOf t.view fmtVal) lines (renderIds t.view (t.nodes.size + 1) 0) ∧
      lines.length = t.nodes.size ∧
      (renderIds t.view (t.nodes.size + 1) 0).Perm (List.range t.nodes.size) := by
  obtain ⟨_, _, _, _, htree⟩ := build_tree keys vals opt t hb hne
  obtain ⟨lines, h1, h3⟩ := toStringSlim_ok htree fmtVal
  have hperm := renderIds_perm htree
  refine ⟨lines, h1, h3, ?_, hperm⟩
  rw [h3.length_eq, hperm.length_eq, List.length_range]

/-- **C19 (total).**  `String()` returns a rendering for every built trie — no panic, no fuel
    exhaustion. -/
theorem C19_total (keys : List Bytes) (vals : Option (List Bytes)) (opt : Opt) (t : Trie1)
    (hb : build keys vals opt = .ok t) (fmtVal : Option Bytes → String) :
    ∃ s, toStringSlim t.view fmtVal = .ok s := by
  rcases BuildShape.build_nil_or hb with ⟨rfl, rfl⟩ | hne
  · exact ⟨"", rfl⟩
  · obtain ⟨lines, h1, _⟩ := C19_each_node_once keys vals opt t hb hne fmtVal
    exact ⟨_, h1⟩

/-- **C19 (leaf order).**  In line order, the leaves are the leaves of the retained keys in
    ascending key order; the line of the leaf of key `m` is `#id=` followed by the value of
    key `m`. -/
theorem C19_leaf_order (keys : List Bytes) (vals : Option (List Bytes)) (opt : Opt) (t : Trie1)
    (hb : build keys vals opt = .ok t) (hne : keys ≠ []) (fmtVal : Option Bytes → String) :
    (renderIds t.view (t.nodes.size + 1) 0).filterMap (leafKey t) =
      (List.range keys.length).filter (keptAt (keepMask keys.length vals opt.dedup)) ∧
    ∀ id m, leafKey t id = some m →
      nodeText t.view fmtVal id =
        "#" ++ pad3 id ++ "=" ++ fmtVal (recVal (keepMask keys.length vals opt.dedup) vals m) := by
  obtain ⟨queue, hq, hroot, _⟩ := build_tree keys vals opt t hb hne
  constructor
  · rw [leaf_order hq t.nodes.size 0 _ (t.nodes.size + 1) (Nat.le_refl _) (Nat.lt_succ_self _) hroot,
      LeafCount.keptIn, Nat.sub_zero, List.range_eq_range']
  · intro id m hlk
    unfold leafKey at hlk
    cases hn : t.nodes[id]? with
    | none => rw [hn] at hlk; cases hlk
    | some nd =>
      rw [hn] at hlk
      cases nd with
      | inner r => cases hlk
      | leaf ith lp =>
        simp only at hlk
        have hleaf : SearchDescent.IsLeafOf t id m := ⟨ith, lp, hn, hlk⟩
        have hget := C09.getLeaf_of_build keys vals opt t hb hne id m hleaf
        have hview : t.view.node id = .ok (.leaf ith lp) := by simp only [Trie1.view, hn]
        simp only [getLeaf, hview, bind, Except.bind] at hget
        simp only [nodeText, hview, hget]

/-- **C19 (leaf lines).**  The leaf lines of `String()`, read top to bottom, carry the retained
    values in key order. -/
theorem C19_leaf_lines (keys : List Bytes) (vals : Option (List Bytes)) (opt : Opt) (t : Trie1)
    (hb : build keys vals opt = .ok t) (hne : keys ≠ []) (fmtVal : Option Bytes → String) :
    ∃ lines, toStringSlim t.view fmtVal = .ok ("\n".intercalate lines) ∧
      Forall2
        (fun line m => ∃ (pre : String) (id : Nat), line = pre ++ ("#" ++ pad3 id ++ "=" ++
          fmtVal (recVal (keepMask keys.length vals opt.dedup) vals m)))
        (leafLinesOf t lines (renderIds t.view (t.nodes.size + 1) 0))
        ((List.range keys.length).filter (keptAt (keepMask keys.length vals opt.dedup))) := by
  obtain ⟨lines, h1, h2, _, _⟩ := C19_each_node_once keys vals opt t hb hne fmtVal
  obtain ⟨h3, h4⟩ := C19_leaf_order keys vals opt t hb hne fmtVal
  refine ⟨lines, h1, ?_⟩
  rw [← h3]
  apply forall2_filterMap h2
  intro line id m hline hk
  obtain ⟨pre, rfl⟩ := hline
  exact ⟨pre, id, by rw [h4 id m hk]⟩

/-! ### non-vacuity: a concrete input satisfies the hypotheses (accepted by `C08_accept`) -/

example : ∃ t, build [[0x61], [0x61, 0x62], [0x62, 0xe3]] (some [[1], [1], [2]]) {} = .ok t ∧
    ([[0x61], [0x61, 0x62], [0x62, 0xe3]] : List Bytes) ≠ [] :=
  (C08_accept _ _ _ (by decide) (by decide) (by intro vs h; cases h; rfl) (Or.inr (by decide))).imp
    fun _ ht => ⟨ht, by decide⟩

#print axioms C19_total
#print axioms C19_each_node_once
#print axioms C19_leaf_order
#print axioms C19_leaf_lines
