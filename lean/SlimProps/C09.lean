import SlimProofs.Exact
import SlimProps.C01
/-
  SlimProps.C09 — what the lookups return on an indexed key in every mode, and on any query where
  both kinds of prefixes are stored; `Search` on a retained key returns its exact neighbours.

  `C09.lookup`: for every successful `build` and every query `q` that is one of the keys (retained
  or de-duplicated away), or arbitrary if `opt.complete`, `searchID` and `GetID` return and the
  leaves they name hold what the sorted association list `R = retained keys vals opt.dedup` of
  SlimModel.Spec answers: `Spec.lt R q`, `Spec.get R q`, `Spec.gt R q`, `Spec.le R q` (as
  `shownVal`: the entry's value, nil when no values were supplied or every retained value is
  empty, since `newVLenArray` returns nil then).  `C09.search_spec` is its form for `Search`.
  C03 reads it for an arbitrary query, C02 and the two theorems below on a key.

  `C09_search_retained`: for every option combination, with or without values or
  de-duplication, and every retained key `k = keys[m]`, `Search(k)` returns the value of record `m`
  and the values of the nearest retained records below (`prevKept`) and above (`nextKept`), nil
  where there is none.  `C09_search_retained_R`: the same over the list,
  `Search(R[i].key) = (val R[i-1] | nil, val R[i], val R[i+1] | nil)`.

  Proof.  `searchID_exact` (SlimProofs.Exact) gives the `Cut` `[a, b)` of the query among the kept
  keys and the leaves of the last kept index before `a`, of `a`, of the first kept index from `b`
  on; the rest is SlimProofs.CutSpec: `C09.getLeaf_of_build` reads their values, `Cut.spec_lt/get/gt/le`
  say, without the trie, that the `Spec` functions answer with the entries at the same indexes, and
  a key's own cut is known (`Cut.of_kept`), which turns the answer into `prevKept`/`nextKept`;
  `C09.prevKept_keptIn` / `nextKept_keptIn` carry it over to positions in `R`.
-/

open Subtree SearchDescent
open LeafCount (keptIn mem_keptIn)

/-- **The lookups against `Spec`.**  For a query that is one of the keys (retained or not) in any
    mode, or arbitrary where both kinds of prefixes are stored: the ids of `searchID` / `GetID` and
    the values of their leaves are what the sorted list answers. -/
theorem C09.lookup (keys : List Bytes) (vals : Option (List Bytes)) (opt : Opt) (t : Trie1)
    (hb : build keys vals opt = .ok t) (q : Bytes)
    (hq : opt.complete = true ∨ ∃ d, d < keys.length ∧ keys.getD d [] = q) :
    ∃ l e r, searchID t.view q = .ok (l, e, r) ∧ getID t.view q = .ok e ∧
      (e.isSome = (Spec.get (retained keys vals opt.dedup) q).isSome) ∧
      Agree.leafOf t.view l
        = .ok (shownVal (retained keys vals opt.dedup) (Spec.lt (retained keys vals opt.dedup) q)) ∧
      Agree.leafOf t.view e
        = .ok (shownVal (retained keys vals opt.dedup) (Spec.get (retained keys vals opt.dedup) q)) ∧
      Agree.leafOf t.view r
        = .ok (shownVal (retained keys vals opt.dedup) (Spec.gt (retained keys vals opt.dedup) q)) ∧
      Agree.leafOf t.view (e.or l)
        = .ok (shownVal (retained keys vals opt.dedup) (Spec.le (retained keys vals opt.dedup) q)) := by
  rcases BuildShape.build_nil_or hb with ⟨rfl, rfl⟩ | hne
  · -- the empty trie: no ids, and nothing is retained
    rw [C09.retained_nil]
    exact ⟨none, none, none, rfl, rfl, rfl, rfl, rfl, rfl, rfl⟩
  obtain ⟨hwf, hopt⟩ := build_wf keys vals opt t hb hne
  obtain ⟨hasc, hv⟩ := build_pre keys vals opt t hb hne
  have hmode := hopt ▸ hq.imp_left C09.complete_opt
  have hget := C09.getLeaf_of_build keys vals opt t hb hne
  rw [C09.retained_eq keys vals opt.dedup hv]
  generalize keepMask keys.length vals opt.dedup = keep at hwf hget ⊢
  obtain ⟨a, b, l, e, r, hsid, hgid, c, hl, hr, he⟩ := searchID_exact keys keep t hasc hwf q hmode
  simp only [c.spec_lt, c.spec_gt, c.spec_le, c.spec_get vals,
    C09.shownVal_entryAt keys vals keep hv, C09.valOf_eq_map]
  have hleft := C09.leafOf_left (f := recVal keep vals) (fun id i _ => hget id i) hl
  have hright := C09.leafOf_rightAt (fun id i _ => hget id i) c.le hr
  cases e with
  | none =>
    -- the cut is empty: `≤ q` is `< q`
    have hba : b = a := he
    subst hba
    rw [if_pos rfl]
    exact ⟨l, none, r, hsid, hgid, rfl, hleft, rfl, hright, hleft⟩
  | some id =>
    obtain ⟨hba, hleaf⟩ := he
    subst hba
    have hk : keptAt keep a = true := by
      rcases c.mid with h | ⟨_, h, _⟩
      · exact absurd h (Nat.succ_ne_self a)
      · exact h
    have hmid := Agree.leafOf_some _ _ _ (hget id a hleaf)
    rw [if_neg (Nat.succ_ne_self a), prevKept, if_pos hk]
    exact ⟨l, some id, r, hsid, hgid, rfl, hleft, hmid, hright, hmid⟩

theorem C09.search_spec (keys : List Bytes) (vals : Option (List Bytes)) (opt : Opt) (t : Trie1)
    (hb : build keys vals opt = .ok t) (q : Bytes)
    (hq : opt.complete = true ∨ ∃ d, d < keys.length ∧ keys.getD d [] = q) :
    search t.view q =
      .ok (shownVal (retained keys vals opt.dedup) (Spec.lt (retained keys vals opt.dedup) q),
           shownVal (retained keys vals opt.dedup) (Spec.get (retained keys vals opt.dedup) q),
           shownVal (retained keys vals opt.dedup) (Spec.gt (retained keys vals opt.dedup) q)) := by
  obtain ⟨l, e, r, hsid, _, _, hl, he, hr, _⟩ := C09.lookup keys vals opt t hb q hq
  exact Agree.search_of_searchID _ _ l e r _ _ _ hsid hl he hr

/-- **C09.**  `Search` on a retained key returns the values of the key itself and of its nearest
    retained neighbours (nil beyond either end), for every option combination. -/
theorem C09_search_retained (keys : List Bytes) (vals : Option (List Bytes)) (opt : Opt)
    (t : Trie1) (hb : build keys vals opt = .ok t) (hne : keys ≠ [])
    (m : Nat) (hm : m < keys.length)
    (hk : keptAt (keepMask keys.length vals opt.dedup) m = true) :
    search t.view (keys.getD m []) =
      .ok (valOf (keepMask keys.length vals opt.dedup) vals
             (prevKept (keepMask keys.length vals opt.dedup) m),
           valOf (keepMask keys.length vals opt.dedup) vals (some m),
           valOf (keepMask keys.length vals opt.dedup) vals
             (nextKept (keepMask keys.length vals opt.dedup) m)) := by
  obtain ⟨hasc, hv⟩ := build_pre keys vals opt t hb hne
  have c := Cut.of_kept hasc hm hk
  rw [C09.search_spec keys vals opt t hb _ (Or.inr ⟨m, hm, rfl⟩),
    C09.retained_eq keys vals opt.dedup hv, c.spec_lt, c.spec_get vals, c.spec_gt,
    if_neg (Nat.succ_ne_self m), nextKept, LeafCount.keepMask_length opt.dedup hv]
  simp only [C09.shownVal_entryAt keys vals _ hv]

/-- **C09, over the retained list.**  For the `i`-th entry `e` of the retained list
    `R = retained keys vals opt.dedup`, `Search(e.key)` returns
    (value of `R[i-1]` or nil, value of `e`, value of `R[i+1]` or nil). -/
theorem C09_search_retained_R (keys : List Bytes) (vals : Option (List Bytes)) (opt : Opt)
    (t : Trie1) (hb : build keys vals opt = .ok t) (hne : keys ≠ [])
    (i : Nat) (e : Entry) (hi : (retained keys vals opt.dedup)[i]? = some e) :
    search t.view e.1 =
      .ok (shownVal (retained keys vals opt.dedup)
             (if i = 0 then none else (retained keys vals opt.dedup)[i - 1]?),
           shownVal (retained keys vals opt.dedup) (some e),
           shownVal (retained keys vals opt.dedup) (retained keys vals opt.dedup)[i + 1]?) := by
  have hv := (build_pre keys vals opt t hb hne).2
  have hklen : (keepMask keys.length vals opt.dedup).length ≤ keys.length :=
    Nat.le_of_eq (LeafCount.keepMask_length opt.dedup hv)
  rw [C09.retained_eq keys vals opt.dedup hv] at hi ⊢
  generalize hkeep : keepMask keys.length vals opt.dedup = keep at hi hklen ⊢
  rw [List.getElem?_map, Option.map_eq_some_iff] at hi
  obtain ⟨m, hm, rfl⟩ := hi
  obtain ⟨hiK, hmK⟩ := List.getElem?_eq_some_iff.mp hm
  obtain ⟨_, hmn, hmk⟩ := mem_keptIn.mp (hmK ▸ List.getElem_mem hiK)
  have main := C09_search_retained keys vals opt t hb hne m hmn (by rw [hkeep]; exact hmk)
  rw [hkeep] at main
  show search t.view (keys.getD m []) = _
  rw [main]
  have hprev := C09.prevKept_keptIn hklen i hiK
  have hnext := C09.nextKept_keptIn hklen i hiK
  rw [hmK] at hprev hnext
  rw [hprev, hnext]
  rw [← C09.shownVal_entryAt keys vals keep hv, ← C09.shownVal_entryAt keys vals keep hv,
    ← C09.shownVal_entryAt keys vals keep hv]
  rw [List.getElem?_map, List.getElem?_map]
  by_cases h0 : i = 0
  · simp only [h0, if_true]; rfl
  · simp only [h0, if_false]; rfl

/-- five keys, one a prefix of the next two ("a", "ab", "abc", "b", "bcd"); adjacent duplicate
    values, so de-duplication drops records 1 and 4 -/
def C09.exKeys : List Bytes :=
  [[0x61], [0x61, 0x62], [0x61, 0x62, 0x63], [0x62], [0x62, 0x63, 0x64]]
def C09.exVals : List Bytes := [[1], [1], [2], [3], [3]]

/-- the hypotheses of `C09_search_retained` are satisfiable (default options: de-duplication on,
    filter mode), record 2 ("abc") is retained, its neighbours are records 0 and 3 -/
example : ∃ t, build C09.exKeys (some C09.exVals) {} = .ok t ∧ C09.exKeys ≠ [] ∧
    2 < C09.exKeys.length ∧
    keptAt (keepMask C09.exKeys.length (some C09.exVals) ({} : Opt).dedup) 2 = true ∧
    keepMask C09.exKeys.length (some C09.exVals) ({} : Opt).dedup = [true, false, true, true, false] ∧
    prevKept (keepMask C09.exKeys.length (some C09.exVals) ({} : Opt).dedup) 2 = some 0 ∧
    nextKept (keepMask C09.exKeys.length (some C09.exVals) ({} : Opt).dedup) 2 = some 3 ∧
    search t.view (C09.exKeys.getD 2 []) = .ok (some (some [1]), some (some [2]), some (some [3])) := by
  obtain ⟨t, hb⟩ := C01.Ex.exists_of_isOk (build C09.exKeys (some C09.exVals) {}) (by decide +kernel)
  refine ⟨t, hb, by decide, by decide, by decide +kernel, by decide +kernel, by decide +kernel,
    by decide +kernel, ?_⟩
  rw [C09_search_retained _ _ _ t hb (by decide) 2 (by decide) (by decide +kernel)]
  refine congrArg Except.ok ?_
  decide +kernel

/-- the retained list of the example, and the hypothesis of `C09_search_retained_R` for `i = 1` -/
example : retained C09.exKeys (some C09.exVals) ({} : Opt).dedup =
      [([0x61], some [1]), ([0x61, 0x62, 0x63], some [2]), ([0x62], some [3])] ∧
    (retained C09.exKeys (some C09.exVals) ({} : Opt).dedup)[1]? =
      some ([0x61, 0x62, 0x63], some [2]) := by
  decide +kernel

/-- the same input is accepted in the other modes, too (complete mode without de-duplication,
    and no values at all): every record is retained there -/
example : (build C09.exKeys (some C09.exVals) { dedup := false, inner := true, leaf := true }).toBool
      = true ∧
    (build C09.exKeys none { inner := true }).toBool = true ∧
    keptAt (keepMask C09.exKeys.length (some C09.exVals) false) 1 = true ∧
    keptAt (keepMask C09.exKeys.length none true) 4 = true := by
  decide +kernel

#print axioms C09_search_retained
#print axioms C09_search_retained_R
