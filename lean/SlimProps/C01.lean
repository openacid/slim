import SlimProofs.LookupTotal
import SlimProofs.CutSpec
/-
  SlimProps.C01 — "Indexed keys are always found with their own value (no false negatives)".

  Level L1 (the breadth-first record array produced by `build`, read through `Trie1.view`):
  for every successful `build keys vals opt = .ok t` and every *retained* key index `i`
  (`keptAt (keepMask keys.length vals opt.dedup) i = true`: all keys, except that with
  de-duplication on and values supplied a key whose encoded value equals its predecessor's is
  dropped), `GetID` returns an id (`some id`, i.e. not -1), and `Get` returns found = true with
  exactly the bytes supplied for that key — or the nil value when Go's `Leaves` array is nil
  (no values supplied, or every leaf value is the empty string; `newVLenArray` returns nil then).

  The `…_L1` forms take the well-formedness invariant `WF` of `SlimProofs.WF` as a hypothesis
  (`getID_kept` of SlimProofs.LookupTotal finds the leaf, `build_elts` says what it stores);
  `C01_get_retained` and `C01_get_retained_bytes` discharge it with `build_wf`, so that the only
  hypotheses left are `build keys vals opt = .ok t` and that key `i` is retained.
-/

namespace C01

theorem eltsTotal_zero_mem (es : List Bytes) (h : eltsTotal es = 0) (b : Bytes) (hb : b ∈ es) :
    b = [] :=
  List.isEmpty_iff.mp (List.all_eq_true.mp ((eltsTotal_eq_zero_iff es).mp h) b hb)

theorem get_kept (keys : List Bytes) (vals : Option (List Bytes)) (opt : Opt)
    (t : Trie1) (hb : build keys vals opt = .ok t)
    (hwf : WF keys (keepMask keys.length vals opt.dedup) t)
    (i : Nat) (hi : i < keys.length)
    (hk : keptAt (keepMask keys.length vals opt.dedup) i = true) :
    ∃ id, getID t.view (keys.getD i []) = .ok (some id) ∧ SearchDescent.IsLeafOf t id i ∧
      get t.view (keys.getD i []) = .ok (some (expectedValue vals t i)) := by
  have hne : keys ≠ [] := by intro h; rw [h] at hi; exact Nat.not_lt_zero _ hi
  obtain ⟨id, ith, lp, hget, hleaf⟩ :=
    getID_kept keys _ t (build_pre keys vals opt t hb hne).1 hwf i hi hk
  refine ⟨id, hget, ⟨ith, lp, hleaf⟩, ?_⟩
  unfold _root_.get
  rw [hget]
  show (getLeaf t.view id >>= fun x => pure (some x)) = _
  rw [getLeaf_leaf t vals ⟨ith, lp, hleaf⟩ (build_elts keys vals opt t hb hne)]
  rfl

end C01

/-- **C01 at L1, `WF` as hypothesis**: every retained key is found, with its own value. -/
theorem C01_get_retained_L1 (keys : List Bytes) (vals : Option (List Bytes)) (opt : Opt)
    (t : Trie1) (hb : build keys vals opt = .ok t)
    (hwf : WF keys (keepMask keys.length vals opt.dedup) t)
    (i : Nat) (hi : i < keys.length)
    (hk : keptAt (keepMask keys.length vals opt.dedup) i = true) :
    (∃ id, getID t.view (keys.getD i []) = .ok (some id)) ∧
    get t.view (keys.getD i []) = .ok (some (expectedValue vals t i)) := by
  obtain ⟨id, hget, _, hg⟩ := C01.get_kept keys vals opt t hb hwf i hi hk
  exact ⟨⟨id, hget⟩, hg⟩

/-- **C01 at L1, the value as bytes**: with values supplied, `Get` on a retained key is a hit
    and its bytes — the nil value of a trie whose leaf values are all empty read as the empty
    string — are exactly the bytes supplied for that key; without values it is a hit with the
    nil value. -/
theorem C01_get_retained_bytes_L1 (keys : List Bytes) (vals : Option (List Bytes)) (opt : Opt)
    (t : Trie1) (hb : build keys vals opt = .ok t)
    (hwf : WF keys (keepMask keys.length vals opt.dedup) t)
    (i : Nat) (hi : i < keys.length)
    (hk : keptAt (keepMask keys.length vals opt.dedup) i = true) :
    ∃ r, get t.view (keys.getD i []) = .ok (some r) ∧
      (vals = none → r = none) ∧ (∀ vs, vals = some vs → r.getD [] = vs.getD i []) := by
  obtain ⟨id, _, ⟨ith, lp, _, hidx⟩, hg⟩ := C01.get_kept keys vals opt t hb hwf i hi hk
  refine ⟨_, hg, ?_, ?_⟩
  · intro h; subst h; rfl
  · intro vs h; subst h
    simp only [expectedValue]
    split
    · rename_i h0
      have hmem : vs.getD i [] ∈ t.leafKeyIdx.toList.map (fun j => vs.getD j []) := by
        apply List.mem_map.mpr
        refine ⟨i, ?_, rfl⟩
        obtain ⟨hlt, he⟩ := Array.getElem?_eq_some_iff.mp hidx
        rw [← he]; simp
      rw [C01.eltsTotal_zero_mem _ h0 _ hmem]; rfl
    · rfl

/-! ### non-vacuity: a concrete input satisfying the hypotheses

  Five keys: `a` is a proper prefix of `ab` and of `a\x80\x01`; bytes ≥ 0x80 occur (`0x80`,
  `0xff`, `0xf0`); the values of keys 0 and 1 are equal, so with de-duplication key 1 is dropped.
  All checks are kernel evaluations of the executable model (`decide +kernel`, no axioms beyond
  `propext`; no `native_decide`). -/
namespace C01.Ex

def keys : List Bytes := [[0x61], [0x61, 0x62], [0x61, 0x80, 0x01], [0x62, 0xff], [0xf0]]
def vals : List Bytes := [[1], [1], [2], [2, 0], [3]]
def optDefault : Opt := {}
def optComplete : Opt := { dedup := true, inner := true, leaf := true }
def optLeafOnly : Opt := { dedup := false, inner := false, leaf := true }

def isOk {α : Type} : Except Err α → Bool
  | .ok _ => true
  | .error _ => false

theorem exists_of_isOk {α : Type} (e : Except Err α) (h : isOk e = true) : ∃ t, e = .ok t := by
  cases e with
  | ok t => exact ⟨t, rfl⟩
  | error _ => cases h

def getsValue (opt : Opt) (vs : Option (List Bytes)) (i : Nat) (v : Option Bytes) : Bool :=
  match build keys vs opt with
  | .error _ => false
  | .ok t =>
    match get t.view (keys.getD i []) with
    | .ok (some r) => r == v
    | _ => false

example : ∃ t, build keys (some vals) optDefault = .ok t := exists_of_isOk _ (by decide +kernel)
theorem built_complete : ∃ t, build keys (some vals) optComplete = .ok t :=
  exists_of_isOk _ (by decide +kernel)
example : ∃ t, build keys (some vals) optComplete = .ok t := built_complete
example : ∃ t, build keys (some vals) optLeafOnly = .ok t := exists_of_isOk _ (by decide +kernel)
example : ∃ t, build keys none optDefault = .ok t := exists_of_isOk _ (by decide +kernel)
example : strictAsc keys = true := by decide +kernel
example : (List.range 5).map (keptAt (keepMask keys.length (some vals) optDefault.dedup))
    = [true, false, true, true, true] := by decide +kernel
example : (List.range 5).map (keptAt (keepMask keys.length (some vals) optLeafOnly.dedup))
    = [true, true, true, true, true] := by decide +kernel
example : getsValue optDefault (some vals) 0 (some [1]) = true := by decide +kernel
example : getsValue optDefault (some vals) 2 (some [2]) = true := by decide +kernel
example : getsValue optComplete (some vals) 3 (some [2, 0]) = true := by decide +kernel
example : getsValue optLeafOnly (some vals) 1 (some [1]) = true := by decide +kernel
example : getsValue optComplete (some vals) 4 (some [3]) = true := by decide +kernel
example : getsValue optComplete none 4 none = true := by decide +kernel
-- all values empty: Go's `Leaves` is nil, `Get` is a hit with the nil value
example : getsValue optDefault (some [[], [], [], [], []]) 0 none = true := by decide +kernel

end C01.Ex

/-- **C01**: for every successful `build` (any keys, any values or none, any options) and every
    retained key, `GetID` returns an id (not -1) and `Get` returns found = true with the value
    supplied for that key (`expectedValue`). -/
theorem C01_get_retained (keys : List Bytes) (vals : Option (List Bytes)) (opt : Opt)
    (t : Trie1) (hb : build keys vals opt = .ok t)
    (i : Nat) (hi : i < keys.length)
    (hk : keptAt (keepMask keys.length vals opt.dedup) i = true) :
    (∃ id, getID t.view (keys.getD i []) = .ok (some id)) ∧
    get t.view (keys.getD i []) = .ok (some (expectedValue vals t i)) := by
  have hne : keys ≠ [] := by intro h; rw [h] at hi; exact Nat.not_lt_zero _ hi
  exact C01_get_retained_L1 keys vals opt t hb (build_wf keys vals opt t hb hne).1 i hi hk

/-- **C01, the value as bytes** (nil read as the empty string). -/
theorem C01_get_retained_bytes (keys : List Bytes) (vals : Option (List Bytes)) (opt : Opt)
    (t : Trie1) (hb : build keys vals opt = .ok t)
    (i : Nat) (hi : i < keys.length)
    (hk : keptAt (keepMask keys.length vals opt.dedup) i = true) :
    ∃ r, get t.view (keys.getD i []) = .ok (some r) ∧
      (vals = none → r = none) ∧ (∀ vs, vals = some vs → r.getD [] = vs.getD i []) := by
  have hne : keys ≠ [] := by intro h; rw [h] at hi; exact Nat.not_lt_zero _ hi
  exact C01_get_retained_bytes_L1 keys vals opt t hb (build_wf keys vals opt t hb hne).1 i hi hk

/-- the theorem instantiated on the concrete input of `C01.Ex` (key 3 = `b\xff`, complete
    options): hypotheses discharged by evaluation -/
example : ∃ t, build C01.Ex.keys (some C01.Ex.vals) C01.Ex.optComplete = .ok t ∧
    ∃ r, get t.view [0x62, 0xff] = .ok (some r) ∧ r.getD [] = [2, 0] := by
  obtain ⟨t, ht⟩ := C01.Ex.built_complete
  obtain ⟨r, hr, _, hv⟩ := C01_get_retained_bytes _ _ _ t ht 3 (by decide) (by decide +kernel)
  exact ⟨t, ht, r, hr, hv _ rfl⟩

#print axioms getID_kept
#print axioms C01_get_retained_L1
#print axioms C01_get_retained_bytes_L1
#print axioms C01_get_retained
#print axioms C01_get_retained_bytes
