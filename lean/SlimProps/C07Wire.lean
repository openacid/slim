import SlimProofs.WireMarshal
/-
  C07 (wire half) — "a stream whose header version is outside the compatible set (any newer or
  unknown version, or an unparsable version string) is rejected with the incompatibility error, and
  every strict prefix of a valid stream, i.e. a write interrupted at any byte, is rejected with an
  error rather than a panic or a silently half-built index." (paraphrased)

  Objects: `Version.parseSemver / isCompatible` = `semver.Parse` / `vers.IsCompatible(ver,
  st.compatibleVersions())`; `unmarshalDispatch` = `(*SlimTrie).Unmarshal` at byte level
  (`SlimModel/Marshal.lean`).  The state half ("after a rejected load the instance is empty") is
  `C07_empty_after_reject`, `C07_answers_empty` (C07.lean), on the instance machine of the trie model:
  `Unmarshal` clears `st.inner` before it reads anything.

  Hypotheses: `VersionOK v` (what fits the 16-byte header field: ASCII, ≤ 16 bytes, no trailing NUL —
  `verStr` strips those), `BodyOK body` (≤ 2^48 bytes, the bodies `make([]byte, n)` can allocate).
-/
open Wire Frame Version

/-- The accepted version strings, exactly: strings `semver.Parse` accepts, without a pre-release
    part, whose numbers are one of the six listed triples.  Build meta data is immaterial
    (`0.5.12+b` is accepted); everything else — newer, older, pre-release, unparsable — is not. -/
theorem C07_version (s : String) :
    isCompatible s = true ↔
      ∃ M m p pre bld, parseSemver s = some ⟨M, m, p, pre, bld⟩ ∧ pre = [] ∧
        (M, m, p) ∈ [(1, 0, 0), (0, 5, 8), (0, 5, 9), (0, 5, 10), (0, 5, 11), (0, 5, 12)] := by
  rw [isCompatible_iff]
  constructor
  · rintro ⟨⟨M, m, p, pre, bld⟩, h1, h2, h3⟩
    exact ⟨M, m, p, pre, bld, h1, h2, h3⟩
  · rintro ⟨M, m, p, pre, bld, h1, h2, h3⟩
    exact ⟨⟨M, m, p, pre, bld⟩, h1, h2, h3⟩

/-- Rejection happens on the 16 version bytes alone: whatever the size fields say and whatever
    follows the header, the answer is the incompatibility error. -/
theorem C07_incompatible_first (buf : Bytes) (hlen : 32 ≤ buf.length)
    (hv : isCompatible (verStr (buf.take 16)) = false) :
    unmarshalDispatch buf = .error .incompatible := unmarshal_incompatible buf hlen hv

theorem C07_incompatible_header (v : String) (hv : VersionOK v) (hc : isCompatible v = false)
    (n : Nat) (hn : n < 2 ^ 64) (tail : Bytes) :
    unmarshalDispatch (header v n ++ tail) = .error .incompatible :=
  unmarshal_incompatible_header v hv hc n hn tail

/-- Which branch of `Unmarshal` a compatible version takes. -/
theorem C07_dispatch (s : String) (h : isCompatible s = true) :
    ∃ v, parseSemver s = some v ∧ v.pre = [] ∧
      (((v.major, v.minor, v.patch) = (0, 5, 12) ∧ isCurrentLayout s = true ∧ before000512 s = false) ∨
       ((v.major, v.minor, v.patch) ∈ [(0, 5, 10), (0, 5, 11)] ∧ isCurrentLayout s = true ∧ before000512 s = true) ∨
       ((v.major, v.minor, v.patch) ∈ [(1, 0, 0), (0, 5, 8), (0, 5, 9)] ∧ isCurrentLayout s = false ∧
          before000510 s = true)) := by
  obtain ⟨⟨M, m, p, pre, b⟩, hv, hpre, hmem⟩ := (isCompatible_iff s).mp h
  refine ⟨_, hv, hpre, ?_⟩
  simp only at hpre hmem ⊢
  subst hpre
  -- with the specs parsed once, only `parseSemver` is left of the string
  unfold isCurrentLayout before000512 before000510 check
  rw [parseSpecs_currentLayout, parseSpecs_before000512, parseSpecs_before000510, hv]
  simp only [compatibleTriples, List.mem_cons, Prod.mk.injEq, List.not_mem_nil, or_false] at hmem
  -- build meta data is not compared, so each of the six cases is a closed term
  have hbuild : ∀ r, rangeHolds r ⟨M, m, p, [], b⟩ = rangeHolds r ⟨M, m, p, [], []⟩ := fun _ => rfl
  simp only [Option.getD_some, hbuild]
  rcases hmem with ⟨rfl, rfl, rfl⟩ | ⟨rfl, rfl, rfl⟩ | ⟨rfl, rfl, rfl⟩ | ⟨rfl, rfl, rfl⟩ | ⟨rfl, rfl, rfl⟩ |
      ⟨rfl, rfl, rfl⟩ <;>
    decide

/-- Every strict prefix of a marshalled trie is rejected, as a short read. -/
theorem C07_truncated (m : SlimMsg) (hb : BodyOK (encodeSlim m)) (cut : Nat) (hcut : cut < (marshalSlim m).length) :
    unmarshalDispatch ((marshalSlim m).take cut) = .error .truncated := by
  have := unmarshal_take_frame slimtrieVersion version_table.2.2.1 version_table.2.2.2.1 (encodeSlim m) hb [] cut hcut
  rwa [List.append_nil] at this

/-- The same for one frame with any compatible version string and any body (this covers 0.5.10 and
    0.5.11 streams, and the first section of the legacy layout), whatever bytes follow the frame. -/
theorem C07_truncated_frame (v : String) (hv : VersionOK v) (hc : isCompatible v = true) (body : Bytes)
    (hb : BodyOK body) (rest : Bytes) (cut : Nat) (hcut : cut < (frame v body).length) :
    unmarshalDispatch ((frame v body ++ rest).take cut) = .error .truncated :=
  unmarshal_take_frame v hv hc body hb rest cut hcut

theorem sub_sub_lt {c x y z : Nat} (h : c < x + (y + z)) (h1 : ¬ c < x) (h2 : ¬ c - x < y) :
    c - x - y < z := by
  omega

/-- The three-section layout (versions 1.0.0, 0.5.8, 0.5.9): every strict prefix of
    `frame v a ++ frame v₂ b ++ frame v₃ c` is rejected — as a short read, unless a section that is
    already complete is itself undecodable, in which case with that section's decoding error. -/
theorem C07_truncated_legacy3 (v v2 v3 : String) (hv : VersionOK v) (hv2 : VersionOK v2) (hv3 : VersionOK v3)
    (hc : isCompatible v = true) (hl : isCurrentLayout v = false)
    (a b c : Bytes) (ha : BodyOK a) (hb : BodyOK b) (hcb : BodyOK c) (cut : Nat)
    (hcut : cut < (frame v a ++ (frame v2 b ++ frame v3 c)).length) :
    let r := unmarshalDispatch ((frame v a ++ (frame v2 b ++ frame v3 c)).take cut)
    r = .error .truncated ∨ (∃ e, decodeArray32 a = .error e ∧ r = .error e) ∨
      (∃ e, decodeArray32 b = .error e ∧ r = .error e) := by
  intro r
  have hh := readHeader_take (readHeader_frame v hv a ha (frame v2 b ++ frame v3 c)) cut
  by_cases h32 : cut < 32
  · left
    show unmarshalDispatch _ = _
    unfold unmarshalDispatch
    rw [hh, if_pos h32]
  · rw [if_neg h32] at hh
    have hr : r = (match readMsg decodeArray32 ((frame v a ++ (frame v2 b ++ frame v3 c)).take cut) with
        | .error e => .error e
        | .ok (children, r1) =>
          match readMsg decodeArray32 r1 with
          | .error e => .error e
          | .ok (steps, r2) =>
            match readMsg decodeArray32 r2 with
            | .error e => .error e
            | .ok (leaves, _) => .ok (.legacy3 v children steps leaves)) := by
      show unmarshalDispatch _ = _
      unfold unmarshalDispatch
      rw [hh]
      simp [hc, hl]
      rfl
    rw [readMsg_take decodeArray32 v hv a ha] at hr
    by_cases h1 : cut < (frame v a).length
    · rw [if_pos h1] at hr
      exact Or.inl hr
    · rw [if_neg h1] at hr
      cases hda : decodeArray32 a with
      | error e => exact Or.inr (Or.inl ⟨e, rfl, by rw [hr, hda]⟩)
      | ok ch =>
        rw [hda] at hr
        simp only at hr
        rw [readMsg_take decodeArray32 v2 hv2 b hb] at hr
        by_cases h2 : cut - (frame v a).length < (frame v2 b).length
        · rw [if_pos h2] at hr
          exact Or.inl hr
        · rw [if_neg h2] at hr
          cases hdb : decodeArray32 b with
          | error e => exact Or.inr (Or.inr ⟨e, rfl, by rw [hr, hdb]⟩)
          | ok st =>
            rw [hdb] at hr
            simp only at hr
            simp only [List.length_append] at hcut
            have := readMsg_take decodeArray32 v3 hv3 c hcb [] (cut - (frame v a).length - (frame v2 b).length)
            rw [List.append_nil, if_pos (sub_sub_lt hcut h1 h2)] at this
            rw [this] at hr
            exact Or.inl hr

/-- … in every case an error, never a load. -/
theorem C07_truncated_legacy3_rejected (v v2 v3 : String) (hv : VersionOK v) (hv2 : VersionOK v2)
    (hv3 : VersionOK v3) (hc : isCompatible v = true) (hl : isCurrentLayout v = false)
    (a b c : Bytes) (ha : BodyOK a) (hb : BodyOK b) (hcb : BodyOK c) (cut : Nat)
    (hcut : cut < (frame v a ++ (frame v2 b ++ frame v3 c)).length) :
    ∃ e, unmarshalDispatch ((frame v a ++ (frame v2 b ++ frame v3 c)).take cut) = .error e := by
  rcases C07_truncated_legacy3 v v2 v3 hv hv2 hv3 hc hl a b c ha hb hcb cut hcut with h | ⟨e, _, h⟩ | ⟨e, _, h⟩
  · exact ⟨_, h⟩
  · exact ⟨e, h⟩
  · exact ⟨e, h⟩

/-- … and as a short read when the complete sections are decodable (every stream a writer produced). -/
theorem C07_truncated_legacy3_wellformed (v v2 v3 : String) (hv : VersionOK v) (hv2 : VersionOK v2)
    (hv3 : VersionOK v3) (hc : isCompatible v = true) (hl : isCurrentLayout v = false)
    (a b c : Array32Msg) (ha : BodyOK (encodeArray32 a)) (hb : BodyOK (encodeArray32 b))
    (hcb : BodyOK (encodeArray32 c))
    (hwa : a.WF) (hna : a.NF) (hwb : b.WF) (hnb : b.NF) (cut : Nat)
    (hcut : cut < (frame v (encodeArray32 a) ++ (frame v2 (encodeArray32 b) ++ frame v3 (encodeArray32 c))).length) :
    unmarshalDispatch ((frame v (encodeArray32 a) ++ (frame v2 (encodeArray32 b) ++
      frame v3 (encodeArray32 c))).take cut) = .error .truncated := by
  rcases C07_truncated_legacy3 v v2 v3 hv hv2 hv3 hc hl _ _ _ ha hb hcb cut hcut with h | ⟨e, he, _⟩ | ⟨e, he, _⟩
  · exact h
  · rw [decodeArray32_encode a hwa hna (bodyOK_length_lt ha)] at he; cases he
  · rw [decodeArray32_encode b hwb hnb (bodyOK_length_lt hb)] at he; cases he

example : isCompatible "0.5.12" = true := version_table.2.2.2.1
example : isCompatible "0.5.12+b" = true := by rw [isCompatible_eq]; decide +kernel
example : isCompatible "1.0.0" = true := (version_legacy "1.0.0" (.inl rfl)).2.1
example : isCompatible "0.5.13" = false := by rw [isCompatible_eq]; decide +kernel
example : isCompatible "0.5.12-rc1" = false := by rw [isCompatible_eq]; decide +kernel
example : isCompatible "0.6.0" = false := by rw [isCompatible_eq]; decide +kernel
example : isCompatible "1.0.1" = false := by rw [isCompatible_eq]; decide +kernel
example : isCompatible "2.0.0" = false := by rw [isCompatible_eq]; decide +kernel
example : isCompatible "0.5.012" = false := by rw [isCompatible_eq]; decide +kernel
example : isCompatible " 0.5.12" = false := by rw [isCompatible_eq]; decide +kernel
example : isCompatible "" = false := by rw [isCompatible_eq]; decide +kernel
example : isCompatible "0.5.120000000000" = false := by rw [isCompatible_eq]; decide +kernel
example : parseSemver "0.5.12-rc1+b.7" = some ⟨0, 5, 12, [.str "rc1".toList], ["b".toList, "7".toList]⟩ := by decide +kernel

theorem version_0513 : VersionOK "0.5.13" ∧ isCompatible "0.5.13" = false :=
  ⟨by decide +kernel, by rw [isCompatible_eq]; decide +kernel⟩

example : unmarshalDispatch (header "0.5.13" 5 ++ [1, 2, 3]) = .error .incompatible :=
  C07_incompatible_header "0.5.13" version_0513.1 version_0513.2 5 (by omega) _

/-- Hypotheses of the frame theorem for a 0.5.11 stream with a non-empty body. -/
example : VersionOK "0.5.11" ∧ isCompatible "0.5.11" = true ∧ BodyOK [0x58, 0x01] ∧
    (17 : Nat) < (frame "0.5.11" [0x58, 0x01]).length := by
  have h := version_table.2.1 "0.5.11" (.tail _ (.head _))
  exact ⟨h.1, h.2.1, by unfold BodyOK maxAlloc; simp, by rw [frame_length]; simp⟩

/-- Hypotheses of the legacy theorem: version 0.5.8 takes the three-section branch. -/
example : VersionOK "0.5.8" ∧ isCompatible "0.5.8" = true ∧ isCurrentLayout "0.5.8" = false :=
  version_legacy "0.5.8" (.inr (.inl rfl))

example : ∃ e, unmarshalDispatch ((frame "0.5.8" [8, 1] ++ (frame "0.5.8" [] ++ frame "0.5.8" [])).take 70) = .error e :=
  have ⟨hv, hc, hl⟩ := version_legacy "0.5.8" (.inr (.inl rfl))
  C07_truncated_legacy3_rejected "0.5.8" "0.5.8" "0.5.8" hv hv hv hc hl
    [8, 1] [] [] (by unfold BodyOK maxAlloc; simp) (by unfold BodyOK maxAlloc; simp)
    (by unfold BodyOK maxAlloc; simp) 70 (by simp [frame_length])

#print axioms C07_version
#print axioms C07_incompatible_first
#print axioms C07_incompatible_header
#print axioms C07_dispatch
#print axioms C07_truncated
#print axioms C07_truncated_frame
#print axioms C07_truncated_legacy3
#print axioms C07_truncated_legacy3_rejected
#print axioms C07_truncated_legacy3_wellformed
