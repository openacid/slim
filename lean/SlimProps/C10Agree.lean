import SlimProofs.LookupTotal
/-
  SlimProps.C10Agree — the agreement half of property C10:
  "Get, GetID and the exact-match result of Search always agree on whether the query was found
   and on its value, and RangeGet reports found whenever Get does, with the same value."

  (The totality half of C10 — no lookup panics — is SlimProofs.LookupTotal for the record array and
  `C10_total_L2` in SlimProps.L2 for the encoded trie.)

  Proved for the executable model `SlimModel.Query` over a `View`.

  For ANY view (L1 record array, bit-level view, even a malformed one) and any key, a hit of
  `GetID` / `Get` is the exact-match result of `searchID` / `Search` and what `RangeGet` returns,
  with the same value (`Get` is `GetID` + `getLeaf` by definition).

  The converse direction (`GetID` misses ⇒ `searchID` has no exact match) is FALSE for arbitrary
  views: `C10_cex1`, `C10_cex2` exhibit two (malformed) views on which `GetID`/`Get` miss while
  `searchID`/`Search`/`RangeGet` report an exact hit.  It holds under two explicit side
  conditions (`Agree.NoEmptyLeafPrefix`, `Agree.NoOverrun`): the theorems `…_of`.  Both conditions
  hold for every well-formed trie (`WF`) and every query key (the theorems `…_WF`); with `WF`
  discharged by `build_wf` (`SlimProofs.BuildInv`) the agreement is unconditional for every trie
  `build` returns, the empty one included (`C10_searchID_eq_getID`, `C10_search_eq_get`,
  `C10_rangeGet_extends_get_built`).
-/

/-- `Get` reports a hit with value `x` iff `GetID` returns an id whose leaf holds `x`. -/
theorem C10_get_is_getID_hit (v : View) (key : Bytes) (x : Option Bytes) :
    get v key = .ok (some x) ↔ ∃ id, getID v key = .ok (some id) ∧ getLeaf v id = .ok x :=
  Agree.get_hit_iff v key x

/-- `Get` reports not-found iff `GetID` returns -1. -/
theorem C10_get_is_getID_miss (v : View) (key : Bytes) :
    get v key = .ok none ↔ getID v key = .ok none :=
  Agree.get_miss_iff v key

/-- If `GetID` finds the key then the exact-match id of `searchID` is the same id. -/
theorem C10_searchID_hit_of_getID_hit (v : View) (key : Bytes) (id : Nat)
    (b : Option Nat × Option Nat × Option Nat)
    (hg : getID v key = .ok (some id)) (hs : searchID v key = .ok b) : b.2.1 = some id :=
  Agree.searchID_eq_getID v key _ b nofun hg hs

/-- If `Get` finds the key then the exact-match component of `Search` is the same value. -/
theorem C10_search_hit_of_get_hit (v : View) (key : Bytes) (x : Option Bytes)
    (y : Option (Option Bytes) × Option (Option Bytes) × Option (Option Bytes))
    (hg : get v key = .ok (some x)) (hs : search v key = .ok y) : y.2.1 = some x :=
  Agree.search_eq_get v key (some x) y nofun hg hs

/-- `RangeGet` reports found whenever `Get` does, with the same value. -/
theorem C10_rangeGet_extends_get (v : View) (key : Bytes) (x : Option Bytes)
    (y : Option (Option Bytes))
    (hg : get v key = .ok (some x)) (hr : rangeGet v key = .ok y) : y = some x := by
  obtain ⟨id, hid, hleaf⟩ := (Agree.get_hit_iff v key x).mp hg
  rw [Agree.rangeGet_eq] at hr
  obtain ⟨b, hb, hy⟩ := Agree.bind_ok hr
  rw [C10_searchID_hit_of_getID_hit v key id b hid hb] at hy
  exact Except.ok.inj (hy.symm.trans (Agree.leafOf_some v id x hleaf))

/-- Agreement of the ids: whatever `GetID` answers (an id or -1) is the exact-match id of
    `searchID`, provided no leaf stores an empty leaf prefix and the descent for this key does
    not step past the end of the key. -/
theorem C10_searchID_eq_getID_of (v : View) (key : Bytes) (a : Option Nat)
    (b : Option Nat × Option Nat × Option Nat)
    (hne : Agree.NoEmptyLeafPrefix v) (hov : Agree.NoOverrun v key)
    (hg : getID v key = .ok a) (hs : searchID v key = .ok b) : b.2.1 = a :=
  Agree.searchID_eq_getID v key a b (fun _ => ⟨hne, hov⟩) hg hs

/-- Agreement of the values: the exact-match component of `Search` is `Get`'s answer
    (`none` = not found). -/
theorem C10_search_eq_get_of (v : View) (key : Bytes) (a : Option (Option Bytes))
    (y : Option (Option Bytes) × Option (Option Bytes) × Option (Option Bytes))
    (hne : Agree.NoEmptyLeafPrefix v) (hov : Agree.NoOverrun v key)
    (hg : get v key = .ok a) (hs : search v key = .ok y) : y.2.1 = a :=
  Agree.search_eq_get v key a y (fun _ => ⟨hne, hov⟩) hg hs

/-- Side condition 1 is necessary: on the one-leaf view `Agree.cex1` (the leaf stores an empty
    leaf prefix) `Get("")` / `GetID("")` miss while `Search("")` and `RangeGet("")` report an
    exact hit. -/
theorem C10_cex1 :
    getID Agree.cex1 [] = .ok none ∧ get Agree.cex1 [] = .ok none ∧
    searchID Agree.cex1 [] = .ok (none, some 0, none) ∧
    search Agree.cex1 [] = .ok (none, some none, none) ∧
    rangeGet Agree.cex1 [] = .ok (some none) := by
  refine ⟨?_, ?_, ?_, ?_, ?_⟩ <;> rfl

/-- Side condition 2 is necessary: on `Agree.cex2` (a 257-bit node at an odd half-byte position)
    the descent for key `0xab` ends at position 3 > 2: `Get` / `GetID` miss, `Search` and
    `RangeGet` report an exact hit. -/
theorem C10_cex2 :
    getID Agree.cex2 [0xab] = .ok none ∧ get Agree.cex2 [0xab] = .ok none ∧
    searchID Agree.cex2 [0xab] = .ok (none, some 1, none) ∧
    search Agree.cex2 [0xab] = .ok (none, some none, none) ∧
    rangeGet Agree.cex2 [0xab] = .ok (some none) := by
  refine ⟨?_, ?_, ?_, ?_, ?_⟩ <;> rfl

/-- Hence the unconditional statement "for every view, `searchID`'s exact-match id equals
    `GetID`'s answer" is false (for the model, and — see `SlimProofs.Agree` — for the Go code on
    such hand-crafted tries). -/
theorem C10_unconditional_agreement_false :
    ¬ ∀ (v : View) (key : Bytes) (a : Option Nat) (b : Option Nat × Option Nat × Option Nat),
      getID v key = .ok a → searchID v key = .ok b → b.2.1 = a := by
  intro h
  have := h Agree.cex1 [] none (none, some 0, none) rfl rfl
  cases this

theorem C10_searchID_eq_getID_WF (keys : List Bytes) (keep : List Bool) (t : Trie1)
    (hwf : WF keys keep t) (key : Bytes) (a : Option Nat)
    (b : Option Nat × Option Nat × Option Nat)
    (hg : getID t.view key = .ok a) (hs : searchID t.view key = .ok b) : b.2.1 = a :=
  C10_searchID_eq_getID_of t.view key a b (Agree.noEmptyLeafPrefix_of_WF keys keep t hwf)
    (Agree.noOverrun_of_WF keys keep t hwf key) hg hs

theorem C10_search_eq_get_WF (keys : List Bytes) (keep : List Bool) (t : Trie1)
    (hwf : WF keys keep t) (key : Bytes) (a : Option (Option Bytes))
    (y : Option (Option Bytes) × Option (Option Bytes) × Option (Option Bytes))
    (hg : get t.view key = .ok a) (hs : search t.view key = .ok y) : y.2.1 = a :=
  C10_search_eq_get_of t.view key a y (Agree.noEmptyLeafPrefix_of_WF keys keep t hwf)
    (Agree.noOverrun_of_WF keys keep t hwf key) hg hs

theorem C10_rangeGet_extends_get_WF (keys : List Bytes) (keep : List Bool) (t : Trie1)
    (_hwf : WF keys keep t) (key : Bytes) (x : Option Bytes) (y : Option (Option Bytes))
    (hg : get t.view key = .ok (some x)) (hr : rangeGet t.view key = .ok y) : y = some x :=
  C10_rangeGet_extends_get t.view key x y hg hr

namespace C10Agree

theorem build_side_conditions (keys : List Bytes) (vals : Option (List Bytes)) (opt : Opt)
    (t : Trie1) (hb : build keys vals opt = .ok t) :
    Agree.NoEmptyLeafPrefix t.view ∧ ∀ key, Agree.NoOverrun t.view key := by
  rcases BuildShape.build_nil_or hb with ⟨rfl, rfl⟩ | hne
  · -- the empty trie: no node at all
    constructor
    · intro id ith h
      simp [Trie1.view, Trie1.empty] at h
    · intro key r h
      simp [getIDLoop, Trie1.view, Trie1.empty, bind, Except.bind] at h
  · have hwf := (build_wf keys vals opt t hb hne).1
    exact ⟨Agree.noEmptyLeafPrefix_of_WF _ _ t hwf, Agree.noOverrun_of_WF _ _ t hwf⟩

end C10Agree

/-- **C10 (ids)**: on every trie returned by `build`, for every query key, the exact-match id
    of `searchID` is `GetID`'s answer (an id or -1). -/
theorem C10_searchID_eq_getID (keys : List Bytes) (vals : Option (List Bytes)) (opt : Opt)
    (t : Trie1) (hb : build keys vals opt = .ok t) (key : Bytes) (a : Option Nat)
    (b : Option Nat × Option Nat × Option Nat)
    (hg : getID t.view key = .ok a) (hs : searchID t.view key = .ok b) : b.2.1 = a :=
  have h := C10Agree.build_side_conditions keys vals opt t hb
  C10_searchID_eq_getID_of t.view key a b h.1 (h.2 key) hg hs

/-- **C10 (values)**: on every trie returned by `build`, for every query key, the exact-match
    component of `Search` is `Get`'s answer (found or not, and the value). -/
theorem C10_search_eq_get (keys : List Bytes) (vals : Option (List Bytes)) (opt : Opt)
    (t : Trie1) (hb : build keys vals opt = .ok t) (key : Bytes) (a : Option (Option Bytes))
    (y : Option (Option Bytes) × Option (Option Bytes) × Option (Option Bytes))
    (hg : get t.view key = .ok a) (hs : search t.view key = .ok y) : y.2.1 = a :=
  have h := C10Agree.build_side_conditions keys vals opt t hb
  C10_search_eq_get_of t.view key a y h.1 (h.2 key) hg hs

/-- **C10 (RangeGet)** on built tries (an instance of `C10_rangeGet_extends_get`). -/
theorem C10_rangeGet_extends_get_built (keys : List Bytes) (vals : Option (List Bytes))
    (opt : Opt) (t : Trie1) (_hb : build keys vals opt = .ok t) (key : Bytes) (x : Option Bytes)
    (y : Option (Option Bytes))
    (hg : get t.view key = .ok (some x)) (hr : rangeGet t.view key = .ok y) : y = some x :=
  C10_rangeGet_extends_get t.view key x y hg hr

/-! ### non-vacuity

  The hypotheses (`… = .ok _`: the lookups return normally) hold on concrete tries built by the
  executable model — present keys, a dropped key, absent keys shorter / longer than the indexed
  keys, bytes ≥ 0x80 — and the conclusions are what the model computes there.
  Kernel evaluation (`decide +kernel`), no `native_decide`. -/
namespace C10Agree.Ex

def keys : List Bytes := [[0x61], [0x61, 0x62], [0x61, 0x80, 0x01], [0x62, 0xff], [0xf0]]
def vals : List Bytes := [[1], [1], [2], [2, 0], [3]]
def queries : List Bytes :=
  keys ++ [[], [0x60], [0x61, 0x80], [0x61, 0x80, 0x01, 0x00], [0x62], [0xff, 0xff, 0xff], [0x00]]

/-- all five lookups return normally on `key` and agree as C10 demands -/
def agreeOn (opt : Opt) (key : Bytes) : Bool :=
  match build keys (some vals) opt with
  | .error _ => false
  | .ok t =>
    match getID t.view key, searchID t.view key, get t.view key, search t.view key,
        rangeGet t.view key with
    | .ok a, .ok b, .ok g, .ok s, .ok r =>
      (b.2.1 == a) && (s.2.1 == g) && (a.isSome == g.isSome) && (!g.isSome || r == g)
    | _, _, _, _, _ => false

def hits (opt : Opt) : List Bool :=
  match build keys (some vals) opt with
  | .error _ => []
  | .ok t => queries.map fun q =>
    match getID t.view q with
    | .ok (some _) => true
    | _ => false

example : queries.all (agreeOn {}) = true := by decide +kernel
example : queries.all (agreeOn { dedup := false, inner := true, leaf := true }) = true := by
  decide +kernel
example : queries.all (agreeOn { dedup := true, inner := false, leaf := true }) = true := by
  decide +kernel
-- with complete prefixes exactly the retained keys are hits, everything else is a miss
example : hits { dedup := true, inner := true, leaf := true }
    = [true, false, true, true, true, false, false, false, false, false, false, false] := by
  decide +kernel

/-- the two side conditions are satisfiable together with the other hypotheses -/
def oneLeaf : View where
  isEmpty := false
  nodeCnt := 1
  node := fun id => if id = 0 then .ok (.leaf 0 none) else .error (.panic "node id out of range")
  leafPrefixesOn := true
  scanOK := true
  leafBytes := fun _ => .ok none

example : Agree.NoEmptyLeafPrefix oneLeaf := by
  intro id ith h
  simp only [oneLeaf] at h
  split at h <;> cases h

example : Agree.NoOverrun oneLeaf [] := by
  intro r h
  have : getIDLoop oneLeaf (nibs []) (oneLeaf.nodeCnt + 1) 0 0 = .ok (some ⟨0, 0, none⟩) := rfl
  rw [this] at h; cases h; exact Nat.le_refl _

example : getID oneLeaf [] = .ok (some 0) ∧ searchID oneLeaf [] = .ok (none, some 0, none) :=
  ⟨rfl, rfl⟩

end C10Agree.Ex

#print axioms C10_get_is_getID_hit
#print axioms C10_get_is_getID_miss
#print axioms C10_searchID_hit_of_getID_hit
#print axioms C10_search_hit_of_get_hit
#print axioms C10_rangeGet_extends_get
#print axioms C10_searchID_eq_getID_of
#print axioms C10_search_eq_get_of
#print axioms C10_cex1
#print axioms C10_cex2
#print axioms C10_unconditional_agreement_false
#print axioms C10_searchID_eq_getID_WF
#print axioms C10_search_eq_get_WF
#print axioms C10_rangeGet_extends_get_WF
#print axioms C10_searchID_eq_getID
#print axioms C10_search_eq_get
#print axioms C10_rangeGet_extends_get_built
