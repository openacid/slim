import SlimProofs.InstanceLemmas
import SlimProofs.EncodeWF
import SlimProofs.BuildShape
import SlimProofs.EncodeAt
import SlimProofs.InputSmall
import SlimProps.C05Wire
/-
  C05 (trie / instance level) — "Unmarshal(Marshal(t)) yields a trie that answers every query of
  every kind identically to t …  Marshal is deterministic: building twice from equal input gives
  byte-identical output, its length equals the advertised protobuf size, and re-marshalling a loaded
  trie reproduces the same bytes.  Unmarshalling into an instance that previously held other data,
  or after Reset, leaves no residue of the earlier contents."

  Objects: `build` (= `newSlim`), `Slim.encode t` (= the message `creator.build` makes, `st.inner`),
  `marshalSlim` (= `Marshal`), `Legacy.unmarshalMsg` / `Legacy.Instance.unmarshal` (= the complete
  `Unmarshal`), `Legacy.Instance.reset` (= `Reset`), `Slim.view` (= everything the query code reads).

  Hypotheses:
   * `Refine.Small t` — every counter of the message that Go holds in an int32 fits one (big-node
     count, node count, label-bitmap bits, stored prefix bytes, leaf bytes) and the body can be
     allocated.  It only excludes tries beyond the Go code's own limits (its rank/select indexes
     are `[]int32`); no other size bound.
   * `hlevels : Slim.initLevels (Slim.encode t) = .ok lv` — `st.init()` succeeds on the built
     message (`C18_initLevels_ok` proves it for every built trie; SlimProps.Loaded and
     SlimProps.C05Input state C05 without it).
-/
open Wire Frame Version Legacy Refine

/-- The message of a built trie within Go's int32 limits is well formed, in proto3 normal form
    (no unknown fields) and fits a frame: the hypotheses of the byte-level theorems hold. -/
theorem C05_encode_wf (keys : List Bytes) (vals : Option (List Bytes)) (opt : Opt) (t : Trie1)
    (hb : build keys vals opt = .ok t) (hsm : Small t) :
    (Slim.encode t).WF ∧ (Slim.encode t).NF ∧ BodyOK (encodeSlim (Slim.encode t)) :=
  -- only the empty input gives a trie without nodes
  ⟨encode_WF (fun hsz => build_shape keys vals opt t hb fun hne => hsz (by
      subst hne; rw [BuildShape.build_nil vals opt t hb]; rfl)) hsm, encode_NF t, hsm.body⟩

/-- `Unmarshal(Marshal(t))`: the loaded message is the built message, and the instance is the
    freshly initialised one — whatever the instance held before. -/
theorem C05_roundtrip (keys : List Bytes) (vals : Option (List Bytes)) (opt : Opt) (t : Trie1)
    (hb : build keys vals opt = .ok t) (hsm : Small t) (encSize : Option Nat)
    (lv : List Slim.Level) (hlevels : Slim.initLevels (Slim.encode t) = .ok lv) (st : Instance) :
    unmarshalMsg encSize (marshalSlim (Slim.encode t)) = .ok (Slim.encode t) ∧
    Instance.unmarshal st encSize (marshalSlim (Slim.encode t))
      = ({ inner := Slim.encode t, levels := lv, varsNil := false }, none) := by
  obtain ⟨hwf, hnf, hbody⟩ := C05_encode_wf keys vals opt t hb hsm
  exact ⟨unmarshalMsg_marshal encSize _ hwf hnf hbody,
    Instance.unmarshal_marshal st encSize _ hwf hnf hbody lv hlevels⟩

/-- Every query function of the model (`getID`, `get`, `rangeGet`, `search`, the scans, `getInt`,
    `String`) reads the instance through `Slim.view inner` (or `inner` itself), `Stat` through
    `inner` and `levels`: a loaded instance has the same `inner` and the same `levels` as the
    built one, hence answers every query of every kind identically. -/
theorem C05_answers_identical (keys : List Bytes) (vals : Option (List Bytes)) (opt : Opt) (t : Trie1)
    (hb : build keys vals opt = .ok t) (hsm : Small t) (encSize : Option Nat)
    (lv : List Slim.Level) (hlevels : Slim.initLevels (Slim.encode t) = .ok lv) (st : Instance) :
    let loaded := (Instance.unmarshal st encSize (marshalSlim (Slim.encode t))).1
    loaded.inner = Slim.encode t ∧ Slim.view loaded.inner = Slim.view (Slim.encode t) ∧
    loaded.levels = lv ∧ loaded.varsNil = false ∧
    Slim.stat loaded.inner loaded.levels = Slim.stat (Slim.encode t) lv := by
  intro loaded
  have h := (C05_roundtrip keys vals opt t hb hsm encSize lv hlevels st).2
  have hl : loaded = { inner := Slim.encode t, levels := lv, varsNil := false } := by
    show (Instance.unmarshal st encSize (marshalSlim (Slim.encode t))).1 = _
    rw [h]
  rw [hl]
  exact ⟨rfl, rfl, rfl, rfl, rfl⟩

/-- Re-marshalling the loaded instance reproduces the bytes. -/
theorem C05_stable_trie (keys : List Bytes) (vals : Option (List Bytes)) (opt : Opt) (t : Trie1)
    (hb : build keys vals opt = .ok t) (hsm : Small t) (encSize : Option Nat)
    (lv : List Slim.Level) (hlevels : Slim.initLevels (Slim.encode t) = .ok lv) (st : Instance) :
    marshalSlim (Instance.unmarshal st encSize (marshalSlim (Slim.encode t))).1.inner
      = marshalSlim (Slim.encode t) := by
  rw [(C05_answers_identical keys vals opt t hb hsm encSize lv hlevels st).1]

/-- The stream is the 32-byte header plus the advertised protobuf size (no hypothesis). -/
theorem C05_size_trie (t : Trie1) :
    (marshalSlim (Slim.encode t)).length = 32 + protoSizeSlim (Slim.encode t) :=
  C05_marshal_size _

/-- Building twice from equal input gives byte-identical output: in the model `build`, `Slim.encode`
    and `marshalSlim` are functions.  (The one place where the Go code's output could depend on
    something else — the iteration order of the bitmap-count map — is `C05_sortCounts_perm`.) -/
theorem C05_deterministic (keys : List Bytes) (vals : Option (List Bytes)) (opt : Opt) (t₁ t₂ : Trie1)
    (h₁ : build keys vals opt = .ok t₁) (h₂ : build keys vals opt = .ok t₂) :
    marshalSlim (Slim.encode t₁) = marshalSlim (Slim.encode t₂) := by
  rw [h₁] at h₂; cases h₂; rfl

/-- `sortedBMCounts` gives the same list for every enumeration order of the count table: on tables
    with distinct bitmaps its comparator (count descending, bitmap descending) is a strict total
    order. -/
theorem C05_sortCounts_perm {l₁ l₂ : List (Nat × Nat)} (hp : l₁.Perm l₂) (hk : (l₁.map (·.1)).Nodup) :
    Slim.sortCounts l₁ = Slim.sortCounts l₂ := Slim.sortCounts_perm hp hk

/-- The tables `sortedBMCounts` is applied to (`innerBMCnt[nbit]`, built by `bumpCount`) always have
    distinct bitmaps, for every record array. -/
theorem C05_count_tables_nodup (t : Trie1) (n : Nat) : (((eCnts t).getD n []).map (·.1)).Nodup :=
  eCnts_nodup t n

/-- Whatever order each count table is enumerated in (Go iterates a map), the sorted tables are those of
    the model. -/
theorem C05_sorted_order_free (t : Trie1) (n : Nat) (l : List (Nat × Nat))
    (hp : ((eCnts t).getD n []).Perm l) : Slim.sortCounts l = Slim.sortCounts ((eCnts t).getD n []) :=
  (Slim.sortCounts_perm hp (eCnts_nodup t n)).symm

/-- No residue, one step: after a successful load the whole instance state is a function of the
    bytes (and encoder width) alone; after `Reset` it is constant. -/
theorem C05_no_residue_step (σ σ' : Instance) (e : Option Nat) (b : Bytes)
    (h : (Instance.unmarshal σ e b).2 = none) :
    (Instance.unmarshal σ e b).1 = (Instance.unmarshal σ' e b).1 ∧ Instance.reset σ = Instance.reset σ' :=
  ⟨Instance.unmarshal_state_indep σ σ' e b h, rfl⟩

/-- No residue, histories of any length: the state after a history that ends in a successful
    `unmarshal b` (or in `reset`) does not depend on the initial contents nor on the earlier
    operations. -/
theorem C05_no_residue (σ σ' : Instance) (ops ops' : List Op) (e : Option Nat) (b : Bytes)
    (h : (Instance.unmarshal (run σ ops) e b).2 = none) :
    run σ (ops ++ [.unmarshal e b]) = run σ' (ops' ++ [.unmarshal e b]) ∧
    run σ (ops ++ [.reset]) = run σ' (ops' ++ [.reset]) := by
  rw [run_append, run_append, run_append, run_append]
  exact ⟨Instance.unmarshal_state_indep _ _ e b h, rfl⟩

namespace C05

def exKeys : List Bytes := [[0x61], [0x61, 0x62], [0x62, 0xff]]
def exVals : List Bytes := [[1], [2], [3]]
def exOpt : Opt := { dedup := true, inner := true, leaf := true }

/-- A built trie (3 keys, stored prefixes, values) satisfies `Small` and its levels initialise:
    all hypotheses of `C05_roundtrip` hold, and the stream has 32 + 139 bytes. -/
theorem ex_hyps : ∃ t lv, build exKeys (some exVals) exOpt = .ok t ∧ Small t ∧
    Slim.initLevels (Slim.encode t) = .ok lv ∧ (marshalSlim (Slim.encode t)).length = 171 := by
  -- `Small` follows from the size of the input; levels and size are evaluated on `encodeEval`
  have h : (build exKeys (some exVals) exOpt).toOption.map (fun t =>
      (Slim.initLevels (Slim.encode t)).toOption.isSome && protoSizeSlim (Slim.encode t) == 139) =
      some true := by
    rw [encode_eq_eval]; decide +kernel
  match hb : build exKeys (some exVals) exOpt with
  | .ok t =>
    rw [hb] at h
    simp only [Except.toOption, Option.map_some, Option.some.injEq, Bool.and_eq_true, beq_iff_eq] at h
    match hl : Slim.initLevels (Slim.encode t) with
    | .ok lv =>
      exact ⟨t, lv, rfl, small_of_input _ _ _ t hb (by decide), hl, by rw [C05_size_trie, h.2]⟩
    | .error e => rw [hl] at h; cases h.1
  | .error e => rw [hb] at h; cases h

example : ∃ t, build exKeys (some exVals) exOpt = .ok t ∧
    unmarshalMsg (some 1) (marshalSlim (Slim.encode t)) = .ok (Slim.encode t) := by
  obtain ⟨t, lv, hb, hsm, hlv, _⟩ := ex_hyps
  exact ⟨t, hb, (C05_roundtrip _ _ _ t hb hsm (some 1) lv hlv {}).1⟩

/-- two enumeration orders of one count table -/
example : Slim.sortCounts [(5, 2), (9, 2), (3, 7)] = Slim.sortCounts [(3, 7), (9, 2), (5, 2)] :=
  C05_sortCounts_perm (by decide) (by decide)

/-- a history: load garbage, reset, then load — same state as loading into a fresh instance -/
example (b : Bytes) (h : (Instance.unmarshal (run {} [.unmarshal none [1, 2, 3], .reset]) (some 4) b).2 = none) :
    run {} ([.unmarshal none [1, 2, 3], .reset] ++ [.unmarshal (some 4) b]) = run {} ([] ++ [.unmarshal (some 4) b]) :=
  (C05_no_residue {} {} _ [] (some 4) b h).1

end C05

#print axioms C05_encode_wf
#print axioms C05_roundtrip
#print axioms C05_answers_identical
#print axioms C05_stable_trie
#print axioms C05_size_trie
#print axioms C05_deterministic
#print axioms C05_sortCounts_perm
#print axioms C05_count_tables_nodup
#print axioms C05_sorted_order_free
#print axioms C05_no_residue_step
#print axioms C05_no_residue
#print axioms C05.ex_hyps
