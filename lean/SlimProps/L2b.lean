import SlimProofs.TransportRender
import SlimProps.L2
import SlimProps.C12Closed
import SlimProps.C14
import SlimProps.C19
/-
  SlimProps.L2b — bit-level (L2) closed versions of C12, C14 and C19 (continuation of
  `SlimProps.L2`).

  * C12 `C12_get_exact_L2`, `C12_rangeget_exact_L2`: the index reads through the view of its own
        message `Slim.view si.msg` (`si.msg = Slim.encode si.t1` by `Index.new`).
  * C14 `C14_getInt_built`: on the encoding of every trie built with values of width `w`, the
        typed getter `GetIw` (which slices `Leaves.Bytes` directly) returns the two's-complement
        reading of what `Get` returns — the hypothesis `hleaf` of `C14.C14_getInt` discharged.
  * C19 `C19_render_eq_L2` (`String()` of the encoded trie is `String()` of the record array),
        `C19_total_L2`, `C19_each_node_once_L2`, `C19_leaf_lines_L2`.
-/

open Transport

open IndexExact Index in
/-- **C12 (Get) at L2.**  One offset per key: `SlimIndex.Get` through the bit-level view of the
    index's own message returns the stored record for every indexed key and not found for every
    other string. -/
theorem C12_get_exact_L2 (recs : List Record) (si : SlimIndex) (hnew : Index.new recs = .ok si)
    (hrange : ∀ r ∈ recs, InI64 r.offset) (hadj : AdjDistinct recs) :
    (∀ i (hi : i < recs.length),
      Index.get si (Slim.view si.msg) recs[i].key = .ok (some recs[i].value)) ∧
    (∀ q, (∀ r ∈ recs, r.key ≠ q) → Index.get si (Slim.view si.msg) q = .ok none) := by
  obtain ⟨hb, -, hmsg⟩ := new_ok_elim hnew
  simp only [hmsg, Index.get, L2_get_eq _ _ _ si.t1 hb]
  exact C12_get_exact_full recs si hnew hrange hadj

open IndexExact Index in
theorem C12_rangeget_exact_L2 (recs : List Record) (si : SlimIndex)
    (hnew : Index.new recs = .ok si) (hrange : ∀ r ∈ recs, InI64 r.offset) :
    (∀ i (hi : i < recs.length),
      Index.rangeGet si (Slim.view si.msg) recs[i].key = .ok (some recs[i].value)) ∧
    (∀ q, (∀ r ∈ recs, r.key ≠ q) → Index.rangeGet si (Slim.view si.msg) q = .ok none) := by
  obtain ⟨hb, -, hmsg⟩ := new_ok_elim hnew
  simp only [hmsg, Index.rangeGet, L2_rangeGet_eq _ _ _ si.t1 hb]
  exact C12_rangeget_exact_full recs si hnew hrange

/-- **C14 on built tries.**  Values all of width `w > 0`: for every key, `GetIw` on the encoded
    trie equals `Get` on the encoded trie followed by the two's-complement reading. -/
theorem C14_getInt_built (keys : List Bytes) (vs : List Bytes) (opt : Opt) (t : Trie1)
    (hb : build keys (some vs) opt = .ok t) (hne : keys ≠ []) (w : Nat) (hw : 0 < w)
    (hwidth : ∀ v ∈ vs, v.length = w) (key : Bytes) :
    Slim.getInt (Slim.encode t) w key
      = (get (L2view t) key).map (fun r => r.map (fun b => Slim.leSigned (b.getD []))) := by
  have hs := build_shape keys (some vs) opt t hb hne
  have hn : t.nodes.size ≠ 0 := by have := hs.nonempty; omega
  obtain ⟨helts, _, hm⟩ := build_elts_supplied keys vs opt t hb hne
  let es := t.leafKeyIdx.toList.map (fun i => vs.getD i [])
  have hes : ∀ e ∈ es, e.length = w := List.forall_mem_map.mpr fun i hi => hwidth _ (hm i hi)
  have hleaves : (Slim.encode t).leaves = Slim.newVLenArray es := by
    rw [Slim.encode_leaves t hn, helts]
  refine C14.C14_getInt (Slim.encode t) w hw es key hleaves hes ?_
  intro id hid
  have hid1 : getID t.view key = .ok (some id) := by
    rw [← L2_getID_eq keys (some vs) opt t hb key]; exact hid
  obtain ⟨a, ha, hleafid⟩ := getID_total keys (some vs) opt t hb key
  rw [ha] at hid1; cases hid1
  obtain ⟨ith, lp, hnode⟩ := hleafid id rfl
  obtain ⟨hlt, hnd⟩ := Array.getElem?_eq_some_iff.mp hnode
  exact ⟨ith, lp, by rw [getNode_encode t hs id hlt, hnd],
    by rw [List.length_map, Array.length_toList]; exact Tree.leaf_lt hs hnode⟩

/-- **C19 at L2**: a freshly encoded trie renders exactly like its record array. -/
theorem C19_render_eq_L2 (keys : List Bytes) (vals : Option (List Bytes)) (opt : Opt) (t : Trie1)
    (hb : build keys vals opt = .ok t) (fmtVal : Option Bytes → String) :
    Slim.toStringSlim (L2view t) fmtVal = Slim.toStringSlim t.view fmtVal := by
  obtain ⟨s, hs⟩ := C19_total keys vals opt t hb fmtVal
  rw [hs]
  exact toStringSlim_le (viewSim_built keys vals opt t hb) fmtVal s hs

theorem C19_total_L2 (keys : List Bytes) (vals : Option (List Bytes)) (opt : Opt) (t : Trie1)
    (hb : build keys vals opt = .ok t) (fmtVal : Option Bytes → String) :
    ∃ s, Slim.toStringSlim (L2view t) fmtVal = .ok s := by
  rw [C19_render_eq_L2 keys vals opt t hb]; exact C19_total keys vals opt t hb fmtVal

open Slim in
theorem C19_each_node_once_L2 (keys : List Bytes) (vals : Option (List Bytes)) (opt : Opt)
    (t : Trie1) (hb : build keys vals opt = .ok t) (hne : keys ≠ [])
    (fmtVal : Option Bytes → String) :
    ∃ lines, toStringSlim (L2view t) fmtVal = .ok ("\n".intercalate lines) ∧
      Forall2 (LineOf t.view fmtVal) lines (renderIds t.view (t.nodes.size + 1) 0) ∧
      lines.length = t.nodes.size ∧
      (renderIds t.view (t.nodes.size + 1) 0).Perm (List.range t.nodes.size) := by
  rw [C19_render_eq_L2 keys vals opt t hb]
  exact C19_each_node_once keys vals opt t hb hne fmtVal

open Slim Render C19 in
theorem C19_leaf_lines_L2 (keys : List Bytes) (vals : Option (List Bytes)) (opt : Opt)
    (t : Trie1) (hb : build keys vals opt = .ok t) (hne : keys ≠ [])
    (fmtVal : Option Bytes → String) :
    ∃ lines, toStringSlim (L2view t) fmtVal = .ok ("\n".intercalate lines) ∧
      Forall2
        (fun line m => ∃ (pre : String) (id : Nat), line = pre ++ ("#" ++ pad3 id ++ "=" ++
          fmtVal (recVal (keepMask keys.length vals opt.dedup) vals m)))
        (leafLinesOf t lines (renderIds t.view (t.nodes.size + 1) 0))
        ((List.range keys.length).filter (keptAt (keepMask keys.length vals opt.dedup))) := by
  rw [C19_render_eq_L2 keys vals opt t hb]
  exact C19_leaf_lines keys vals opt t hb hne fmtVal

/-! ### non-vacuity: the closed theorems instantiated on concrete builds -/
namespace L2b.Ex

/-- C12 at L2 on the block-offset example of `C12.Ex`: key 2 (`b\xe3`) shares offset 0 with
    key 1 and is de-duplicated away, yet `RangeGet` through the bit-level view + the reader
    return its own record -/
example : ∃ si, Index.new C12.Ex.recsBlock = .ok si ∧
    Index.rangeGet si (Slim.view si.msg) [0x62, 0xe3] = .ok (some [3]) := by
  obtain ⟨si, hsi⟩ := C12.Ex.new_ok _ C12.Ex.recsBlock_built
  exact ⟨si, hsi, (C12_rangeget_exact_L2 _ si hsi (by decide)).1 2 (by decide)⟩

/-- C14 and C19 at L2 on the 3-key build of `L2.Ex` (values of width 1), every option
    combination -/
example (o : Opt) : ∃ t, build L2.Ex.keys (some L2.Ex.vals) o = .ok t ∧
    (∀ key, Slim.getInt (Slim.encode t) 1 key
      = (get (L2view t) key).map (fun r => r.map (fun b => Slim.leSigned (b.getD [])))) ∧
    ∀ fmt, Slim.toStringSlim (L2view t) fmt = Slim.toStringSlim t.view fmt := by
  obtain ⟨t, ht⟩ := L2.Ex.build_ok o
  refine ⟨t, ht, fun key => ?_, fun fmt => C19_render_eq_L2 _ _ _ t ht fmt⟩
  exact C14_getInt_built L2.Ex.keys L2.Ex.vals o t ht (by simp [L2.Ex.keys]) 1 (by decide)
    (by intro v hv; simp [L2.Ex.vals] at hv; rcases hv with rfl | rfl <;> rfl) key

end L2b.Ex

#print axioms C12_get_exact_L2
#print axioms C12_rangeget_exact_L2
#print axioms C14_getInt_built
#print axioms C19_render_eq_L2
#print axioms C19_total_L2
#print axioms C19_each_node_once_L2
#print axioms C19_leaf_lines_L2
