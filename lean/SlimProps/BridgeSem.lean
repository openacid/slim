import SlimProps.BridgeSem.Common
import SlimProps.BridgeSem.Step
import SlimProps.BridgeSem.Label
import SlimProps.BridgeSem.GetInt
import SlimProps.BridgeSem.EncSizes
import SlimProps.BridgeSem.NormalizeOpt
import SlimProps.BridgeSem.Offsets
import SlimProps.BridgeSem.LeafIndex
import SlimProps.BridgeSem.ToKeep
import SlimProps.BridgeSem.StepToPos
import SlimProps.BridgeSem.ShortSize
import SlimProps.BridgeSem.StrCmp
import SlimProps.BridgeSem.EncCodec
import SlimProps.BridgeSem.LeftChild
import SlimProps.BridgeSem.VLen
import SlimProps.BridgeSem.ArrayGet
import SlimProps.BridgeSem.IndexGlue
import SlimProps.BridgeSem.Extern
import SlimProps.BridgeSem.VLenGet
import SlimProps.BridgeSem.LeftChildWhole
import SlimProps.BridgeSem.GetNode
import SlimProps.BridgeSem.DescentStep
import SlimProps.BridgeSem.LeafAccess
import SlimProps.BridgeSem.MostLoops
import SlimProps.BridgeSem.LegacyLeaf
import SlimProps.BridgeSem.LegacyChildren
import SlimProps.BridgeSem.LegacyPrefix
import SlimProps.BridgeSem.LegacyDispatch
/-
  SlimProps.BridgeSem — tie 1, semantic part: the small pure functions of the Go source, translated
  to Lean on every check run (lean/Generated/Funcs.lean, written by harness/cmd/extract/translate.go
  with the meaning of lean/Generated/GoSem.lean), are EQUAL to the model's functions, for all inputs.

  A harmless rewrite of the Go source changes Funcs.lean but not these theorems; a change of meaning
  breaks a proof.  The proofs therefore do not depend on the shape of the generated terms: they
  unfold the generated definition and the `Go.*` operations (`go_simp`) and close the remaining
  arithmetic (`/`, `%`, shifts and masks by literals) with `omega` or the word lemmas of `Common`.
  A Go function that other translated functions call is generated twice: `Generated.f_pat` returns its
  results as bit patterns (what a caller receives) and `Generated.f` converts the signed ones to `Int`
  (`Generated.memIncrOfShortSize_pat` — `memIncr_pat`, `Generated.cmpStrBytes_pat` — `cmpStrBytes_pat_sem`).

  Units: the Go functions count bits, the model counts half-bytes (bit position = 4 × position).

  One module per function family, so that a changed or untranslatable Go function breaks only the
  module (and the properties) that rely on it.  The bridge of `Generated.f` is named `f_sem`.
  Shared by the modules, and free of generated definitions:

    Common        `go_simp`; the `Go.*` operations on operands that fit their type are plain arithmetic;
                  signed values as residues (`Go.ofS`)
    Calc          what the bridges of loops and of whole functions share: a counting loop followed along its
                  trajectory (`forLoop`), `okOpt` and stepping under the `bind` both sides begin with; what the
                  fragment bridges Label, LeftChild share with LeftChildWhole
    PrintAxioms   the command `#print_axioms?`, for the Legacy* modules: a bridge whose subject is not
                  translatable on a changed tree is skipped, not failed

  The functions:

    Step          encStep, decStep and their round trip               (trie/slimtrie_create.go)
    Label         getLabelIdxOfKey                                     (trie/slimtrie_query.go)
    GetInt        the decoding in GetI8 / GetI16 / GetI32 / GetI64, with the index of the element
                                                                       (trie/slimtrie_getint.go)
    EncSizes      GetSize / GetEncodedSize of the fixed-width integer encoders       (package encode)
    NormalizeOpt  normalizeOpt                                         (trie/slimtrie.go)
    ToKeep        newToKeep, loops included                            (trie/slimtrie_create.go)
    StepToPos     stepToPos, loop included                             (trie/slimtrie_create.go)
    ShortSize     memIncrOfShortSize, findMinShortSize: the choice of `ShortSize`    (trie/slimtrie_create.go)
    Offsets       where the bitmap of an inner node starts: the fields `initVars` caches, `qr.from` in
                  getIthInnerFrom and getNode          (trie/slimtrie_vars.go, slimtrie_getnode.go, slimtrie_query.go)
    LeafIndex     getLeafIndex                                         (trie/slimtrie_query.go)
    StrCmp        cmpStrBytes, strCmpUpto                              (trie/strcmp.go)
    EncCodec      Encode / Decode of the fixed-width integer encoders  (encode/int.go, int8.go)
    LeftChild     the pieces of getLeftChildID on either side of `Rank128`; one step of leftMost / rightMost
    VLen          the arithmetic of (*VLenArray).get                   (trie/slimtrie_vlen_array.go)
    ArrayGet      the arithmetic of bmBit, (*Base).GetBytes, (*U16).Get             (array/base.go, array/int.go)
    IndexGlue     NewSlimIndex up to the call of trie.NewSlimTrie, the offset Get / RangeGet hand to the
                  reader                                               (index/index.go)

  WHOLE functions of the query path (`namespace Generated.W` of Funcs.lean: control skeleton, early
  returns, every nil / index / slice panic as `none`, the session `*querySession` as a record that is
  returned updated, calls between translated functions; the external functions of openacid/low by the
  ASSUMED specifications of Generated/GoSem.lean).  Each `_sem` equality equates the translated function
  with the model's function INCLUDING when it panics, under explicit well-formedness / no-`int32`-overflow
  hypotheses; `getNode_ok`, `sessionOf_decodes`, `getNode_inner_data` and the theorems of MostLoops speak
  about successful runs only:

    Extern          the assumed external semantics (`Go.rank64 / rank128 / select32R64`, `Go.sliceS`)
                    = `Bits.rank64 / rank128 / select32R64`, `Slim.sliceBytes`; the abstraction functions
                    absBitmap / absVLen / absSlim / absTrie / absInst; the example trie `exSlim`
    VLenGet         (*VLenArray).get = Slim.vlenGet
    LeftChildWhole  getLabelIdxOfKey, getLeftChildID = labelIdxOfKey, leftChildID
    GetNode         initVars, getLeafIndex, getLeafPrefix, getNode = `sessionOf` (rank64, Slim.getLeafPrefix,
                    Slim.innerFrom, the prefix block of Slim.getNode); the abstraction relation `Decodes`
                    session ↔ `Node` of Slim.getNode
    DescentStep     getNode then getLeftChildID = leftChildID of the model's node
    LeafAccess      getIthLeafBytes, cmpLeafPrefix; the assumed bytes.Compare = cmpBytes
    MostLoops       rightMost, leftMost (the loops `for { …getNode…; break … }` as fuel-recursive
                    definitions; one direction: when the model's descent ends in a leaf within the fuel, the Go
                    loop returns that leaf within the same fuel).  NOT an obligation of any property (DESIGN.md):
                    two archived harmless rewrites of the source break these proofs; `leftMost` / `rightMost` are
                    tied by the one-step bridges of `LeftChild` and by the differential runs.

  The LEGACY LOADER of trie/slimtrie_marshal.go (data written by 0.5.0 … 0.5.11), same W-mode (plus:
  assignments through a local pointer that is an alias of a path `st.inner.Leaves`, `for` loops with a
  header, `make`, element assignment, division by a non-constant with its panic, the outcome of
  `st.encoder.GetEncodedSize(nil)` as an implicit parameter):

    LegacyLeaf      before000512FixLeafSize = Legacy.fixLeafSize (panics included; range hypotheses
                    `FixLeafFits`); the assumed bitmap.Of, IndexRank64, trie.newBM = Bits.ofIdx,
                    Bits.indexRank64, Bits.newBM
    LegacyChildren  (`namespace Generated.WL`: package trie checked against the source of package array)
                    bmhas, (*array.U16).Get = Legacy.u16Get, getStepBefore000510 = 4 × Legacy.getStep,
                    getBM16Child = Legacy.getBM16Child (both children encodings)
    LegacyPrefix    before000512InnerPrefixTobitstr = Legacy.innerPrefixTobitstr (loop and panics included;
                    the slice `old := ips.Bytes[from:to]` is a view, `copy(old, …)` updates the bytes in place),
                    the per-prefix step = Legacy.convertOne; the assumed bitstr.New, bits.TrailingZeros8
    LegacyDispatch  (`namespace Generated.WP`: DECISION SKELETONS — the loader steps of `Unmarshal` /
                    `before000510` as a function of `vers.Check` / `vers.IsCompatible`) = `unmarshalDispatch`
                    (SlimModel/Marshal.lean) / Legacy.unmarshalMsg: which loader runs, in which order
-/
