import SlimProofs.Transport
import SlimProps.C10Agree
/-
  SlimProps.L2Transport — `L2view t = Slim.view (Slim.encode t)`, the bit-level view of the `Slim`
  message that `creator.build` produces, and the part of C10 at L2 that needs no fact about the
  build: what `Transport.viewSim_encode` gives from `hf : Transport.EncodeFacts t` (the three
  bit-level facts, proved for every built trie in SlimProps/L2.lean) taken as a hypothesis.

  * `C10_rangeGet_extends_get_L2`, `C10_search_hit_of_get_hit_L2`: the any-view theorems of
    `SlimProps.C10Agree` at `L2view t`;
  * `C10_searchID_eq_getID_L2_of`, `C10_search_eq_get_L2_of`: whenever the L1 lookups return
    normally, the L2 lookups return the same answers, and these agree;
  * `L2_iterNext_of`: one `next()` of the iterator.
  The lookups and scans themselves are carried over by `Transport.*_le` along `viewSim_built`
  (SlimProps/L2.lean, L2c.lean).
-/

/-- the bit-level view of the message `creator.build` produces for `t` -/
abbrev L2view (t : Trie1) : View := Slim.view (Slim.encode t)

open Transport

theorem L2_iterNext_of (t : Trie1) (hf : EncodeFacts t) (withValue : Bool) (st : Scan.IterState)
    (r : Scan.IterState × Option Bytes × Option Bytes)
    (h : Scan.iterNext t.view withValue st = .ok r) :
    Scan.iterNext (L2view t) withValue st = .ok r :=
  iterNext_le (viewSim_encode t hf) withValue st r h

/-- any-view part of C10, instantiated at L2 (no hypothesis on the encoding needed) -/
theorem C10_rangeGet_extends_get_L2 (t : Trie1) (key : Bytes) (x : Option Bytes)
    (y : Option (Option Bytes))
    (hg : get (L2view t) key = .ok (some x)) (hr : rangeGet (L2view t) key = .ok y) :
    y = some x :=
  C10_rangeGet_extends_get (L2view t) key x y hg hr

theorem C10_search_hit_of_get_hit_L2 (t : Trie1) (key : Bytes) (x : Option Bytes)
    (y : Option (Option Bytes) × Option (Option Bytes) × Option (Option Bytes))
    (hg : get (L2view t) key = .ok (some x)) (hs : search (L2view t) key = .ok y) :
    y.2.1 = some x :=
  C10_search_hit_of_get_hit (L2view t) key x y hg hs

/-- C10 (ids) at L2: on the encoding of every built trie, for every query key on which the L1
    lookups return normally, the L2 lookups return the same answers, and the exact-match id of
    `searchID` is `GetID`'s answer. -/
theorem C10_searchID_eq_getID_L2_of (keys : List Bytes) (vals : Option (List Bytes)) (opt : Opt)
    (t : Trie1) (hb : build keys vals opt = .ok t) (hf : EncodeFacts t) (key : Bytes)
    (a : Option Nat) (b : Option Nat × Option Nat × Option Nat)
    (hg : getID t.view key = .ok a) (hs : searchID t.view key = .ok b) :
    getID (L2view t) key = .ok a ∧ searchID (L2view t) key = .ok b ∧ b.2.1 = a :=
  ⟨getID_le (viewSim_encode t hf) key a hg, searchID_le (viewSim_encode t hf) key b hs,
    C10_searchID_eq_getID keys vals opt t hb key a b hg hs⟩

theorem C10_search_eq_get_L2_of (keys : List Bytes) (vals : Option (List Bytes)) (opt : Opt)
    (t : Trie1) (hb : build keys vals opt = .ok t) (hf : EncodeFacts t) (key : Bytes)
    (a : Option (Option Bytes))
    (y : Option (Option Bytes) × Option (Option Bytes) × Option (Option Bytes))
    (hg : get t.view key = .ok a) (hs : search t.view key = .ok y) :
    get (L2view t) key = .ok a ∧ search (L2view t) key = .ok y ∧ y.2.1 = a :=
  ⟨get_le (viewSim_encode t hf) key a hg, search_le (viewSim_encode t hf) key y hs,
    C10_search_eq_get keys vals opt t hb key a y hg hs⟩

/-! ### non-vacuity

  * `EncodeFacts` is satisfiable: proved here for the empty trie, and in SlimProps/L2.lean for every
    trie that `build` returns (`encodeFacts_of_build`, `encodeFacts_built`).  The `#guard`s below
    evaluate the three facts in the interpreter (a build-time test, used by no theorem) on a concrete
    five-key trie in three option modes, together with the agreement of the L1 and L2 answers of `Get`
    that the theorems above predict.
  * the hypotheses of the transport lemmas (`ViewSim`) are satisfiable: `viewSim_encode`. -/
namespace L2Transport.Ex

theorem encodeFacts_empty (opt : Opt) : EncodeFacts (Trie1.empty opt) where
  node := by intro id h; simp [Trie1.empty] at h
  leaf := by
    intro ith r h
    simp only [Trie1.view, Trie1.empty] at h
    simpa [Slim.view, Slim.encode, Trie1.empty] using h
  cnt := by simp [Trie1.empty]

def keys : List Bytes := [[0x61], [0x61, 0x62], [0x61, 0x80, 0x01], [0x62, 0xff], [0xf0]]
def vals : List Bytes := [[1], [1], [2], [2, 0], [3]]

/-- the decidable content of `EncodeFacts` on a concrete trie: every node decodes to its record,
    every leaf ordinal returns the L1 bytes, the bitmap covers the nodes; and the L2 lookups of
    every key return what the L1 lookups return -/
def check (opt : Opt) : Bool :=
  match build keys (some vals) opt with
  | .error _ => false
  | .ok t =>
    (List.range t.nodes.size).all (fun id =>
      match Slim.getNode (Slim.encode t) id, t.nodes[id]? with
      | .ok a, some b => a == b
      | _, _ => false) &&
    (List.range (t.leafKeyIdx.size + 1)).all (fun ith =>
      match t.view.leafBytes ith with
      | .ok r => (match (L2view t).leafBytes ith with | .ok r' => r == r' | _ => false)
      | .error _ => true) &&
    decide (t.nodes.size ≤ Slim.nodeCount (Slim.encode t)) &&
    keys.all (fun k =>
      match get t.view k, get (L2view t) k with
      | .ok a, .ok b => a == b
      | _, _ => false)

#guard check {}
#guard check { dedup := true, inner := true, leaf := true }
#guard check { dedup := false, inner := false, leaf := true }

end L2Transport.Ex

#print axioms C10_rangeGet_extends_get_L2
#print axioms C10_search_hit_of_get_hit_L2
#print axioms C10_searchID_eq_getID_L2_of
#print axioms C10_search_eq_get_L2_of
