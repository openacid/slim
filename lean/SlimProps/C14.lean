import SlimModel.Slim
import SlimModel.Encode
import SlimProofs.VLen
import SlimProofs.GetInt
/-
  Property C14 — typed integer getters agree with Get.

  Model: `Slim.getInt s w key` (Go `GetI8/16/32/64`, `w` = 1, 2, 4, 8: `Leaves.Bytes[ith*w : ith*w+w]`
  read directly, little endian, sign by the Go conversion `Slim.leSigned`) against
  `get (Slim.view s) key` (Go `Get`: `getLeaf` → `VLenArray.get`).

  `C14_getInt`: for a message whose `leaves` is `newVLenArray elts` with every element exactly `w`
  bytes (`w > 0`) — what the matching integer encoder produces, `C14_encoder_width` — and for EVERY
  key: the same error, the same found flag, and the number `getInt` returns is the two's-complement
  value of the bytes `Get` returns.  The theorem does not care which elements are in `elts`
  (with de-duplicated values `elts` is just a shorter list) nor how the message was obtained
  (built or loaded).  Hypothesis `hleaf`: the id reported by `GetID` decodes as a leaf whose ordinal
  is inside the value array; it is discharged for built tries by `C14_getInt_built` (L2b.lean) and for
  loaded ones by `C14_getInt_loaded` (Loaded.lean).

  `C14_leSigned_leBytes` / `C14_getInt_value`: together with C15 (`Encode.encodeS w v =
  leBytes w (v mod 2^(8w))`), the typed getter returns the supplied integer, over the full range.
-/
namespace C14
open Slim Bits

/-- C14: `GetIw` = `Get` followed by the two's-complement reading of the returned bytes. -/
theorem C14_getInt (s : SlimMsg) (w : Nat) (hw : 0 < w) (elts : List Bytes) (key : Bytes)
    (hleaves : s.leaves = newVLenArray elts) (hwidth : ∀ e ∈ elts, e.length = w)
    (hleaf : ∀ id, getID (view s) key = .ok (some id) →
      ∃ ith lp, getNode s id = .ok (.leaf ith lp) ∧ ith < elts.length) :
    getInt s w key
      = (_root_.get (view s) key).map (fun r => r.map (fun b => leSigned (b.getD []))) :=
  getInt_eq_get s w hw elts key hleaves hwidth hleaf

/-- The typed getter inverts the little-endian two's-complement layout of C15 on the whole range
    of the `w`-byte integer type. -/
theorem C14_leSigned_leBytes (w : Nat) (hw : 1 ≤ w) (v : Int)
    (hv : -(2 : Int) ^ (8 * w - 1) ≤ v ∧ v < (2 : Int) ^ (8 * w - 1)) :
    leSigned (leBytes w (v % (2 : Int) ^ (8 * w)).toNat) = v :=
  leSigned_encodeS hw hv

/-- The matching encoders (`encode.I8`, `I16`, `I32`, `I64`; C15 layout theorems) produce exactly
    `w` bytes: `leBytes w (v mod 2^(8w))`. -/
theorem C14_encoder_width (w : Nat) (v : Int) :
    (Encode.sintCodec w).encode v = .ok (leBytes w (v % (2 : Int) ^ (8 * w)).toNat) ∧
    (leBytes w (v % (2 : Int) ^ (8 * w)).toNat).length = w :=
  ⟨rfl, Encode.leBytes_length w _⟩

/-- C14 with the values in view: when the stored elements are the encodings of the integers `vs`
    (any list: all values, or the de-duplicated ones), the typed getter returns the integer stored
    at the leaf ordinal `GetID` arrives at, and `Get` returns its encoding. -/
theorem C14_getInt_value (s : SlimMsg) (w : Nat) (hw : 1 ≤ w) (vs : List Int) (key : Bytes)
    (hleaves : s.leaves = newVLenArray (vs.map (Encode.encodeS w)))
    (hdom : ∀ v ∈ vs, Encode.InS w v)
    (id ith : Nat) (lp : Option Bytes) (hid : getID (view s) key = .ok (some id))
    (hnode : getNode s id = .ok (.leaf ith lp)) (hith : ith < vs.length) :
    getInt s w key = .ok (some vs[ith]) ∧
    _root_.get (view s) key = .ok (some (some (Encode.encodeS w vs[ith]))) := by
  have h := getInt_leaf s w hw _ key hleaves
    (List.forall_mem_map.mpr fun v _ => Encode.leBytes_length w _) hid hnode
    (by rwa [List.length_map])
  rwa [List.getElem_map, leSigned_encodeS hw (hdom _ (List.getElem_mem hith))] at h

/-- A one-key trie holding the int16 value −2: one node (a leaf), no inner node. -/
def sample : SlimMsg :=
  { nodeTypeBM := some (newBM [] 1 "r64"), leaves := newVLenArray [Encode.encodeS 2 (-2)] }

private theorem ok_of_toOption {ε α : Type} {x : Except ε α} {a : α}
    (h : x.toOption = some a) : x = .ok a := by
  cases x with
  | error e => cases h
  | ok b => cases h; rfl

private theorem sample_getID : (getID (view sample) [0x61]).toOption = some (some 0) := by
  decide +kernel
private theorem sample_getNode : (getNode sample 0).toOption = some (.leaf 0 none) := by
  decide +kernel

example : (getID (view sample) [0x61]).toOption = some (some 0) := sample_getID
example : (getNode sample 0).toOption = some (.leaf 0 none) := sample_getNode
example : Encode.InS 2 (-2) := by decide

example : getInt sample 2 [0x61] = .ok (some (-2)) :=
  (C14_getInt_value sample 2 (by decide) [-2] [0x61] rfl (by decide) 0 0 none
    (ok_of_toOption sample_getID) (ok_of_toOption sample_getNode) (by decide)).1

end C14

#print axioms C14.C14_getInt
#print axioms C14.C14_leSigned_leBytes
#print axioms C14.C14_encoder_width
#print axioms C14.C14_getInt_value
