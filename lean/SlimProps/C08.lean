import SlimModel.Build
/-
  SlimProps.C08 — construction is all-or-nothing (order half).

  `C08_order`: a non-empty key list is rejected with the out-of-order error exactly when it is
  not strictly ascending in Go string order (a duplicate or an inversion at any position), and
  the order error never comes from anywhere else.
  An error result carries no trie: the model's `Except` has no partial value (the harness checks
  `st == nil` on the Go side).
  `strictAsc_iff_neighbours`: `strictAsc` is the usual "each neighbour strictly below the next".

  The acceptance half is SlimProps.C08Accept; that no accepted key is lost is C01.
-/

theorem ite_ne {α : Type} {c : Prop} [Decidable c] {a b e : α} (ha : a ≠ e) (hb : b ≠ e) :
    (if c then a else b) ≠ e := by
  split <;> assumption

/-- each of the four results of `buildStep` (leaf, two refusals, inner node) is another value -/
theorem buildStep_not_outOfOrder (c : BCtx) (st : BSt) (o : Subset) :
    buildStep c st o ≠ .error .outOfOrder :=
  ite_ne (by simp) (ite_ne (by simp) (ite_ne (by simp) (by simp)))

theorem buildLoop_not_outOfOrder (c : BCtx) (fuel i : Nat) (st : BSt) :
    buildLoop c fuel i st ≠ .error .outOfOrder := by
  induction fuel generalizing i st with
  | zero =>
    unfold buildLoop
    split <;> simp
  | succ n ih =>
    unfold buildLoop
    split
    · split
      · exact ih _ _
      · rename_i e he
        intro h
        injection h with h
        subst h
        exact buildStep_not_outOfOrder c st _ he
    · simp

theorem build_go_not_outOfOrder (keys : List Bytes) (vals : Option (List Bytes)) (opt : Opt) (n : Nat) :
    build.go keys vals opt n ≠ .error .outOfOrder := by
  unfold build.go
  simp only []
  split
  · rename_i e he
    intro h
    injection h with h
    subst h
    exact buildLoop_not_outOfOrder _ _ _ _ he
  · simp

/-- C08 (order): for a non-empty key list, `build` (= Go `newSlim`) returns the out-of-order error iff the list
    is not strictly ascending. -/
theorem C08_order (keys : List Bytes) (vals : Option (List Bytes)) (opt : Opt) (hne : keys ≠ []) :
    build keys vals opt = .error .outOfOrder ↔ strictAsc keys = false := by
  have hn : keys.length ≠ 0 := by
    intro h; exact hne (List.length_eq_zero_iff.mp h)
  unfold build
  simp only [hn, if_false]
  cases hs : strictAsc keys with
  | false => simp
  | true =>
    simp only [Bool.not_true, Bool.false_eq_true, if_false]
    constructor
    · intro h
      exfalso
      cases vals with
      | none => exact build_go_not_outOfOrder _ _ _ _ h
      | some vs =>
        simp only [] at h
        split at h
        · simp at h
        · exact build_go_not_outOfOrder _ _ _ _ h
    · intro h; cases h

/-- The empty key list is always accepted (and gives the empty trie). -/
theorem C08_empty (vals : Option (List Bytes)) (opt : Opt) :
    build [] vals opt = .ok (Trie1.empty opt) := by
  simp [build]

theorem strictAsc_cons_cons (a b : Bytes) (rest : List Bytes) :
    strictAsc (a :: b :: rest) = (bytesLt a b && strictAsc (b :: rest)) := by
  simp [strictAsc]

theorem strictAsc_iff_neighbours (keys : List Bytes) :
    strictAsc keys = true ↔
      ∀ i, i + 1 < keys.length → bytesLt (keys.getD i []) (keys.getD (i + 1) []) = true := by
  induction keys with
  | nil => simp [strictAsc]
  | cons a rest ih =>
    cases rest with
    | nil => simp [strictAsc]
    | cons b rest' =>
      rw [strictAsc_cons_cons, Bool.and_eq_true, ih]
      -- index `i + 1` of `a :: l` is index `i` of `l`, definitionally
      constructor
      · rintro ⟨h1, h2⟩ i hi
        cases i with
        | zero => exact h1
        | succ j => exact h2 j (Nat.lt_of_succ_lt_succ hi)
      · intro h
        exact ⟨h 0 (Nat.succ_lt_succ (Nat.zero_lt_succ _)), fun i hi => h (i + 1) (Nat.succ_lt_succ hi)⟩

/-- non-vacuity: a rejected and an accepted concrete list (bytes ≥ 0x80 order unsigned) -/
example : build [[0x80], [0x7f]] none {} = .error .outOfOrder := by
  rw [C08_order _ _ _ (by simp)]; decide
example : strictAsc [[0x7f], [0x80], [0x80, 0x00]] = true := by decide

#print axioms C08_order
#print axioms C08_empty
#print axioms strictAsc_iff_neighbours
