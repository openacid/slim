import SlimProps.C07
import SlimProps.C06Input
import SlimProofs.InputSmall
/-
  Property C07, with hypotheses about the USER'S INPUT only.

  `C07_truncated` / `C07_rejected_prefix` speak about any message `m` whose body can be allocated
  (`BodyOK (encodeSlim m)`).  For the streams users actually have — `Marshal` of a trie built from their
  keys and values, and the 0.5.10 / 0.5.11 streams of such a trie — that bound follows from
  `InputSmall keys vals` (`small_of_input`, `bodyOK_0510_of_input`), i.e. from
  `514·n + key bytes + value bytes + 64 < 2^31`.  Per layout, for a write interrupted at ANY byte:

    * current layout (`C07_truncated_input`, `C07_truncated_input_empty`): within `InputSmall`, the prefix is
      rejected with the truncation error by `Unmarshal` into any instance with any encoder, and the instance
      afterwards is empty and answers `getID`, `get`, `rangeGet`, `search` and `scanFrom` as the empty trie;
    * 0.5.10 / 0.5.11 (`C07_truncated_0510_input`): for a non-empty key list within `InputSmall`, the prefix is
      rejected with the truncation error (nothing is stated about the instance afterwards);
    * 0.5.0 … 0.5.9 (`C07_truncated_3section_input`): under the section bounds `hw`, `hcount`, `hwn` (not
      `InputSmall`), the prefix is rejected with SOME error (nothing is stated about the instance afterwards,
      nor which error: the statement does not exclude `Err.panic`, the model's rendering of a Go panic).  That
      it is the truncation error, and the instance afterwards empty, is `C06_truncated_legacy3_stream`, under
      `BodyOK` of the three sections.

  No hypothesis bounds the built trie, the message or the stream: `hb`, `hwr` and `hcut` only name them.
-/
open Wire Frame Version Legacy LegacyWrite LegacyConvert Refine EmptyView

/-- **current layout**: every strict prefix of `Marshal(NewSlimTrie(keys, vals, opt))` is rejected as a short read. -/
theorem C07_truncated_input (keys : List Bytes) (vals : Option (List Bytes)) (opt : Opt) (t : Trie1)
    (hb : build keys vals opt = .ok t) (hi : InputSmall keys vals) (e : Option Nat) (cut : Nat)
    (hcut : cut < (marshalSlim (Slim.encode t)).length) :
    unmarshalMsg e ((marshalSlim (Slim.encode t)).take cut) = .error .truncated :=
  C07_rejected_prefix e (Slim.encode t) (small_of_input keys vals opt t hb hi).body cut hcut

/-- **current layout**: after `Unmarshal` of a strict prefix of `Marshal(NewSlimTrie(keys, vals, opt))` the
    instance — whatever it held before — is empty: the load reports the truncation error, and `getID`, `get`,
    `rangeGet`, `search` and `scanFrom` answer as on the empty trie. -/
theorem C07_truncated_input_empty (keys : List Bytes) (vals : Option (List Bytes)) (opt : Opt) (t : Trie1)
    (hb : build keys vals opt = .ok t) (hi : InputSmall keys vals) (σ : Instance) (e : Option Nat) (cut : Nat)
    (hcut : cut < (marshalSlim (Slim.encode t)).length) :
    let r := Instance.unmarshal σ e ((marshalSlim (Slim.encode t)).take cut)
    let v := Slim.view r.1.inner
    r.2 = some .truncated ∧ r.1.inner = {} ∧
    (∀ q, getID v q = .ok none) ∧ (∀ q, _root_.get v q = .ok none) ∧ (∀ q, rangeGet v q = .ok none) ∧
    (∀ q, search v q = .ok (none, none, none)) ∧
    (∀ start incl withValue keep stopAfter, Scan.scanFrom v start incl withValue keep stopAfter = .ok []) := by
  intro r v
  have h := C07_truncated_input keys vals opt t hb hi e cut hcut
  have h1 := C07_empty_after_reject σ e _ _ h
  have h2 := C07_answers_empty σ e _ _ h
  exact ⟨h1.1, h1.2, h2.1, h2.2.1, h2.2.2.1, h2.2.2.2.1, h2.2.2.2.2.2.2.1⟩

/-- **0.5.10 / 0.5.11 layout**: every strict prefix of the stream an old writer produced for the user's keys and
    values is rejected as a short read. -/
theorem C07_truncated_0510_input (mode ver : String) (keys vals : List Bytes) (stream : Bytes)
    (hwr : write0510 mode ver keys vals = .ok stream) (hk : keys ≠ []) (hi : InputSmall keys (some vals))
    (e : Option Nat) (cut : Nat) (hcut : cut < stream.length) :
    unmarshalMsg e (stream.take cut) = .error .truncated := by
  obtain ⟨opt, t, hmode, hver, hb⟩ := InputLegacy.write0510_inv mode ver keys vals stream hwr hk
  cases hwr.symm.trans (C06_write0510_stream mode ver keys vals opt t hmode hver hk hb)
  have hne : t.nodes.size ≠ 0 := Nat.ne_of_gt (build_shape keys (some vals) opt t hb hk).nonempty
  exact (C06_truncated_0510 ver hver _
    (Refine.encode_eq t hne ▸ bodyOK_0510_of_input keys (some vals) opt t hb hk hi) e cut hcut {}).1

/-- **three-section layouts (0.5.0 … 0.5.9)**: every strict prefix of the stream an old writer produced for the
    user's keys and fixed-width values is rejected with an error, never loaded (which error is not stated).
    Hypotheses: those of `C06_load_legacy_3section` that bound the sections (`hcount`, `hw`, `hwn`), nothing
    about the stream. -/
theorem C07_truncated_3section_input (variant : String) (keys vals : List Bytes) (w : Nat) (stream : Bytes)
    (hwr : writeLegacy3 variant keys vals = .ok stream)
    (hw : ∀ v ∈ vals, v.length = w) (hcount : 32 * keys.length + 143 < 2 ^ 31)
    (hwn : w * (2 * keys.length + 1) < 2 ^ 31) (e : Option Nat) (cut : Nat) (hcut : cut < stream.length) :
    ∃ err, unmarshalMsg e (stream.take cut) = .error err := by
  obtain ⟨vr, ch, st, lv, hp, hsec, hstream⟩ := writeLegacy3_inv variant keys vals stream hwr
  obtain ⟨hbc, hbs, hbl⟩ := sections3_bodyOK vr keys vals w ch st lv hsec hcount hw hwn
  have hv := version_legacy vr.header (parseVariant_header variant vr hp)
  subst hstream
  exact C07_rejected_prefix_legacy3 e vr.header vr.header vr.header hv.1 hv.1 hv.1 hv.2.1 hv.2.2 _ _ _ hbc hbs hbl cut hcut

example : InputSmall [[0x61], [0x61, 0x62], [0x62]] (some [[1, 0, 0, 0], [2, 0, 0, 0], [3, 0, 0, 0]]) := by decide

#print axioms C07_truncated_input
#print axioms C07_truncated_3section_input
#print axioms C07_truncated_input_empty
#print axioms C07_truncated_0510_input
