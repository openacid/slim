import SlimModel.Scan
import SlimProofs.Refine.Enc
/-
  SlimProps.C04 — scans: the refusal clause and the shape of exhaustion.

  `C04_refuses_*`: on a non-empty trie whose view does not pass the scan guard, every scan API
  panics with the "incomplete slim" message before yielding anything — stated over an arbitrary
  `View`, then specialised to L1 (`Trie1.view`: guard = `opt.inner && opt.leaf`, i.e. every
  option set with ¬(inner ∧ leaf) refuses) and to L2 (`Slim.view (Slim.encode t)`: the guard the Go
  code evaluates on the message — `InnerPrefixes != nil && InnerPrefixes.PositionBM != nil &&
  LeafPrefixes != nil` — is the same boolean).
  `C04_exhausted_stable`: once `next()` has reported exhaustion it reports it on every later call.

  What scans yield on Complete tries (`C04_iter`, `C04_scanFrom`, `C04_scanFromTo`) is in
  SlimProps.C04Iter.
-/
open Scan

def refusal : Err :=
  .panic "incomplete slim does not support scanning. requires InnerPrefixes and LeafPrefixes"

theorem C04_refuses_getGEPath (v : View) (key : Bytes) (hne : v.isEmpty = false) (hg : v.scanOK = false) :
    getGEPath v key = .error refusal := by
  unfold getGEPath
  simp [hne, hg, refusal, bind, Except.bind, pure, Except.pure]

theorem C04_refuses_NewIter (v : View) (start : Bytes) (incl : Bool)
    (hne : v.isEmpty = false) (hg : v.scanOK = false) :
    newIterFrom v start incl = .error refusal := by
  unfold newIterFrom
  simp [C04_refuses_getGEPath v start hne hg, bind, Except.bind]

theorem C04_refuses_ScanFrom (v : View) (start : Bytes) (incl withVal : Bool) (keep : Bytes → Bool)
    (stop : Option Nat) (hne : v.isEmpty = false) (hg : v.scanOK = false) :
    scanFrom v start incl withVal keep stop = .error refusal := by
  unfold scanFrom
  simp [C04_refuses_NewIter v start incl hne hg, bind, Except.bind]

theorem C04_refuses_ScanFromTo (v : View) (start : Bytes) (incl : Bool) (stop : Bytes) (inclEnd withVal : Bool)
    (stopAfter : Option Nat) (hne : v.isEmpty = false) (hg : v.scanOK = false) :
    scanFromTo v start incl stop inclEnd withVal stopAfter = .error refusal := by
  unfold scanFromTo
  exact C04_refuses_ScanFrom v start incl withVal _ stopAfter hne hg

/-- L1: the guard is exactly "stores both kinds of prefix": every option set with ¬(inner ∧ leaf)
    refuses, every other one passes the guard. -/
theorem C04_guard_L1 (t : Trie1) : t.view.scanOK = (t.opt.inner && t.opt.leaf) := rfl

theorem C04_guard_normalize (d i l c : Option Bool) :
    let o := Opt.normalize d i l c
    (o.inner && o.leaf) = (c.getD false || (i.getD false && l.getD false)) := by
  cases c with
  | none => simp [Opt.normalize]
  | some c => cases c <;> simp [Opt.normalize]

/-- L2: the guard evaluated on the message `creator.build` produces is the same boolean
    (`creator.build` writes `InnerPrefixes.PositionBM` iff `opt.inner` and `LeafPrefixes` iff
    `opt.leaf`). -/
theorem C04_guard_L2 (t : Trie1) (hne : t.nodes.size ≠ 0) :
    (Slim.view (Slim.encode t)).scanOK = (t.opt.inner && t.opt.leaf) :=
  Refine.view_encode_scanOK t hne

theorem C04_nonempty_L2 (t : Trie1) (hne : t.nodes.size ≠ 0) :
    (Slim.view (Slim.encode t)).isEmpty = false :=
  (Refine.view_encode_isEmpty t).trans (beq_eq_false_iff_ne.mpr hne)

/-- the guard on the message of any record array, empty or not: `&Slim{}` has no prefix arrays -/
theorem scanOK_encode (t : Trie1) :
    (Slim.view (Slim.encode t)).scanOK = (t.nodes.size != 0 && (t.opt.inner && t.opt.leaf)) := by
  by_cases hne : t.nodes.size = 0
  · unfold Slim.encode
    rw [if_pos hne, hne]
    rfl
  · rw [C04_guard_L2 t hne, bne_iff_ne.mpr hne, Bool.true_and]

/-- Every scan API refuses on the bit-level trie built with any option set with ¬(inner ∧ leaf). -/
theorem C04_refuses (t : Trie1) (hne : t.nodes.size ≠ 0) (hinc : (t.opt.inner && t.opt.leaf) = false)
    (start stop : Bytes) (incl inclEnd withVal : Bool) (stopAfter : Option Nat) :
    let v := Slim.view (Slim.encode t)
    newIterFrom v start incl = .error refusal ∧
    scanFrom v start incl withVal (fun _ => true) stopAfter = .error refusal ∧
    scanFromTo v start incl stop inclEnd withVal stopAfter = .error refusal := by
  have h1 := C04_nonempty_L2 t hne
  have h2 : (Slim.view (Slim.encode t)).scanOK = false := by rw [C04_guard_L2 t hne, hinc]
  exact ⟨C04_refuses_NewIter _ _ _ h1 h2, C04_refuses_ScanFrom _ _ _ _ _ _ h1 h2,
    C04_refuses_ScanFromTo _ _ _ _ _ _ _ h1 h2⟩

/-- Exhaustion is stable: after a call that returned no key, every later call returns no key
    and leaves the state unchanged. -/
theorem C04_exhausted_stable (v : View) (withVal : Bool) (s s' : IterState) (val : Option Bytes)
    (h : iterNext v withVal s = .ok (s', none, val)) :
    iterNext v withVal s' = .ok (s', none, none) ∧ val = none := by
  -- the two states from which a call returns no key are fixed points of `iterNext`; from every
  -- other state a call that returns at all returns `some` key
  match s with
  | .single _ _ true | .walk [] _ => cases h; exact ⟨rfl, rfl⟩
  | .single id buf false =>
    change (v.node id >>= _) = _ at h
    generalize v.node id = n at h
    match n with
    | .error _ | .ok (.inner _) => cases h
    | .ok (.leaf ith _) =>
      change (leafValue v withVal ith >>= _) = _ at h
      generalize leafValue v withVal ith = x at h
      cases x <;> cases h
  | .walk (e :: rest) buf =>
    change (descend v withVal _ _ _ >>= _) = _ at h
    generalize descend v withVal _ _ _ = x at h
    cases x <;> cases h

/-- non-vacuity: a LeafPrefix-only trie over two keys refuses; its Complete sibling does not -/
example : (build [[0x61], [0x62]] none { leaf := true }).toOption.map
    (fun t => (Slim.view (Slim.encode t)).scanOK) = some false := by
  simp only [scanOK_encode]; decide +kernel
example : (build [[0x61], [0x62]] none { inner := true, leaf := true }).toOption.map
    (fun t => (Slim.view (Slim.encode t)).scanOK) = some true := by
  simp only [scanOK_encode]; decide +kernel

#print axioms C04_refuses
#print axioms C04_refuses_getGEPath
#print axioms C04_guard_L1
#print axioms C04_guard_L2
#print axioms C04_guard_normalize
#print axioms C04_exhausted_stable
