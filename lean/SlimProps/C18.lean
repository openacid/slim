import SlimProofs.StatLemmas
import SlimProofs.LeafCount
import SlimProps.C08Accept
import SlimProps.C05Wire
/-
  SlimProps.C18 — "Stat reports the exact key count and consistent level totals".

  Objects: `Slim.initLevels` (= Go `initLevels`, slimtrie_level.go) and `Slim.stat` (= `Stat()`)
  of SlimModel/Stat.lean, on the message `s = Slim.encode t` of a built trie
  (`build keys vals opt = .ok t`), `N = t.nodes.size`, `I` = number of inner nodes.

  Claimed: `initLevels` never panics and its fuel suffices, the empty key list included
  (`C18_initLevels_ok`); what the table is (`C18_levels`), its totals and the key count `Stat` reports
  (`C18_totals`), its internal consistency (`C18_levels_consistent`); the report depends on the message
  only through the level table and `nodeTypeBM = nil` (`C18_stat_congr`), so a reload that restores the
  message leaves it unchanged (`C18_roundtrip`, `C18_roundtrip_wire`).
-/

open Slim Refine StatLemmas

namespace C18

def LevelLe (a b : Level) : Prop := a.1 ≤ b.1 ∧ a.2.1 ≤ b.2.1 ∧ a.2.2 ≤ b.2.2

def innerCnt (t : Trie1) : Nat := (innersBefore t.nodes t.nodes.size).length

theorem mem_le_of_pairwise {cs : List Nat} {N : Nat} (h : (cs ++ [N]).Pairwise (· < ·)) :
    ∀ x ∈ cs ++ [N], x ≤ N := by
  intro x hx
  rcases List.mem_append.mp hx with hx | hx
  · exact Nat.le_of_lt ((List.pairwise_append.mp h).2.2 x hx N (List.mem_singleton_self N))
  · exact Nat.le_of_eq (List.mem_singleton.mp hx)

theorem eq_zero_of_below_one {cs : List Nat} (hhead : cs.head? = some 0)
    (hpw : (cs ++ [1]).Pairwise (· < ·)) : cs = [0] := by
  cases cs with
  | nil => cases hhead
  | cons c tl =>
    cases hhead
    cases tl with
    | nil => rfl
    | cons d tl' =>
      rw [List.cons_append, List.cons_append, List.pairwise_cons, List.pairwise_cons] at hpw
      have h1 : 0 < d := hpw.1 d List.mem_cons_self
      have h2 : d < 1 := hpw.2.1 1 (List.mem_append_right _ (List.mem_singleton_self 1))
      omega

end C18

open C18

/-- **C18 (the level table).**  `lv = (cs ++ [N]).map (entry t)` where `cs = 0 :: …` is strictly ascending
    below `N` (the first node of each BFS level) and `entry t c = (c, inner nodes before c, leaves before c)`. -/
theorem C18_levels (keys : List Bytes) (vals : Option (List Bytes)) (opt : Opt) (t : Trie1)
    (hb : build keys vals opt = .ok t) (hne : keys ≠ []) :
    ∃ cs : List Nat, cs.head? = some 0 ∧ (cs ++ [t.nodes.size]).Pairwise (· < ·) ∧
      initLevels (encode t) = .ok ((cs ++ [t.nodes.size]).map (entry t)) :=
  have ⟨_, _, _, _, htree⟩ := build_tree keys vals opt t hb hne
  have ⟨cs, h0, hpw, _, h⟩ := initLevels_encode htree
  ⟨cs, h0, hpw, h⟩

/-- **C18 (empty trie).**  (0 keys, 0 nodes). -/
theorem C18_empty (vals : Option (List Bytes)) (opt : Opt) (t : Trie1)
    (hb : build [] vals opt = .ok t) :
    initLevels (encode t) = .ok [(0, 0, 0)] ∧
    stat (encode t) [(0, 0, 0)] = .ok { levels := [(0, 0, 0)], keyCnt := 0, nodeCnt := 0 } := by
  have hb : Except.ok (Trie1.empty opt) = Except.ok t := hb
  cases hb
  exact ⟨rfl, rfl⟩

/-- **C18 (no panic).**  `initLevels` succeeds on the message of every built trie. -/
theorem C18_initLevels_ok (keys : List Bytes) (vals : Option (List Bytes)) (opt : Opt) (t : Trie1)
    (hb : build keys vals opt = .ok t) : ∃ lv, Slim.initLevels (Slim.encode t) = .ok lv := by
  by_cases hne : keys = []
  · subst hne
    exact ⟨_, (C18_empty vals opt t hb).1⟩
  · obtain ⟨cs, _, _, h⟩ := C18_levels keys vals opt t hb hne
    exact ⟨_, h⟩

/-- **C18 (totals).**  The table ends at `(N, I, N − I)`, and `Stat` reports `N` nodes and exactly
    the number of retained keys. -/
theorem C18_totals (keys : List Bytes) (vals : Option (List Bytes)) (opt : Opt) (t : Trie1)
    (hb : build keys vals opt = .ok t) (hne : keys ≠ []) (lv : List Level)
    (hlv : initLevels (encode t) = .ok lv) :
    lv.getLast? = some (t.nodes.size, innerCnt t, t.nodes.size - innerCnt t) ∧
    innerCnt t + (retained keys vals opt.dedup).length = t.nodes.size ∧
    stat (encode t) lv = .ok { levels := lv, keyCnt := (retained keys vals opt.dedup).length,
                               nodeCnt := t.nodes.size } := by
  obtain ⟨cs, _, _, h⟩ := C18_levels keys vals opt t hb hne
  cases h.symm.trans hlv
  -- every node is inner or a leaf, and the leaves are the retained keys
  have hcnt : innerCnt t + (retained keys vals opt.dedup).length = t.nodes.size := by
    rw [← build_leavesBefore keys vals opt t hb hne, Nat.add_comm]
    exact leaves_add_inners t.nodes t.nodes.size (Nat.le_refl _)
  obtain ⟨hlast, hstat⟩ := stat_levels (build_shape keys vals opt t hb hne).nonempty cs hcnt
  exact ⟨hlast, hcnt, hstat⟩

/-- **C18 (consistency).**  `total = inner + leaf` in every entry, the entries never decrease,
    the first is `(0,0,0)` and the last the totals. -/
theorem C18_levels_consistent (keys : List Bytes) (vals : Option (List Bytes)) (opt : Opt)
    (t : Trie1) (hb : build keys vals opt = .ok t) (hne : keys ≠ []) (lv : List Level)
    (hlv : initLevels (encode t) = .ok lv) :
    (∀ e ∈ lv, e.1 = e.2.1 + e.2.2) ∧ lv.Pairwise LevelLe ∧ lv.head? = some (0, 0, 0) ∧
    lv.getLast? = some (t.nodes.size, innerCnt t, t.nodes.size - innerCnt t) := by
  obtain ⟨cs, hhead, hpw, h⟩ := C18_levels keys vals opt t hb hne
  have hlast := (C18_totals keys vals opt t hb hne lv hlv).1
  cases h.symm.trans hlv
  have hle := mem_le_of_pairwise hpw
  refine ⟨?_, ?_, ?_, hlast⟩
  · intro e he
    obtain ⟨c, _, rfl⟩ := List.mem_map.mp he
    exact entry_sum t c
  · rw [List.pairwise_map]
    refine List.Pairwise.imp_of_mem ?_ hpw
    intro a b _ hb' hab
    exact entry_mono t (Nat.le_of_lt hab) (hle b hb')
  · cases cs with
    | nil => cases hhead
    | cons c tl => cases hhead; rfl

/-- **C18 (single key).**  The table is `[(0,0,0), (1,0,1)]`: (1 key, 1 node). -/
theorem C18_single (k : Bytes) (vals : Option (List Bytes)) (opt : Opt) (t : Trie1)
    (hb : build [k] vals opt = .ok t) :
    initLevels (encode t) = .ok [(0, 0, 0), (1, 0, 1)] ∧
    stat (encode t) [(0, 0, 0), (1, 0, 1)]
      = .ok { levels := [(0, 0, 0), (1, 0, 1)], keyCnt := 1, nodeCnt := 1 } := by
  have hne : ([k] : List Bytes) ≠ [] := List.cons_ne_nil _ _
  obtain ⟨⟨queue, _, _, hq⟩, _⟩ := build_wf [k] vals opt t hb hne
  -- no node is inner: its subset would hold two of the keys
  have hnoinner : innersBefore t.nodes t.nodes.size = [] := by
    rw [innersBefore_eq, List.filterMap_eq_nil_iff]
    intro nd hnd
    obtain ⟨j, hj, rfl⟩ := List.mem_iff_getElem.mp (List.mem_of_mem_take hnd)
    obtain ⟨o, _, hsub, hnode⟩ := hq j hj
    rw [Array.getElem_toList]
    cases hn : t.nodes[j] with
    | leaf ith lp => rfl
    | inner r =>
      rw [hn] at hnode
      have h2 : o.s + 2 ≤ o.e := hnode.1
      have h1 : o.e ≤ 1 := hsub.le
      omega
  have hI : innerCnt t = 0 := congrArg List.length hnoinner
  have hN : t.nodes.size = 1 := by
    have := (build_shape [k] vals opt t hb hne).total
    rwa [hnoinner] at this
  obtain ⟨cs, hhead, hpw, h⟩ := C18_levels [k] vals opt t hb hne
  rw [hN] at hpw
  have hlv : initLevels (encode t) = .ok [(0, 0, 0), (1, 0, 1)] := by
    rw [h, eq_zero_of_below_one hhead hpw]
    show Except.ok [(0, 0, 0), (t.nodes.size, innerCnt t, t.nodes.size - innerCnt t)] = _
    rw [hI, hN]
  obtain ⟨_, hcnt, hstat⟩ := C18_totals [k] vals opt t hb hne _ hlv
  rw [hI, hN, Nat.zero_add] at hcnt
  rw [hstat, hcnt, hN]
  exact ⟨hlv, rfl⟩

/-- `Stat` reads the message only through `nodeTypeBM == nil`. -/
theorem C18_stat_congr (s s' : SlimMsg) (lv : List Level)
    (h : s.nodeTypeBM.isNone = s'.nodeTypeBM.isNone) : stat s lv = stat s' lv := by
  unfold stat
  rw [h]

/-- **C18 (round trip).**  The level table and the report are functions of the message: a reload
    that restores the message leaves both unchanged. -/
theorem C18_roundtrip (t : Trie1) (s' : SlimMsg) (hreload : s' = encode t) :
    initLevels s' = initLevels (encode t) ∧ ∀ lv, stat s' lv = stat (encode t) lv := by
  subst hreload
  exact ⟨rfl, fun _ => rfl⟩

/-- with the message codec round trip (`C05_wire_roundtrip`: `proto.Unmarshal ∘ proto.Marshal`) -/
theorem C18_roundtrip_wire (t : Trie1) (hwf : (encode t).WF) (hnf : (encode t).NF)
    (hsz : (Wire.encodeSlim (encode t)).length < 2 ^ 64) :
    ∃ s', Wire.decodeSlim (Wire.encodeSlim (encode t)) = .ok s' ∧
      initLevels s' = initLevels (encode t) ∧ ∀ lv, stat s' lv = stat (encode t) lv :=
  ⟨encode t, C05_wire_roundtrip _ hwf hnf hsz, rfl, fun _ => rfl⟩

/-! ### non-vacuity: a concrete input satisfies the hypotheses (accepted by `C08_accept`) -/

example : ∃ t, build [[0x61], [0x61, 0x62], [0x62, 0xe3]] (some [[1], [1], [2]]) {} = .ok t ∧
    ([[0x61], [0x61, 0x62], [0x62, 0xe3]] : List Bytes) ≠ [] :=
  (C08_accept _ _ _ (by decide) (by decide) (by intro vs h; cases h; rfl) (Or.inr (by decide))).imp
    fun _ ht => ⟨ht, by decide⟩

#print axioms C18_initLevels_ok
#print axioms C18_levels
#print axioms C18_totals
#print axioms C18_levels_consistent
#print axioms C18_empty
#print axioms C18_single
#print axioms C18_roundtrip
#print axioms C18_roundtrip_wire
