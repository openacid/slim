import SlimModel.Encode
import SlimProofs.Encode
/-
  Property C15 — value encoders round-trip every value with consistent sizes and LE layout.

  For every encoder `E` of package `encode` (model: `SlimModel/Encode.lean`) with domain `D_E`:

    `E.RoundTrips D_E`   ≡   ∀ v, D_E v → ∀ tail, ∃ e,
          E.encode v = ok e ∧ E.decode (e ++ tail) = ok (|e|, v)
        ∧ E.getSize v = ok |e| ∧ E.getEncodedSize (e ++ tail) = ok |e|

  (all values of the domain, all tails — no size bound), plus the layout theorems:
  integer encoders = fixed-width little-endian two's complement, String16 = big-endian 16-bit
  length ++ bytes, Bytes{n} = identity, Dummy = nothing, TypeEncoder = field by field in the
  configured byte order.
-/
namespace C15
open Encode

theorem C15_U16 : U16.RoundTrips (InU 2) := uintCodec_roundTrips 2
theorem C15_U32 : U32.RoundTrips (InU 4) := uintCodec_roundTrips 4
theorem C15_U64 : U64.RoundTrips (InU 8) := uintCodec_roundTrips 8
theorem C15_I8 : I8.RoundTrips (InS 1) := sintCodec_roundTrips (by decide)
theorem C15_I16 : I16.RoundTrips (InS 2) := sintCodec_roundTrips (by decide)
theorem C15_I32 : I32.RoundTrips (InS 4) := sintCodec_roundTrips (by decide)
theorem C15_I64 : I64.RoundTrips (InS 8) := sintCodec_roundTrips (by decide)
/-- `encode.Int` (native int, 8 bytes on this platform). -/
theorem C15_Int : NativeInt.RoundTrips (InS 8) := sintCodec_roundTrips (by decide)
theorem C15_String16 : String16.RoundTrips (fun s => s.length < 2 ^ 16) := string16_roundTrips
theorem C15_Bytes (n : Nat) : (BytesEnc n).RoundTrips (fun b => b.length = n) := bytesEnc_roundTrips n
theorem C15_Dummy : Dummy.RoundTrips (fun v => v = Val.nil) := dummy_roundTrips
/-- TypeEncoder, any byte order, any type of the universe, any value of that type
    (structural induction over the type universe). -/
theorem C15_TypeEncoder (bo : BO) (t : Ty) : (TE bo t).RoundTrips (InDom t) := te_roundTrips bo t

/-- The domains are the full ranges of the Go types. -/
theorem InU_iff (w v : Nat) : InU w v ↔ v < 2 ^ (8 * w) := Iff.rfl
theorem InS_iff (w : Nat) (v : Int) :
    InS w v ↔ -(2 : Int) ^ (8 * w - 1) ≤ v ∧ v < (2 : Int) ^ (8 * w - 1) := Iff.rfl

/-- Unsigned encoders: `w` little-endian bytes of the value (`w` = 2, 4, 8 for U16, U32, U64). -/
theorem C15_layout_unsigned (w v : Nat) : (uintCodec w).encode v = .ok (leBytes w v) := rfl

/-- Signed encoders: `w` little-endian bytes of the two's complement `v mod 2^(8w)`
    (`w` = 1, 2, 4, 8 for I8, I16, I32, I64 and the native Int). -/
theorem C15_layout_signed (w : Nat) (v : Int) :
    (sintCodec w).encode v = .ok (leBytes w (v % (2 : Int) ^ (8 * w)).toNat) := rfl

/-- `leBytes` is the positional little-endian layout: byte `i` is `⌊n / 256^i⌋ mod 256`,
    and there are exactly `w` bytes. -/
theorem C15_leBytes_byte (w n i : Nat) (h : i < (leBytes w n).length) :
    (leBytes w n)[i] = UInt8.ofNat (n / 256 ^ i % 256) := leBytes_getElem w n i h
theorem C15_leBytes_length (w n : Nat) : (leBytes w n).length = w := leBytes_length w n

theorem C15_layout_named :
    (∀ v, U16.encode v = .ok (leBytes 2 v)) ∧ (∀ v, U32.encode v = .ok (leBytes 4 v)) ∧
    (∀ v, U64.encode v = .ok (leBytes 8 v)) ∧
    (∀ v, I8.encode v = .ok (leBytes 1 (v % 2 ^ 8).toNat)) ∧
    (∀ v, I16.encode v = .ok (leBytes 2 (v % 2 ^ 16).toNat)) ∧
    (∀ v, I32.encode v = .ok (leBytes 4 (v % 2 ^ 32).toNat)) ∧
    (∀ v, I64.encode v = .ok (leBytes 8 (v % 2 ^ 64).toNat)) ∧
    (∀ v, NativeInt.encode v = .ok (leBytes 8 (v % 2 ^ 64).toNat)) :=
  ⟨C15_layout_unsigned 2, C15_layout_unsigned 4, C15_layout_unsigned 8, C15_layout_signed 1,
   C15_layout_signed 2, C15_layout_signed 4, C15_layout_signed 8, C15_layout_signed 8⟩

/-- String16: big-endian 16-bit length, then the bytes. -/
theorem C15_layout_String16 (s : Bytes) : String16.encode s = .ok (beBytes 2 s.length ++ s) :=
  congrArg Except.ok (string16Encode_eq s)

/-- Bytes{n}: the identity. -/
theorem C15_layout_Bytes (n : Nat) (b : Bytes) : (BytesEnc n).encode b = .ok b := rfl

/-- Dummy: nothing. -/
theorem C15_layout_Dummy (v : Val) : Dummy.encode v = .ok [] := rfl

/-- TypeEncoder, integers: `w` bytes of the two's complement in the configured byte order. -/
theorem C15_layout_TE_int (bo : BO) (s : Bool) (w : Nat) (v : Int) :
    (TE bo (.prim s w)).encode (.int v) =
      .ok (match bo with
           | .le => leBytes w (v % (2 : Int) ^ (8 * w)).toNat
           | .be => beBytes w (v % (2 : Int) ^ (8 * w)).toNat) := by
  cases bo <;> rfl

/-- One step of `tyEncodeFields` and of `encRep`: the head's bytes, then the rest's. -/
private theorem append_ok {x y : Except Err Bytes} {e1 e2 : Bytes} (h1 : x = .ok e1)
    (h2 : y = .ok e2) : (do let a ← x; let r ← y; pure (a ++ r)) = .ok (e1 ++ e2) := by
  subst h1 h2; rfl

/-- TypeEncoder, structs: field-by-field concatenation. -/
theorem C15_layout_TE_struct (bo : BO) (t : Ty) (ts : List Ty) (v : Val) (vs : List Val)
    (e1 e2 : Bytes) (h1 : (TE bo t).encode v = .ok e1)
    (h2 : (TE bo (.struct ts)).encode (.seq vs) = .ok e2) :
    (TE bo (.struct (t :: ts))).encode (.seq (v :: vs)) = .ok (e1 ++ e2) :=
  append_ok h1 h2

theorem C15_layout_TE_struct_nil (bo : BO) : (TE bo (.struct [])).encode (.seq []) = .ok [] := rfl

/-- TypeEncoder, arrays: element-by-element concatenation. -/
theorem C15_layout_TE_array (bo : BO) (t : Ty) (n : Nat) (v : Val) (vs : List Val)
    (e1 e2 : Bytes) (h1 : (TE bo t).encode v = .ok e1)
    (h2 : (TE bo (.array n t)).encode (.seq vs) = .ok e2) :
    (TE bo (.array (n + 1) t)).encode (.seq (v :: vs)) = .ok (e1 ++ e2) :=
  append_ok h1 h2

theorem C15_layout_TE_array_nil (bo : BO) (t : Ty) : (TE bo (.array 0 t)).encode (.seq []) = .ok [] :=
  rfl

/-- The encoded size of a TypeEncoder value is `binary.Size` of the type (no padding). -/
theorem C15_TE_size (bo : BO) (t : Ty) (v : Val) (hv : InDom t v) :
    ∃ e, (TE bo t).encode v = .ok e ∧ e.length = t.size := by
  obtain ⟨e, h1, h2, _⟩ := tyRT bo t v hv []
  exact ⟨e, h1, h2⟩

/-! ## non-vacuity: concrete values in the domains, concrete encodings -/

example : InS 2 (-2) := by decide
example : InS 8 (-9223372036854775808) := by decide
example : InU 8 18446744073709551615 := by decide
example : I16.encode (-2) = .ok [0xfe, 0xff] := rfl
example : I16.decode [0xfe, 0xff, 0x07] = .ok (2, -2) := rfl
example : U32.encode 0x01020304 = .ok [4, 3, 2, 1] := rfl
example : encodeS 8 (-9223372036854775808) = [0, 0, 0, 0, 0, 0, 0, 0x80] := rfl
example : String16.encode [0x61, 0x62, 0x63] = .ok [0, 3, 0x61, 0x62, 0x63] := rfl
example : String16.decode [0, 3, 0x61, 0x62, 0x63, 0xff] = .ok (5, [0x61, 0x62, 0x63]) := by
  obtain ⟨e, he, hd, _⟩ := C15_String16 [0x61, 0x62, 0x63] (by decide) [0xff]
  cases he
  exact hd
example : U16.decode [1] = .error (.panic "slice bounds out of range") := rfl
/-- struct { A uint8; B [2]int16; C uint32 }, big endian. -/
example : (TE .be (.struct [.u8, .array 2 .i16, .u32])).encode
    (.seq [.int 255, .seq [.int (-2), .int 3], .int 4]) =
    .ok [0xff, 0xff, 0xfe, 0x00, 0x03, 0, 0, 0, 4] := rfl
example : InDom (.struct [.u8, .array 2 .i16, .u32])
    (.seq [.int 255, .seq [.int (-2), .int 3], .int 4]) := by
  refine .structCons (.unsigned (by decide) (by decide)) (.structCons (.array rfl ?_)
    (.structCons (.unsigned (by decide) (by decide)) .structNil))
  intro v hv
  simp at hv
  rcases hv with rfl | rfl <;> exact .signed (by decide) (by decide)

end C15

#print axioms C15.C15_U16
#print axioms C15.C15_U32
#print axioms C15.C15_U64
#print axioms C15.C15_I8
#print axioms C15.C15_I16
#print axioms C15.C15_I32
#print axioms C15.C15_I64
#print axioms C15.C15_Int
#print axioms C15.C15_String16
#print axioms C15.C15_Bytes
#print axioms C15.C15_Dummy
#print axioms C15.C15_TypeEncoder
#print axioms C15.C15_layout_unsigned
#print axioms C15.C15_layout_signed
#print axioms C15.C15_leBytes_byte
#print axioms C15.C15_leBytes_length
#print axioms C15.C15_layout_named
#print axioms C15.C15_layout_String16
#print axioms C15.C15_layout_Bytes
#print axioms C15.C15_layout_Dummy
#print axioms C15.C15_layout_TE_int
#print axioms C15.C15_layout_TE_struct
#print axioms C15.C15_layout_TE_struct_nil
#print axioms C15.C15_layout_TE_array
#print axioms C15.C15_layout_TE_array_nil
#print axioms C15.C15_TE_size
