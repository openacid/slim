import SlimProofs.LegacyPrefix
import SlimProofs.LegacySelect
import SlimProofs.LegacyLeaf
import SlimProofs.LegacyArray
import SlimProofs.LegacyBuildOld
import SlimProofs.LegacyRoundTrip
import SlimProofs.LegacyFuel
import SlimProofs.LegacyConvertMain
/-
  C06 — data written by every older compatible version loads and answers correctly:
  the four conversion lemmas of DESIGN §6 C06, universally quantified.

  Each says what one step of the loader (`SlimModel.Legacy`: `before000512InnerPrefixTobitstr`,
  `before000512FixLeafSize`, `getStepBefore000510`, `getBM16Child`, and beside them `Base.GetBytes`
  and `bmhas`) returns on what an old writer wrote.  No old writer exists in the repository: the
  writers of the historical layouts are reconstructed (`SlimModel.LegacyWrite`) and validated byte
  for byte against all 97 archived files by their Go twins (harness/fam/leg).  "Written by an older
  version" means written by these, here and in every other C06 file.

  For 0.5.10 / 0.5.11 the two conversions are also composed at message level
  (`C06_load_0510_msg_partial`): applied to what the writer derives from today's message they give
  today's message back, up to word-index select tables and the retired fields kept as unknown
  bytes.

  Nothing downstream cites the statements of this file: they give the property's names to lemmas
  of `SlimProofs/Legacy*`, and the loading theorems (`C06_load_legacy_3section`,
  `C06_load_legacy_0510` in C06Legacy3Wire.lean, through C06Wire, C06View, C06Legacy3) rest on
  those lemmas directly — on `convert_wf` for the three-section layouts, whose proof needs the
  accessor facts stated here as `C06_step_rebase`, `C06_bm16`, `C06_leaf_value` and
  `C06_index_presence`.
-/
open Bits Legacy LegacyWrite

/-- One element: for every prefix (any bit length, given as zero padded payload bytes plus the
    number of valid bits in the last byte) the loader's conversion of its control-byte form
    yields its bit-string form, of the same length. -/
theorem C06_prefix_reencode_one (p : BitPrefix) (hv : p.Valid) :
    convertOne p.ctrlEnc = .ok p.bitstrEnc ∧ p.bitstrEnc.length = p.ctrlEnc.length :=
  ⟨convert_one p hv, convert_one_length p hv⟩

/-- The whole message, as the old writers wrote it (position bitmap of the element boundaries
    with word-index select entries): `before000512InnerPrefixTobitstr` replaces the byte array by
    the concatenation of the bit-string forms — same total length, every element at its old
    offset (so `PositionBM` stays valid), nothing else changes. -/
theorem C06_prefix_reencode (s : SlimMsg) (ips : VLenArrayMsg) (ps : List BitPrefix)
    (hips : s.innerPrefixes = some ips)
    (hpbm : ips.positionBM = some (wordIndexSelect (newBM (Slim.stepToPos (ps.map sz)) 0 "s32")))
    (hbytes : ips.bytes = (ps.map BitPrefix.ctrlEnc).flatten)
    (hv : ∀ p ∈ ps, p.Valid) :
    innerPrefixTobitstr s
      = .ok { s with innerPrefixes := some { ips with bytes := (ps.map BitPrefix.bitstrEnc).flatten } }
    ∧ ((ps.map BitPrefix.bitstrEnc).flatten).length = ips.bytes.length :=
  ⟨innerPrefixTobitstr_spec s ips _ ps hips hpbm hbytes hv
      (select_positions_old (ps.map sz) (sz_pos ps)),
    by rw [hbytes, flatten_length_bitstr, flatten_length_ctrl ps hv]⟩

/-- The same with bit-position select entries (what today's writer stores). -/
theorem C06_prefix_reencode_newSelect (s : SlimMsg) (ips : VLenArrayMsg) (ps : List BitPrefix)
    (hips : s.innerPrefixes = some ips)
    (hpbm : ips.positionBM = some (newBM (Slim.stepToPos (ps.map sz)) 0 "s32"))
    (hbytes : ips.bytes = (ps.map BitPrefix.ctrlEnc).flatten)
    (hv : ∀ p ∈ ps, p.Valid) :
    innerPrefixTobitstr s
      = .ok { s with innerPrefixes := some { ips with bytes := (ps.map BitPrefix.bitstrEnc).flatten } } :=
  innerPrefixTobitstr_spec s ips _ ps hips hpbm hbytes hv
    (Bits.select32R64_positions_pos (ps.map sz) (sz_pos ps))

/-- The half-byte aligned prefixes of the builder: `Slim.bitstrOf ns` is the bit-string form, so
    the loader turns the control-byte form of `ns` into exactly what today's builder stores. -/
theorem C06_prefix_reencode_nibs (ns : List Nat) (hlt : ∀ n ∈ ns, n < 16) :
    convertOne (ofNibs ns).ctrlEnc = .ok (Slim.bitstrOf ns) ∧ (ofNibs ns).bitLen = 4 * ns.length := by
  rw [bitstrOf_eq_bitstrEnc]
  exact ⟨convert_one _ (ofNibs_valid ns), ofNibs_bitLen ns⟩

-- non-vacuity: a prefix ending on a half byte right after a 0xff byte, one of whole bytes, one of
-- three bits
example : (⟨[0xff, 0xf0], 4⟩ : BitPrefix).Valid := ⟨by decide, fun _ => ⟨[0xff], 0xf0, rfl, by decide⟩⟩
example : (⟨[0xff, 0xf0], 4⟩ : BitPrefix).ctrlEnc = [0x01, 0xff, 0xf8] := by decide +kernel
example : (⟨[0xff, 0xf0], 4⟩ : BitPrefix).bitstrEnc = [0xff, 0xf0, 0xf0] := by decide +kernel
example : (convertOne [0x01, 0xff, 0xf8]).toOption = some [0xff, 0xf0, 0xf0] := by decide +kernel
example : (⟨[0x61, 0x62], 0⟩ : BitPrefix).Valid := ⟨by decide, fun h => absurd rfl h⟩
example : (convertOne [0x00, 0x61, 0x62]).toOption = some [0x61, 0x62, 0xff] := by decide +kernel
example : (⟨[0xa0], 3⟩ : BitPrefix).Valid := ⟨by decide, fun _ => ⟨[], 0xa0, rfl, by decide⟩⟩
example : (convertOne (⟨[0xa0], 3⟩ : BitPrefix).ctrlEnc).toOption = some [0xa0, 0xe0] := by decide +kernel
example : (ofNibs [6, 2, 6]).ctrlEnc = [0x01, 0x62, 0x68] := by decide +kernel   -- as in slimtrie-data-11vl5-innpref-0.5.10

/-- On the bare bytes of `n ≥ 1` leaves of width `w` (all a 0.5.10 / 0.5.11 stream stores)
    `before000512FixLeafSize` produces the array today's builder creates for the same values:
    `N = EltCnt = n`, `FixedSize = w`, every presence bit set, and `VLenArray.get i` returns the
    `i`-th value. -/
theorem C06_fix_leaf_size (s : SlimMsg) (vals : List Bytes) (w : Nat) (hw : 0 < w)
    (hne : vals ≠ []) (h : ∀ v ∈ vals, v.length = w)
    (hl : s.leaves = some { bytes := vals.flatten }) :
    ∃ lv pres, fixLeafSize s (some w) = .ok { s with leaves := some lv } ∧
      some lv = Slim.newVLenArray vals ∧
      lv.n = vals.length ∧ lv.eltCnt = vals.length ∧ lv.fixedSize = w ∧ lv.positionBM = none ∧
      lv.bytes = vals.flatten ∧
      lv.presenceBM = some pres ∧ (∀ i, i < vals.length → getBit pres.words i = true) ∧
      ∀ i (hi : i < vals.length), Slim.vlenGet lv i = .ok vals[i] := by
  have hnew := newVLenArray_const vals w hw hne h
  refine ⟨_, newBM (List.range vals.length) vals.length "r64", ?_, hnew.symm, rfl, rfl, rfl, rfl, rfl,
    rfl, ?_, ?_⟩
  · rw [fixLeafSize_eq_new s vals w hw hne h hl, hnew]
  · intro i hi
    rw [newBM_words, getBit_ofIdx _ _ _ (by rw [ofIdx_length']; omega)]
    simpa using hi
  · intro i hi
    rw [Slim.vlenGet_newVLenArray vals _ hnew i hi, List.getD_eq_getElem?_getD,
      List.getElem?_eq_getElem hi]
    rfl

/-- The same in terms of the bare byte array of the stream: any `n·w` bytes (`n ≥ 1`, `w ≥ 1` the
    encoder's width) become an array of `N = EltCnt = n` present elements and `VLenArray.get i`
    is the `i`-th slice `bytes[i·w : i·w + w]`. -/
theorem C06_fix_leaf_size_bytes (s : SlimMsg) (bs : Bytes) (w n : Nat) (hw : 0 < w) (hn : 0 < n)
    (hlen : bs.length = n * w) (hl : s.leaves = some { bytes := bs }) :
    ∃ lv pres, fixLeafSize s (some w) = .ok { s with leaves := some lv } ∧
      lv.n = n ∧ lv.eltCnt = n ∧ lv.fixedSize = w ∧ lv.positionBM = none ∧ lv.bytes = bs ∧
      lv.presenceBM = some pres ∧ (∀ i, i < n → getBit pres.words i = true) ∧
      ∀ i, i < n → Slim.vlenGet lv i = .ok ((bs.drop (i * w)).take w) := by
  have hfl := cut_flatten w n bs hlen
  obtain ⟨lv, pres, h1, _, h3, h4, h5, h6, h7, h8, h9, h10⟩ :=
    C06_fix_leaf_size s _ w hw
      (fun h => by rw [List.map_eq_nil_iff, List.range_eq_nil] at h; omega)
      (cut_width w n bs hlen) (by rw [hfl]; exact hl)
  simp only [List.length_map, List.length_range, hfl, List.getElem_map, List.getElem_range] at h3 h4 h7 h9 h10
  exact ⟨lv, pres, h1, h3, h4, h5, h6, h7, h8, h9, h10⟩

example : ∃ lv pres, fixLeafSize { leaves := some { bytes := [1, 0, 0, 0, 2, 0, 0, 0] } } (some 4)
      = .ok { leaves := some lv } ∧ some lv = Slim.newVLenArray [[1, 0, 0, 0], [2, 0, 0, 0]] ∧
      lv.n = 2 ∧ lv.eltCnt = 2 ∧ lv.fixedSize = 4 ∧ lv.positionBM = none ∧
      lv.bytes = [1, 0, 0, 0, 2, 0, 0, 0] ∧ lv.presenceBM = some pres ∧
      (∀ i, i < 2 → getBit pres.words i = true) ∧
      ∀ i (hi : i < 2), Slim.vlenGet lv i = .ok ([[1, 0, 0, 0], [2, 0, 0, 0]] : List Bytes)[i] :=
  C06_fix_leaf_size { leaves := some { bytes := [1, 0, 0, 0, 2, 0, 0, 0] } }
    [[1, 0, 0, 0], [2, 0, 0, 0]] 4 (by decide) (by decide) (by decide) rfl

/-- On the steps section the reconstructed writer wrote for any node list (any variant: the
    section does not depend on the children encoding; `mw` = index extension of 0.5.9)
    `getStepBefore000510` returns the single-branch run in front of the node's branching position
    *without* the label half-byte: `stp - 1` (in half-bytes; the Go code returns bits, `· 4`),
    and 0 for a node whose step is not stored. -/
theorem C06_step_rebase (nodes : List OldNode) (mw id : Nat) (hid : id < nodes.length)
    (hlim : nodes[id].step < 65536) :
    getStep (stepsMsg nodes mw) id = .ok (nodes[id].step - 1) :=
  getStep_stepsMsg nodes mw id hid hlim

/-- On the children section the reconstructed writer wrote — uint32 elements `bm | firstChild<<16`
    (≤ 0.5.3) or 16-bit bitmap elements packed four per word (≥ 0.5.4), with or without the index
    extension — `getBM16Child` returns the node's 16-bit label bitmap shifted by one, `bm << 1`
    (bit 0 stays free for the end-of-key label the loader sets when the node is also a leaf). -/
theorem C06_bm16 (vr : Variant) (nodes : List OldNode) (mw id : Nat)
    (hid : id < nodes.length) (hin : nodes[id].inner = true) (hbm : ∀ n ∈ nodes, n.bm < 65536) :
    getBM16Child (childrenMsg vr nodes mw) id = .ok (nodes[id].bm * 2) :=
  getBM16Child_childrenMsg vr nodes mw id hid hin hbm

/-- The third accessor of the conversion: on the leaves section the writer wrote, `Base.GetBytes`
    returns the encoded value of the key that ends at the node — also for a node that is inner and
    leaf at once (the loader then creates the explicit end-of-key child from it). -/
theorem C06_leaf_value (nodes : List OldNode) (vals : Array Bytes) (w id k : Nat)
    (hid : id < nodes.length) (hleaf : nodes[id].leaf = some k)
    (hw : ∀ n ∈ nodes, ∀ j, n.leaf = some j → (vals.getD j []).length = w) :
    getBytes (leavesMsg nodes vals) id w = .ok (some (vals.getD k [])) :=
  getBytes_leavesMsg nodes vals w id k hid hleaf hw

/-- `bmhas` on the presence bitmap of each section, with `p` = is inner (children), has a stored
    step (steps), is a leaf (leaves). -/
theorem C06_index_presence (p : OldNode → Bool) (nodes : List OldNode) (mw : Nat) (elts : Bytes) (id : Nat) :
    bmhas (initIndex (idsWhere nodes p) mw elts).bitmaps id
      = decide (∃ h : id < nodes.length, p nodes[id] = true) :=
  bmhas_ids p nodes mw elts id

/-- The accessor lemmas on the sections of a complete three-section stream, for every variant
    and every key list with one value of width `w` per key: the 16-bit hypothesis of `C06_bm16`
    and the index range of the leaf values hold for every trie `buildOld` builds; the step
    hypothesis is the layout's own limit (a `uint16` step). -/
theorem C06_sections_read (vr : Variant) (keys vals : List Bytes) (w : Nat) (ch st lv : Array32Msg)
    (h : sections3 vr keys vals = .ok (ch, st, lv))
    (hlen : vals.length = keys.length) (hw : ∀ v ∈ vals, v.length = w) :
    ∃ nodes : Array OldNode, buildOld keys vr.leafSteps = .ok nodes ∧
      ∀ id (hid : id < nodes.toList.length),
        (nodes.toList[id].step < 65536 → getStep st id = .ok (nodes.toList[id].step - 1)) ∧
        (nodes.toList[id].inner = true → getBM16Child ch id = .ok (nodes.toList[id].bm * 2)) ∧
        (∀ k, nodes.toList[id].leaf = some k →
          k < keys.length ∧ getBytes lv id w = .ok (some (vals.getD k []))) := by
  obtain ⟨nodes, hb, R⟩ := LegacyConvert.reads_of_sections vr keys vals w ch st lv h hlen hw
  exact ⟨nodes, hb, fun id hid => ⟨R.step id hid, R.bm id hid, fun k hk =>
    ⟨buildOld_leaf_lt keys vr.leafSteps nodes hb _ (List.getElem_mem hid) k hk,
      LegacyConvert.getD_toArray vals k ▸ R.val id hid k hk⟩⟩⟩

/-- The reconstructed three-section writers are total on every key list `NewSlimTrie` accepts
    (strictly ascending): the fuel of the model's breadth-first loop (`2n + 1`) is never exhausted,
    so "all key sets the old writers could encode" is every strictly ascending key set (within
    the `uint16` step limit, which only affects what the written steps mean, not totality). -/
theorem C06_writer_total (variant : String) (vr : Variant) (keys vals : List Bytes)
    (hv : parseVariant variant = some vr) (h : strictAsc keys = true) :
    ∃ b, writeLegacy3 variant keys vals = .ok b :=
  writeLegacy3_total variant vr keys vals hv h

/-! ### 0.5.10 / 0.5.11 at message level -/

/-- The message-level half of `C06_load_legacy_0510` (every option): for every L1 trie
    `t` (e.g. `build keys (some vals) opt`) with at least one leaf value, all of one width `w > 0`,
    the loader's conversions applied to the message an old stream carries for `t`
    (`oldMsg`: control-byte prefixes, word-index select tables, bare leaf bytes, retired fields `u`)
    yield today's message `Slim.encodeCreator t` with word-index select tables — the very message
    C01–C04 are proved about, up to `selectIndex`. -/
theorem C06_load_0510_msg_partial (t : Trie1) (es : List Bytes) (w : Nat) (u : Bytes)
    (helts : t.elts = some es) (hw : 0 < w) (hne : es ≠ []) (hes : ∀ v ∈ es, v.length = w)
    (hlt : ∀ ns ∈ storedOf t, ∀ n ∈ ns, n < 16) :
    (innerPrefixTobitstr (oldMsg (Slim.encodeCreator t) u) >>= fun m => fixLeafSize m (some w))
      = .ok (wordSelectMsg (Slim.encodeCreator t) u) :=
  load_0510_msg t es w u helts hw hne hes

-- non-vacuity: the trie of "ab" ↦ 0, "ac" ↦ 1 with InnerPrefix (one stored prefix of three half-bytes)
def C06.exT : Trie1 :=
  { opt := { inner := true }
    nodes := #[.inner { big := false, labels := [3, 4], firstChild := 1, pref := .stored [6, 1, 6] },
               .leaf 0 none, .leaf 1 none]
    bigCnt := 0, leafKeyIdx := #[0, 1]
    elts := some [[0, 0, 0, 0], [1, 0, 0, 0]] }

example : (build [[0x61, 0x62], [0x61, 0x63]] (some [[0, 0, 0, 0], [1, 0, 0, 0]]) { inner := true }).toOption.map
    (fun t => (t.nodes.toList, t.elts)) = some (C06.exT.nodes.toList, C06.exT.elts) := by decide +kernel
example : storedOf C06.exT = [[6, 1, 6]] := by decide
example : (innerPrefixTobitstr (oldMsg (Slim.encodeCreator C06.exT) []) >>= fun m => fixLeafSize m (some 4))
      = .ok (wordSelectMsg (Slim.encodeCreator C06.exT) []) :=
  C06_load_0510_msg_partial C06.exT [[0, 0, 0, 0], [1, 0, 0, 0]] 4 [] rfl (by decide) (by decide)
    (by decide) (by decide)

/-- the writer's inner prefixes converted back: today's bytes at today's positions -/
theorem C06_prefix_roundtrip (s : SlimMsg) (ips : VLenArrayMsg) (nss : List (List Nat))
    (h : IsBuilt ips nss) (hlt : ∀ ns ∈ nss, ∀ n ∈ ns, n < 16) :
    innerPrefixTobitstr { s with innerPrefixes := some (oldInnerPrefixes ips) }
      = .ok { s with innerPrefixes := some { ips with positionBM := ips.positionBM.map wordIndexSelect } } :=
  h.roundtrip s

/-- `select32R64` ignores the select table beyond "the entry names a word at or before the wanted
    bit's word": the word-index entries of old streams give the same answers. -/
theorem C06_select_wordIndex (ws : List Nat) (i a : Nat) (ha : (toArray ws)[i]? = some a) :
    select32R64 (wordIndexSelect (mk ws "s32")) i = select32R64 (mk ws "s32") i := by
  rw [select32R64_wordIndex ws i a ha, select32R64_mk ws i a ha]

-- non-vacuity: the old trie of the keys "a", "ab", "b" (root → 'a'-node that is inner and leaf)
-- has stored steps and inner nodes (`buildOld` evaluated)
example : (buildOld [[0x61], [0x61, 0x62], [0x62]] false).toOption.map (·.toList.map (fun n => (n.inner, n.bm, n.step)))
    = some [(true, 6, 2), (true, 64, 0), (false, 0, 0), (false, 0, 0)] := by decide +kernel

#print axioms C06_prefix_reencode_one
#print axioms C06_prefix_reencode
#print axioms C06_prefix_reencode_newSelect
#print axioms C06_prefix_reencode_nibs
#print axioms C06_fix_leaf_size
#print axioms C06_fix_leaf_size_bytes
#print axioms C06_step_rebase
#print axioms C06_bm16
#print axioms C06_leaf_value
#print axioms C06_index_presence
#print axioms C06_sections_read
#print axioms C06_writer_total
#print axioms C06_load_0510_msg_partial
#print axioms C06_prefix_roundtrip
#print axioms C06_select_wordIndex
