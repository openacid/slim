import SlimProofs.SizePrefixExact
import SlimProofs.SizeRootStep
import SlimProps.C17
/-
  SlimProps.C17Exact — C17, where exactly the second clause ("lengthening keys without changing
  where they branch changes the size by at most a few bytes") holds.

  * `C17_prefix_exact`: if the root of `build K` already carries a step (the keys share at least
    their first half-byte — for a 257-bit root their first byte), then for every `P` the
    serialized index of `P ++ K` has EXACTLY the size of that of `K`: the record arrays differ
    only in the value of the root's step (`C17_prefix_same_shape`), a step is two raw bytes of
    `InnerPrefixes.Bytes`, and every bitmap is the same.  No size hypothesis; the step guard is
    the hypothesis that both builds succeed.
  * `C17_prefix_exact_common_byte`: the same from a condition on the keys alone — at least two
    keys, all starting with the same byte (`SizeRootStep.root_step_of_common_byte`: then the root
    is an inner record with a step of at least 2 half-bytes).
  * `C17_K1_rank_entries`: the complementary case (finding K1) inside Lean: if the root carries
    no step and `P ≠ []`, the root gains one, `InnerPrefixes` gets one more element, and every
    entry of the rank index of its presence bitmap after the first is exactly one larger — each
    entry that was 127 (16383, …) costs one more varint byte, which is the growth
    `C17_prefix_size` bounds by `26 + inner/128`.

  So the clause holds with `c = 0` when the root has a step and fails (for any constant) only
  when the root gains one.
-/
open Wire Slim

open SizePrefix SizePrefixEnc SizePrefixExact BuildShape in
/-- C17 (prefix, exact): a root that already has a step absorbs every common prefix at no cost.
    (`0 < n` need not be assumed: the builder records `.step n` only for `n > 0`.) -/
theorem C17_prefix_exact (keys : List Bytes) (P : Bytes) (t t' : Trie1) (hne : keys ≠ [])
    (hb : build keys none {} = .ok t) (hb' : build (keys.map (P ++ ·)) none {} = .ok t')
    (r : InnerRec) (n : Nat) (hroot : t.nodes[0]? = some (.inner r))
    (hstep : r.pref = .step n) :
    marshalSize t' = marshalSize t := by
  obtain ⟨ws, hp, h⟩ := C17.lengthened keys P t t' hne hb hb' hroot
  have hws : ws ≠ 0 := by
    intro h0
    rw [hstep, h0] at hp
    cases hp
  unfold marshalSize
  exact marshal_size_same h hws

/-- C17 (prefix, exact), from the keys alone: two or more keys that share their first byte. -/
theorem C17_prefix_exact_common_byte (keys : List Bytes) (P : Bytes) (t t' : Trie1)
    (hb : build keys none {} = .ok t) (hb' : build (keys.map (P ++ ·)) none {} = .ok t')
    (h2 : 2 ≤ keys.length) (b : UInt8) (hcommon : ∀ k ∈ keys, ∃ rest, k = b :: rest) :
    marshalSize t' = marshalSize t := by
  have hne : keys ≠ [] := by intro h; rw [h] at h2; cases h2
  obtain ⟨r, n, hroot, hstep, _⟩ := SizeRootStep.root_step_of_common_byte keys t hb h2 b hcommon
  exact C17_prefix_exact keys P t t' hne hb hb' r n hroot hstep

/-- the rank index of the presence bitmap of `InnerPrefixes` -/
def presenceRank (m : SlimMsg) : List Nat :=
  match m.innerPrefixes with
  | some ips => (match ips.presenceBM with | some b => b.rankIndex | none => [])
  | none => []

/-- number of elements of `InnerPrefixes` -/
def prefixCount (m : SlimMsg) : Nat :=
  match m.innerPrefixes with
  | some ips => ips.eltCnt
  | none => 0

open Refine in
theorem prefixCount_encode (t : Trie1) (h : t.nodes.size ≠ 0) :
    prefixCount (Slim.encode t) = (ePrefIdx t).length := by
  rw [encode_eq t h, prefixCount, enc_innerPrefixes]
  exact eIps_eltCnt t

open Refine in
theorem presenceRank_encode (t : Trie1) (h : t.nodes.size ≠ 0) :
    presenceRank (Slim.encode t) = (Bits.newBM (ePrefIdx t) (eInners t).length "r128").rankIndex := by
  rw [encode_eq t h, presenceRank, enc_innerPrefixes]
  simp only [eIps_presenceBM]

open SizePrefix SizePrefixEnc SizePrefixExact BuildShape Refine in
/-- Finding K1 inside Lean: when the root of `build K` has no step, prepending a non-empty `P`
    gives it one; `InnerPrefixes` has one more element and every rank-index entry of its presence
    bitmap after the first grows by exactly one. -/
theorem C17_K1_rank_entries (keys : List Bytes) (P : Bytes) (t t' : Trie1) (hne : keys ≠ [])
    (hb : build keys none {} = .ok t) (hb' : build (keys.map (P ++ ·)) none {} = .ok t')
    (r : InnerRec) (hroot : t.nodes[0]? = some (.inner r)) (hnone : r.pref = .none)
    (hP : P ≠ []) :
    prefixCount (Slim.encode t') = prefixCount (Slim.encode t) + 1 ∧
    ∀ k, (presenceRank (Slim.encode t'))[k]?
      = (presenceRank (Slim.encode t))[k]?.map (fun x => if k = 0 then x else x + 1) := by
  obtain ⟨ws, hp, h⟩ := C17.lengthened keys P t t' hne hb hb' hroot
  have hws : ws = 0 := by
    by_cases h : ws = 0
    · exact h
    · rw [hnone, stepPref, if_neg h] at hp
      cases hp
  subst hws
  have key := presence_rank_gain h
    (Nat.mul_ne_zero (by decide) (fun h => hP (List.eq_nil_of_length_eq_zero h)))
  obtain ⟨_, _, _, hin, hin', _⟩ := h.root
  have hne0 := size_ne_zero hin
  have hne0' := size_ne_zero hin'
  rw [prefixCount_encode t hne0, prefixCount_encode t' hne0', presenceRank_encode t hne0,
    presenceRank_encode t' hne0']
  exact ⟨congrArg List.length (key 0).1, fun k => (key k).2⟩

namespace C17Exact

theorem cmpBytes_append_left (P a b : Bytes) : cmpBytes (P ++ a) (P ++ b) = cmpBytes a b := by
  unfold cmpBytes
  rw [List.map_append, List.map_append, lexCmp_append _ _ _ _ rfl, lexCmp_self]; rfl

theorem strictAsc_map_append (P : Bytes) : ∀ keys : List Bytes,
    strictAsc (keys.map (P ++ ·)) = strictAsc keys
  | [] => rfl
  | [_] => rfl
  | a :: b :: rest => by
    have ih := strictAsc_map_append P (b :: rest)
    rw [List.map_cons] at ih
    rw [List.map_cons, List.map_cons, strictAsc, strictAsc, ih, bytesLt, bytesLt,
      cmpBytes_append_left]

end C17Exact

namespace C17Exact.Ex

/-- the keys `ab`, `ac` share their first byte: the root of the filter-mode trie carries a step
    of 3 half-bytes, so every common prefix is free -/
def keys : List Bytes := [[0x61, 0x62], [0x61, 0x63]]

theorem build_ok (P : Bytes) (hP : 2 * (P.length + 2) ≤ 0xffff) :
    ∃ t, build (keys.map (P ++ ·)) none {} = .ok t := by
  apply C08_accept _ none {} (by simp [keys]) _ (by intro vs h; cases h) (Or.inr ?_)
  · rw [strictAsc_map_append]
    decide
  · intro k hk
    obtain ⟨k0, hk0, rfl⟩ := List.mem_map.mp hk
    have h2 : ∀ k0 ∈ keys, k0.length = 2 := by decide
    rw [List.length_append, h2 k0 hk0]
    exact hP

/-- proved instance: every prefix of up to 32 765 bytes in front of `ab`, `ac` is free -/
example (P : Bytes) (hP : 2 * (P.length + 2) ≤ 0xffff) :
    ∃ t t', build keys none {} = .ok t ∧ build (keys.map (P ++ ·)) none {} = .ok t' ∧
      marshalSize t' = marshalSize t := by
  obtain ⟨t, ht⟩ := build_ok [] (by decide)
  obtain ⟨t', ht'⟩ := build_ok P hP
  have ht : build keys none {} = .ok t := ht
  exact ⟨t, t', ht, ht', C17_prefix_exact_common_byte keys P t t' ht ht' (by decide) 0x61
    (by intro k hk; simp [keys] at hk; rcases hk with rfl | rfl <;> exact ⟨_, rfl⟩)⟩

/-- the same through the model-level hypothesis: the root record, computed by the kernel -/
theorem root_step : (build keys none {}).toOption.bind (fun t => t.nodes[0]?)
    = some (.inner { big := false, labels := [3, 4], firstChild := 1, pref := .step 3 }) := by
  decide +kernel

example (P : Bytes) (t t' : Trie1) (hb : build keys none {} = .ok t)
    (hb' : build (keys.map (P ++ ·)) none {} = .ok t') : marshalSize t' = marshalSize t := by
  have h := root_step
  rw [hb] at h
  exact C17_prefix_exact keys P t t' (by decide) hb hb' _ 3 h rfl

/-- K1, non-vacuity of `C17_K1_rank_entries`: the keys `\x10`, `\x20` branch at the first
    half-byte, the root has no step; one prefix byte gives `InnerPrefixes` its first element -/
def keys0 : List Bytes := [[0x10], [0x20]]

theorem root_none : (build keys0 none {}).toOption.bind (fun t => t.nodes[0]?)
    = some (.inner { big := false, labels := [2, 3], firstChild := 1, pref := .none }) := by
  decide +kernel

example (t t' : Trie1) (hb : build keys0 none {} = .ok t)
    (hb' : build (keys0.map ([0x41] ++ ·)) none {} = .ok t') :
    prefixCount (Slim.encode t') = prefixCount (Slim.encode t) + 1 := by
  have h := root_none
  rw [hb] at h
  exact (C17_K1_rank_entries keys0 [0x41] t t' (by decide) hb hb' _ h rfl (by decide)).1

-- evaluated tests: the root of `build keys` has a step of 3 half-bytes; the sizes agree for two
-- prefixes; on the K1 witness (root without a step) they do not
#guard (match build keys none {} with
  | .ok t => (match t.nodes[0]? with | some (Node.inner r) => r.pref == Pref.step 3 | _ => false)
  | .error _ => false)
#guard C17.sizeOfKeys keys == C17.sizeOfKeys (keys.map ([0x50] ++ ·))
#guard C17.sizeOfKeys keys == C17.sizeOfKeys (keys.map (List.replicate 1000 0x51 ++ ·))
#guard C17.sizeOfKeys (C17.witness 9) != C17.sizeOfKeys ((C17.witness 9).map ([0x41] ++ ·))

end C17Exact.Ex

#print axioms C17_prefix_exact
#print axioms C17_prefix_exact_common_byte
#print axioms C17_K1_rank_entries
#print axioms C17Exact.Ex.root_step
#print axioms SizeRootStep.root_step_of_common_byte
#print axioms SizePrefixExact.indexRank128_cons_zero
