import SlimProofs.BuildTotal
/-
  SlimProps.C08Accept — C08, acceptance half: every strictly ascending key list within the
  documented limits is accepted.

  Valid input: `keys ≠ []`, `strictAsc keys = true`, and values (if supplied) as many as keys.

  * `C08_cases`   `build` succeeds, or returns `stepTooLong` — and the latter only in step mode
                  (`opt.inner = false`) with a key longer than 0xffff half-bytes (32767 bytes).
  * `C08_total`   on valid input `build` never panics and never runs out of fuel.
  * `C08_accept`  with stored inner prefixes, or with all keys at most 0xffff half-bytes long
                  (the documented limit is 16 KiB), valid input is accepted.
  * `C08_accept_iff`  within the limits, acceptance ⇔ strictly ascending.

  Proof: `BuildTotal.buildLoop_total` (loop invariant `BInv` + potential function for the fuel).
-/

open BuildInv BuildShape BuildTotal

theorem C08_cases (keys : List Bytes) (vals : Option (List Bytes)) (opt : Opt)
    (hne : keys ≠ []) (hasc : strictAsc keys = true)
    (hv : ∀ vs, vals = some vs → vs.length = keys.length) :
    (∃ t, build keys vals opt = .ok t) ∨
    (build keys vals opt = .error .stepTooLong ∧ opt.inner = false ∧
      ∃ k ∈ keys, 0xffff < 2 * k.length) := by
  have hn : keys.length ≠ 0 := by
    intro h; exact hne (List.length_eq_zero_iff.mp h)
  rw [build_eq_loop keys vals opt hne hasc hv]
  rcases buildLoop_total (mkCtx_ok keys vals opt) hasc (2 * keys.length) 0 (initSt keys.length)
    (binv_init opt hn hv) (by rw [pot_init]; omega) with ⟨st, h⟩ | ⟨h, h'⟩
  · left; rw [h]; exact ⟨_, rfl⟩
  · right; rw [h]; exact ⟨rfl, h'⟩

/-- On valid input `build` returns a trie or `ErrStepTooLong`: no panic, no fuel exhaustion. -/
theorem C08_total (keys : List Bytes) (vals : Option (List Bytes)) (opt : Opt)
    (hne : keys ≠ []) (hasc : strictAsc keys = true)
    (hv : ∀ vs, vals = some vs → vs.length = keys.length) :
    (∃ t, build keys vals opt = .ok t) ∨ build keys vals opt = .error .stepTooLong := by
  rcases C08_cases keys vals opt hne hasc hv with h | ⟨h, _⟩
  · exact Or.inl h
  · exact Or.inr h

theorem C08_accept (keys : List Bytes) (vals : Option (List Bytes)) (opt : Opt)
    (hne : keys ≠ []) (hasc : strictAsc keys = true)
    (hv : ∀ vs, vals = some vs → vs.length = keys.length)
    (hlim : opt.inner = true ∨ ∀ k ∈ keys, 2 * k.length ≤ 0xffff) :
    ∃ t, build keys vals opt = .ok t := by
  rcases C08_cases keys vals opt hne hasc hv with h | ⟨_, hin, k, hk, hlen⟩
  · exact h
  · rcases hlim with h | h
    · rw [hin] at h; cases h
    · have := h k hk; omega

theorem C08_accept_iff (keys : List Bytes) (vals : Option (List Bytes)) (opt : Opt)
    (hne : keys ≠ []) (hv : ∀ vs, vals = some vs → vs.length = keys.length)
    (hlim : opt.inner = true ∨ ∀ k ∈ keys, 2 * k.length ≤ 0xffff) :
    (∃ t, build keys vals opt = .ok t) ↔ strictAsc keys = true := by
  constructor
  · rintro ⟨t, ht⟩
    exact (build_ok_elim ht hne).1
  · intro hasc
    exact C08_accept keys vals opt hne hasc hv hlim

/-! ### non-vacuity: a concrete input satisfies the hypotheses, in every mode (the examples of
  C06View, C13, C13Shape, L2, L2b, L2c are built on it) -/

namespace L2.Ex

def keys : List Bytes := [[0x61], [0x61, 0x62], [0x62, 0xe3]]
def vals : List Bytes := [[1], [1], [2]]

theorem build_ok (o : Opt) : ∃ t, build keys (some vals) o = .ok t :=
  C08_accept _ _ o (by decide) (by decide) (by intro vs h; cases h; rfl) (Or.inr (by decide))

end L2.Ex

example : ∃ t, build [[0x61], [0x61, 0x62], [0x62, 0xe3]] (some [[1], [1], [2]]) {} = .ok t :=
  L2.Ex.build_ok {}

#print axioms C08_cases
#print axioms C08_total
#print axioms C08_accept
#print axioms C08_accept_iff
