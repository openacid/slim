import SlimProps.C09
/-
  SlimProps.C03 — Complete mode is an exact ordered map for arbitrary query strings.

  For every successful `build` with `opt.complete = true` (inner prefixes and leaf tails stored)
  and EVERY query string `q` (present or not, any length), `GetID` and `Get` answer as `Spec.get`,
  `RangeGet` as `Spec.le` (greatest retained key `≤ q`) and `Search` as the triple `Spec.lt`,
  `Spec.get`, `Spec.gt` on `retained keys vals opt.dedup`, the sorted association list of
  SlimModel.Spec; the values are read through `shownVal` of SlimProofs.CutSpec (the entry's value; nil
  when no values were supplied or every retained value is empty, then the trie stores no leaf
  array).  In particular all four return normally (no panic, no fuel exhaustion) on every query.
  Order is `bytesLt` / `bytesLe` = Go's bytewise string order.  The empty key list is included.

  Proof: each is `C09.lookup` (SlimProps.C09: the lookups against `Spec`, for an indexed key in any
  mode or any query in Complete mode) read at `opt.complete = true`.
-/

namespace C03

theorem searchID_empty (opt : Opt) (q : Bytes) :
    searchID (Trie1.empty opt).view q = .ok (none, none, none) := rfl

theorem getID_empty (opt : Opt) (q : Bytes) : getID (Trie1.empty opt).view q = .ok none := rfl

end C03

/-- **C03 (Search).**  In Complete mode `Search q`, for every query string, returns the values of
    the greatest retained key below `q`, of `q` itself if it is retained, and of the smallest
    retained key above `q` (nil where there is no such key). -/
theorem C03_search (keys : List Bytes) (vals : Option (List Bytes)) (opt : Opt) (t : Trie1)
    (hb : build keys vals opt = .ok t) (hc : opt.complete = true) (q : Bytes) :
    search t.view q =
      .ok (shownVal (retained keys vals opt.dedup) (Spec.lt (retained keys vals opt.dedup) q),
           shownVal (retained keys vals opt.dedup) (Spec.get (retained keys vals opt.dedup) q),
           shownVal (retained keys vals opt.dedup) (Spec.gt (retained keys vals opt.dedup) q)) :=
  C09.search_spec keys vals opt t hb q (Or.inl hc)

/-- **C03 (GetID).**  In Complete mode `GetID q` returns normally for every query string and
    reports an id exactly when `q` is a retained key: no false positives, no false negatives. -/
theorem C03_getID (keys : List Bytes) (vals : Option (List Bytes)) (opt : Opt) (t : Trie1)
    (hb : build keys vals opt = .ok t) (hc : opt.complete = true) (q : Bytes) :
    ∃ e, getID t.view q = .ok e ∧
      e.isSome = (Spec.get (retained keys vals opt.dedup) q).isSome := by
  obtain ⟨l, e, r, _, hg, hsome, _⟩ := C09.lookup keys vals opt t hb q (Or.inl hc)
  exact ⟨e, hg, hsome⟩

/-- **C03 (Get).**  In Complete mode `Get q` finds exactly the retained keys and returns their
    values. -/
theorem C03_get (keys : List Bytes) (vals : Option (List Bytes)) (opt : Opt) (t : Trie1)
    (hb : build keys vals opt = .ok t) (hc : opt.complete = true) (q : Bytes) :
    get t.view q =
      .ok (shownVal (retained keys vals opt.dedup) (Spec.get (retained keys vals opt.dedup) q)) := by
  obtain ⟨l, e, r, _, hg, _, _, he, _, _⟩ := C09.lookup keys vals opt t hb q (Or.inl hc)
  exact Agree.get_of_getID _ _ e _ hg he

/-- **C03 (RangeGet).**  In Complete mode `RangeGet q` returns the value of the greatest retained
    key `≤ q`, not-found if there is none. -/
theorem C03_rangeget (keys : List Bytes) (vals : Option (List Bytes)) (opt : Opt) (t : Trie1)
    (hb : build keys vals opt = .ok t) (hc : opt.complete = true) (q : Bytes) :
    rangeGet t.view q =
      .ok (shownVal (retained keys vals opt.dedup) (Spec.le (retained keys vals opt.dedup) q)) := by
  obtain ⟨l, e, r, hsid, _, _, _, _, _, hle⟩ := C09.lookup keys vals opt t hb q (Or.inl hc)
  exact Agree.rangeGet_of _ _ l e r _ hsid hle

/-- "a", "ab", "a\x80\x01", "b\xff", "\xf0" with values 1, 1, 2, [2,0], 3: record 1 is
    de-duplicated away; Complete mode -/
def C03.exKeys : List Bytes := [[0x61], [0x61, 0x62], [0x61, 0x80, 0x01], [0x62, 0xff], [0xf0]]
def C03.exVals : List Bytes := [[1], [1], [2], [2, 0], [3]]
def C03.exOpt : Opt := { dedup := true, inner := true, leaf := true }

/-- the hypotheses are satisfiable, and by the theorems: the empty string lies below everything;
    "ab" (an indexed but dropped key) is not found and lies between "a" and "a\x80\x01";
    "a\x80" (a proper prefix of a retained key, ending inside its stored leaf tail) likewise;
    "b\xff\x00" (one-byte extension) lies just above "b\xff"; "\xff" lies above everything -/
example : ∃ t, build C03.exKeys (some C03.exVals) C03.exOpt = .ok t ∧ C03.exOpt.complete = true ∧
    retained C03.exKeys (some C03.exVals) C03.exOpt.dedup =
      [([0x61], some [1]), ([0x61, 0x80, 0x01], some [2]), ([0x62, 0xff], some [2, 0]),
       ([0xf0], some [3])] ∧
    search t.view [] = .ok (none, none, some (some [1])) ∧
    search t.view [0x61, 0x62] = .ok (some (some [1]), none, some (some [2])) ∧
    search t.view [0x61, 0x80] = .ok (some (some [1]), none, some (some [2])) ∧
    search t.view [0x61, 0x80, 0x01] = .ok (some (some [1]), some (some [2]), some (some [2, 0])) ∧
    search t.view [0x62, 0xff, 0x00] = .ok (some (some [2, 0]), none, some (some [3])) ∧
    search t.view [0xff] = .ok (some (some [3]), none, none) ∧
    rangeGet t.view [0x61, 0x62] = .ok (some (some [1])) ∧
    rangeGet t.view [] = .ok none ∧
    get t.view [0x61, 0x62] = .ok none ∧
    get t.view [0x62, 0xff] = .ok (some (some [2, 0])) := by
  obtain ⟨t, (hb : build C03.exKeys (some C03.exVals) C03.exOpt = .ok t)⟩ := C01.Ex.built_complete
  have hc : C03.exOpt.complete = true := by decide
  refine ⟨t, hb, hc, by decide +kernel, ?_, ?_, ?_, ?_, ?_, ?_, ?_, ?_, ?_, ?_⟩
  all_goals first
    | (rw [C03_search _ _ _ t hb hc]; refine congrArg Except.ok ?_; decide +kernel)
    | (rw [C03_rangeget _ _ _ t hb hc]; refine congrArg Except.ok ?_; decide +kernel)
    | (rw [C03_get _ _ _ t hb hc]; refine congrArg Except.ok ?_; decide +kernel)

#print axioms C03_search
#print axioms C03_getID
#print axioms C03_get
#print axioms C03_rangeget
