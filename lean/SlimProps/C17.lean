import SlimProofs.SizePrefixEnc
import SlimProofs.SizeBound
import SlimProofs.SizeLabels
import SlimProps.C08Accept
/-
  SlimProps.C17 — filter-mode index size (default options, no values).

  First half, `C17_bound`: the serialized index of `n ≥ 1` keys is at most `8·n + 256` bytes,
  whatever the keys, for `n < 2^31` (Go's own limit: node ids and rank-index entries are
  `int32`; the proof needs the rank entries, which count up to `2n`, to fit 5-byte varints,
  i.e. any `n < 2^33` would do).  Ingredients (SlimProofs.Size*): every inner record has ≥ 2
  labels and every 257-bit record ≥ 11 when nothing is dropped (`SizeLabels.build_labelsOK`),
  so `#inner ≤ n − 1`, `#nodes ≤ 2n − 1`; per-field size bounds (`SizeFields`); the short table
  is chosen only when `4·2^shortSize < #inner + 4` (`SizeShort.eShortSize_small`, from
  `memIncr sorted S ≥ 64·2^S − (17 − S)·#inner` and `findMinShortSize`); a linear sum
  (`SizeBound.protoSize_filter_le`).

  Second half of the property, "prepending a common prefix to every key changes the size by at
  most a few bytes":

  * `C17_prefix_same_shape` (SlimProofs.SizePrefix): the record array of `P ++ K` is that of `K`
    except for the root's step, which is `2·|P|` half-bytes longer.
  * `C17_prefix_size`: `size(K) ≤ size(P ++ K) ≤ size(K) + 26 + I/128`, `I` = number of inner
    nodes (the presence bitmap of `InnerPrefixes` has one rank-index entry per 128 inner nodes).

  The property as worded — `|size(P ++ K) − size(K)| ≤ c` for a constant `c` — is REFUTED
  (finding K1, confirmed byte for byte against the Go code): when the root has no step,
  prepending `P` gives it one; every later entry of the `"r128"` rank index of the presence
  bitmap grows by one, and every entry that was exactly 127 becomes a two-byte varint.  Witness
  `C17.witness d` below (254 keys that produce exactly 127 stepped inner nodes at BFS level 3,
  followed by a full binary tree of `2^d − 1` step-less inner nodes), `P = [0x41]`:
  d = 11: 2155 → 2174 bytes (`#guard`ed below); d = 13: 7011 → 7079 and d = 15: 27817 → 28076 were measured
  on the implementation (DESIGN.md, K1), not evaluated here (growth ≈ I/128).

      -- refuted:  theorem C17_prefix_invariant … : (size t' : Int) - size t ≤ c   (any constant c)
-/
open Wire Slim

/-- `len(Marshal())` -/
def marshalSize (t : Trie1) : Nat := (marshalSlim (Slim.encode t)).length

def innerCount (t : Trie1) : Nat := (Slim.innerRecs t.nodes).length

namespace C17

open SizePrefix BuildShape

theorem build_filter {keys : List Bytes} {t : Trie1} (hb : build keys none {} = .ok t)
    (hne : keys ≠ []) : t.opt = {} ∧ t.elts = none := by
  obtain ⟨_, _, st, _, rfl⟩ := build_ok_elim hb hne
  exact ⟨rfl, rfl⟩

/-- the tries of `K` and of `P ++ K`, when the first has an inner root: the second has one too,
    with the same labels; only the step differs -/
theorem lengthened (keys : List Bytes) (P : Bytes) (t t' : Trie1) (hne : keys ≠ [])
    (hb : build keys none {} = .ok t) (hb' : build (keys.map (P ++ ·)) none {} = .ok t')
    {a : InnerRec} (hroot : t.nodes[0]? = some (.inner a)) :
    ∃ ws, a.pref = stepPref ws ∧ SizePrefixEnc.Lengthened t t' ws (2 * P.length) := by
  obtain ⟨hopt, hbc, _, helts, r, r', ns, hn, hn', hrel⟩ :=
    C17_prefix_same_shape keys P t t' hne hb hb'
  rw [← Array.getElem?_toList, hn] at hroot
  cases Option.some.inj hroot
  cases r' with
  | leaf _ _ => exact hrel.elim
  | inner a' =>
    obtain ⟨h1, h2, _, ws, hp, hp'⟩ := hrel
    have hin := SizePrefixEnc.eInners_cons hn
    have hin' := SizePrefixEnc.eInners_cons hn'
    refine ⟨ws, hp, ⟨hopt, hbc, helts, by rw [hn, hn']; rfl, ?_⟩, by rw [(build_filter hb hne).1],
      a, a', _, hin, hin', hp, hp'⟩
    rw [hin, hin', List.map_cons, List.map_cons]
    congr 1
    unfold Refine.noPref
    rw [h1, h2]

end C17

open SizePrefix SizePrefixEnc BuildShape in
/-- C17 (prefix, size half): prepending a common prefix never shrinks the serialized
    index and grows it by at most 26 bytes plus one byte per 128 inner nodes.
    `hN` is Go's own limit (node ids are `int32`; any bound below `2^32` would do). -/
theorem C17_prefix_size (keys : List Bytes) (P : Bytes) (t t' : Trie1) (hne : keys ≠ [])
    (hb : build keys none {} = .ok t) (hb' : build (keys.map (P ++ ·)) none {} = .ok t')
    (hN : t.nodes.size < 2 ^ 31) :
    marshalSize t ≤ marshalSize t' ∧ marshalSize t' ≤ marshalSize t + 26 + innerCount t / 128 := by
  obtain ⟨hopt, hbc, hlk, helts, r, r', ns, hn, hn', hrel⟩ :=
    C17_prefix_same_shape keys P t t' hne hb hb'
  unfold marshalSize innerCount
  cases r with
  | leaf i lp =>
    -- a single key: the two tries are equal
    cases r' with
    | inner _ => exact hrel.elim
    | leaf i' lp' =>
      obtain ⟨rfl, rfl⟩ := hrel
      have hnodes : t'.nodes = t.nodes := Array.toList_inj.mp (hn'.trans hn.symm)
      have : t' = t := by
        cases t
        cases t'
        cases hopt
        cases hbc
        cases hlk
        cases helts
        cases hnodes
        rfl
      rw [this]
      exact ⟨Nat.le_refl _, Nat.le_add_right_of_le (Nat.le_add_right _ 26)⟩
  | inner a =>
    obtain ⟨ws, _, h⟩ := C17.lengthened keys P t t' hne hb hb' (a := a)
      (by rw [← Array.getElem?_toList, hn]; rfl)
    exact marshal_size_prefix h
      (Nat.lt_of_le_of_lt (Refine.eInners_length_le t) (Nat.lt_trans hN (by decide)))

open BuildShape in
/-- C17 (bound): in filter mode the serialized index takes at most 8 bytes per key plus 256,
    whatever the length or content of the keys. -/
theorem C17_bound (keys : List Bytes) (t : Trie1) (hne : keys ≠ [])
    (hb : build keys none {} = .ok t) (hn : keys.length < 2 ^ 31) :
    marshalSize t ≤ 8 * keys.length + 256 := by
  have hs := build_shape keys none {} t hb hne
  have hlab := SizeLabels.build_labelsOK keys {} t hb hne
  have hbc := SizeLabels.build_bigCnt_le keys none {} t hb hne
  rw [StatLemmas.innersBefore_all] at hbc
  have hL := SizeLabels.build_leaves_eq keys {} t hb hne
  obtain ⟨hopt, helts⟩ := C17.build_filter hb hne
  have := SizeBound.protoSize_filter_le hs (by rw [hopt]) (by rw [hopt]) helts hbc hlab
    keys.length hL hn
  unfold marshalSize
  rwa [SizePrefixEnc.marshal_encode_length t (Nat.ne_of_gt hs.nonempty)]

/-! ### the witness of finding K1 (executable test, not a proof) -/

namespace C17

def packNibs : List Nat → Bytes
  | a :: b :: rest => UInt8.ofNat (a * 16 + b) :: packNibs rest
  | _ => []

/-- binary strings of length `d` over the half-bytes {0, 1}, ascending -/
def binStrs : Nat → List (List Nat)
  | 0 => [[]]
  | d + 1 => (binStrs d).map (0 :: ·) ++ (binStrs d).map (1 :: ·)

/-- 254 keys `0 x y 0 a 0`: 127 inner nodes `0xy` at BFS level 3, each with a one-half-byte step -/
def partA : List (List Nat) :=
  (List.range 16).flatMap fun x => (List.range 8).flatMap fun y =>
    if x = 15 ∧ y = 7 then [] else [[0, x, y, 0, 0, 0], [0, x, y, 0, 1, 0]]

/-- `2^d` keys `1 b₁ … b_d`: a full binary tree of step-less inner nodes (`d` odd) -/
def partB (d : Nat) : List (List Nat) := (binStrs d).map (1 :: ·)

def witness (d : Nat) : List Bytes := (partA ++ partB d).map packNibs

def sizeOfKeys (keys : List Bytes) : Option Nat :=
  match build keys none {} with
  | .ok t => some (marshalSize t)
  | .error _ => none

-- test (evaluated, not proved): one prefix byte costs 19 bytes on 2302 keys; the growth is
-- proportional to the number of inner nodes (measured on the implementation: d = 13: +68, d = 15: +259)
#guard (witness 11).length == 2302
#guard sizeOfKeys (witness 11) == some 2155
#guard sizeOfKeys ((witness 11).map ([0x41] ++ ·)) == some 2174

end C17

example : ∃ t t', build [[0x61], [0x62, 0x63]] none {} = .ok t ∧
    build ([[0x61], [0x62, 0x63]].map ([0x50, 0x51] ++ ·)) none {} = .ok t' :=
  have h : ∀ keys : List Bytes, keys ≠ [] → strictAsc keys = true →
      (∀ k ∈ keys, 2 * k.length ≤ 0xffff) → ∃ t, build keys none {} = .ok t :=
    fun keys h1 h2 h3 => C08_accept keys none {} h1 h2 (by intro vs h; cases h) (Or.inr h3)
  (h _ (by decide) (by decide) (by decide)).elim fun t ht =>
    ⟨t, (h _ (by decide) (by decide) (by decide)).imp fun _ ht' => ⟨ht, ht'⟩⟩

/-- the bound on a concrete input (3 keys: at most 280 bytes) -/
example : ∃ t, build [[0x61], [0x61, 0x62], [0x62, 0xe3]] none {} = .ok t ∧ marshalSize t ≤ 280 :=
  (C08_accept _ _ _ (by decide) (by decide) (by intro vs h; cases h) (Or.inr (by decide))).imp
    fun t ht => ⟨ht, C17_bound _ t (by decide) ht (by decide)⟩

-- test (evaluated): the measured sizes are far below the bound
#guard C17.sizeOfKeys [[0x61], [0x61, 0x62], [0x62, 0xe3]] == some 96
#guard (C17.sizeOfKeys (C17.witness 11)).map (fun z => decide (z ≤ 8 * 2302 + 256)) == some true

#print axioms C17_bound
#print axioms C17_prefix_same_shape
#print axioms C17_prefix_size
