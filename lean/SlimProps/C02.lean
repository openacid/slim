import SlimProps.C09
/-
  SlimProps.C02 — `RangeGet` maps every indexed key to the value of its range.

  `C02_rangeget_indexed`: for every successful `build` (any option combination, with or without
  values, de-duplication on or off) and EVERY key index `i` — retained or de-duplicated away —
  `RangeGet(keys[i])` returns found = true and the value supplied for key `i`
  (`recVal` of SlimProofs.CutSpec: nil when no values were supplied or all retained values are empty,
  else the encoded value `vals[i]`).

  Proof.  `C09.lookup` at the key's own cut: `RangeGet` answers with the last kept record up to
  `i`, kept or not (`Cut.of_key`), and that record carries the value of record `i`
  (`C02.lastKept_val`): record 0 is always kept, and `newToKeep` drops a record only if its
  encoded value equals its predecessor's (`BuildInv.keptAt_succ`).

  `C02_search_dropped`: `Search` on a dropped key = (value of the previous retained key,
  nil, value of the next retained key | nil).
-/


namespace C02

/-- by `prevKept`'s own recursion: record 0 is kept, a kept record is its own answer, and a dropped
    one hands the question to its predecessor, whose value it shares -/
theorem lastKept_val (vs : List Bytes) (dedup : Bool) (i : Nat) (hi : i < vs.length) :
    ∃ p, prevKept (keepMask vs.length (some vs) dedup) (i + 1) = some p ∧
      vs.getD p [] = vs.getD i [] := by
  induction i with
  | zero =>
    exact ⟨0, if_pos (BuildInv.keepMask_zero dedup (Nat.ne_of_gt hi) (by intro _ h; cases h; rfl)), rfl⟩
  | succ d ih =>
    rw [prevKept]
    cases hk : keptAt (keepMask vs.length (some vs) dedup) (d + 1) with
    | true => exact ⟨d + 1, if_pos rfl, rfl⟩
    | false =>
      obtain ⟨p, hp, hv⟩ := ih (Nat.lt_of_succ_lt hi)
      rw [BuildInv.keptAt_succ vs dedup d hi, Bool.or_eq_false_iff, bne_eq_false_iff_eq] at hk
      exact ⟨p, hp, hv.trans hk.2⟩

end C02

/-- **C02.**  `RangeGet` on every indexed key — retained or de-duplicated away — is found and
    returns the value supplied for that key, for every option combination. -/
theorem C02_rangeget_indexed (keys : List Bytes) (vals : Option (List Bytes)) (opt : Opt)
    (t : Trie1) (hb : build keys vals opt = .ok t) (hne : keys ≠ [])
    (i : Nat) (hi : i < keys.length) :
    rangeGet t.view (keys.getD i []) =
      .ok (some (recVal (keepMask keys.length vals opt.dedup) vals i)) := by
  obtain ⟨hasc, hv⟩ := build_pre keys vals opt t hb hne
  obtain ⟨l, e, r, hsid, _, _, _, _, _, hle⟩ :=
    C09.lookup keys vals opt t hb _ (Or.inr ⟨i, hi, rfl⟩)
  obtain ⟨a, c⟩ := Cut.of_key (keep := keepMask keys.length vals opt.dedup) hasc hi
  rw [Agree.rangeGet_of _ _ l e r _ hsid hle, C09.retained_eq keys vals opt.dedup hv, c.spec_le,
    C09.shownVal_entryAt keys vals _ hv]
  cases vals with
  | none =>
    rw [prevKept, if_pos (show keptAt (keepMask keys.length none opt.dedup) i = true from
      BuildInv.keptAt_replicate _ i hi)]
    rfl
  | some vs =>
    rw [← hv vs rfl] at hi ⊢
    obtain ⟨p, hp, hsame⟩ := C02.lastKept_val vs opt.dedup i hi
    rw [hp]
    simp only [valOf, recVal, hsame]

/-- **`Search` on a dropped key** (all modes): no exact match, the neighbours are the nearest
    retained records on either side. -/
theorem C02_search_dropped (keys : List Bytes) (vals : Option (List Bytes)) (opt : Opt)
    (t : Trie1) (hb : build keys vals opt = .ok t) (hne : keys ≠ [])
    (d : Nat) (hd : d < keys.length)
    (hk : keptAt (keepMask keys.length vals opt.dedup) d = false) :
    search t.view (keys.getD d []) =
      .ok (valOf (keepMask keys.length vals opt.dedup) vals
             (prevKept (keepMask keys.length vals opt.dedup) d),
           none,
           valOf (keepMask keys.length vals opt.dedup) vals
             (nextKept (keepMask keys.length vals opt.dedup) d)) := by
  obtain ⟨hasc, hv⟩ := build_pre keys vals opt t hb hne
  have c := Cut.of_dropped hasc hd hk
  rw [C09.search_spec keys vals opt t hb _ (Or.inr ⟨d, hd, rfl⟩),
    C09.retained_eq keys vals opt.dedup hv, c.spec_lt, c.spec_get vals, c.spec_gt, if_pos rfl,
    prevKept, if_neg (Bool.eq_false_iff.mp hk), nextKept, LeafCount.keepMask_length opt.dedup hv]
  simp only [C09.shownVal_entryAt keys vals _ hv]
  rfl

/-- "a", "ab", "abc", "b", "bcd", "c": the run of value 1 starts at "a" (a prefix of the next two
    keys) and crosses from the sub-trie of `a…` into the sub-trie of `b…`; the run of value 2
    starts inside the sub-trie of `b…` and covers "c", whose whole branch disappears -/
def C02.exKeys : List Bytes :=
  [[0x61], [0x61, 0x62], [0x61, 0x62, 0x63], [0x62], [0x62, 0x63, 0x64], [0x63]]
def C02.exVals : List Bytes := [[1], [1], [1], [1], [2], [2]]

/-- the hypotheses are satisfiable (default options = filter mode with de-duplication), only
    records 0 and 4 are retained, and by the theorem `RangeGet` on "b" (dropped, record 3, across
    the sub-trie boundary) is value 1 and on "c" (dropped, record 5) is value 2 -/
example : ∃ t, build C02.exKeys (some C02.exVals) {} = .ok t ∧ C02.exKeys ≠ [] ∧
    keepMask C02.exKeys.length (some C02.exVals) ({} : Opt).dedup
      = [true, false, false, false, true, false] ∧
    rangeGet t.view (C02.exKeys.getD 3 []) = .ok (some (some [1])) ∧
    rangeGet t.view (C02.exKeys.getD 5 []) = .ok (some (some [2])) := by
  obtain ⟨t, hb⟩ := C01.Ex.exists_of_isOk (build C02.exKeys (some C02.exVals) {}) (by decide +kernel)
  refine ⟨t, hb, by decide, by decide +kernel, ?_, ?_⟩
  · rw [C02_rangeget_indexed _ _ _ t hb (by decide) 3 (by decide)]
    refine congrArg Except.ok ?_
    decide +kernel
  · rw [C02_rangeget_indexed _ _ _ t hb (by decide) 5 (by decide)]
    refine congrArg Except.ok ?_
    decide +kernel

/-- the same input is accepted in complete mode and with stored inner prefixes only -/
example : (build C02.exKeys (some C02.exVals) { inner := true, leaf := true }).toBool = true ∧
    (build C02.exKeys (some C02.exVals) { inner := true }).toBool = true ∧
    (build C02.exKeys (some C02.exVals) { leaf := true }).toBool = true := by
  decide +kernel

#print axioms C02_rangeget_indexed
#print axioms C02_search_dropped
