import SlimProps.C06Legacy3Wire
import SlimProofs.InputSmall
/-
  C06, 0.5.10 / 0.5.11 family, stated on the writer's input.

  `C06_load_legacy_0510` (SlimProps/C06Legacy3Wire.lean) carries two allocation hypotheses
  about the intermediate trie `t` — `Refine.Small t` and `BodyOK (to0510 (Slim.encodeCreator t))` —
  and names `opt`, `t` through `hmode`, `hver`, `hb`.  Here every hypothesis is about
  `mode`, `ver`, `keys`, `vals`, `w` (and the stream the writer returned):

    hwr  : write0510 mode ver keys vals = .ok stream     the (reconstructed) old writer produced it
    hk   : keys ≠ []                                     (the empty set is `C06_load_legacy_0510_empty`)
    hi   : InputSmall keys (some vals)                   514·|keys| + key bytes + value bytes + 64 < 2^31
    hw, hvw : fixed-width values of width `w > 0`        (all that 0.5.10 supported)

  That the mode and version were valid and that `build` succeeded follows from `hwr`
  (`InputLegacy.write0510_inv`); `Small t` and the 0.5.10 `BodyOK` follow from `hi`
  (`small_of_input`, `bodyOK_0510_of_input`).  The option set `opt` of the mode and the trie `t`
  the old writer built appear existentially (the statement needs `t` to name the expected values).
-/
open Wire Frame Version Legacy LegacyWrite LegacyConvert Refine

/-- **C06, 0.5.10 / 0.5.11 (nopref / innpref / allpref), from the bytes, hypotheses on the input
    only.**  Loading the writer's stream into any instance succeeds; every retained key is found
    with its value, `RangeGet` answers every indexed key with the value of its run, `Search`
    returns the exact retained neighbours, every lookup of every query is total, and `Stat`
    reports exactly the retained keys. -/
theorem C06_load_legacy_0510_input (mode ver : String) (keys vals : List Bytes) (w : Nat)
    (stream : Bytes)
    (hwr : write0510 mode ver keys vals = .ok stream) (hk : keys ≠ [])
    (hi : InputSmall keys (some vals))
    (hw : 0 < w) (hvw : ∀ v ∈ vals, v.length = w) (σ : Instance) :
    ∃ opt t, optOfMode mode = some opt ∧ build keys (some vals) opt = .ok t ∧
    (let r := Instance.unmarshal σ (some w) stream
     let v := Slim.view r.1.inner
     let mask := keepMask keys.length (some vals) opt.dedup
     r.2 = none ∧ r.1.varsNil = false ∧
     (∀ i, i < keys.length → keptAt mask i = true →
       get v (keys.getD i []) = .ok (some (expectedValue (some vals) t i)) ∧
       search v (keys.getD i []) =
         .ok (valOf mask (some vals) (prevKept mask i), valOf mask (some vals) (some i),
              valOf mask (some vals) (nextKept mask i))) ∧
     (∀ i, i < keys.length → rangeGet v (keys.getD i []) = .ok (some (recVal mask (some vals) i))) ∧
     (∀ q, (∃ a, getID v q = .ok a) ∧ (∃ a, get v q = .ok a) ∧ (∃ a, rangeGet v q = .ok a) ∧
       (∃ a, search v q = .ok a)) ∧
     (∃ nodeCnt, Slim.stat r.1.inner r.1.levels
       = .ok { levels := r.1.levels, keyCnt := (retained keys (some vals) opt.dedup).length,
               nodeCnt := nodeCnt })) := by
  obtain ⟨opt, t, hmode, hver, hb⟩ := InputLegacy.write0510_inv mode ver keys vals stream hwr hk
  exact ⟨opt, t, hmode, hb,
    C06_load_legacy_0510 mode ver keys vals opt t w stream hmode hver hwr hb hk
      (small_of_input keys (some vals) opt t hb hi)
      (bodyOK_0510_of_input keys (some vals) opt t hb hk hi) hw hvw σ⟩

/-- the values are reported as supplied: C01's "own value" form on the loaded view
    (`C06_get_bytes_0510`) -/
theorem C06_load_legacy_0510_input_get (mode ver : String) (keys vals : List Bytes) (w : Nat)
    (stream : Bytes)
    (hwr : write0510 mode ver keys vals = .ok stream) (hk : keys ≠ [])
    (hi : InputSmall keys (some vals))
    (hw : 0 < w) (hvw : ∀ v ∈ vals, v.length = w) (σ : Instance) :
    ∃ opt, optOfMode mode = some opt ∧
      (Instance.unmarshal σ (some w) stream).2 = none ∧
      ∀ i, i < keys.length → keptAt (keepMask keys.length (some vals) opt.dedup) i = true →
        ∃ x, get (Slim.view (Instance.unmarshal σ (some w) stream).1.inner) (keys.getD i [])
          = .ok (some x) ∧ x.getD [] = vals.getD i [] := by
  obtain ⟨opt, t, hmode, hver, hb⟩ := InputLegacy.write0510_inv mode ver keys vals stream hwr hk
  obtain ⟨lv, _, hinst⟩ := loaded_0510 mode ver keys vals opt t w stream hmode hver hwr hb hk
    (small_of_input keys (some vals) opt t hb hi) (bodyOK_0510_of_input keys (some vals) opt t hb hk hi)
    hw hvw σ
  rw [hinst]
  refine ⟨opt, hmode, rfl, fun i hi' hkept => ?_⟩
  obtain ⟨x, hx, _, hv⟩ :=
    C06_get_bytes_0510 keys (some vals) opt t hb _ i hi' hkept
  exact ⟨x, hx, hv vals rfl⟩

namespace C06Input

open C06L3.Ex

example : InputSmall keys (some vals) := by decide

/-- the allpref-0.5.10 stream of five keys ("a" is a prefix of "ab") satisfies every hypothesis of
    `C06_load_legacy_0510_input` — all of them by evaluation on the input; hence any instance that
    loads it finds "ab" with value `[2]` and answers every `search` -/
example (σ : Instance) : ∃ stream, write0510 "allpref" "0.5.10" keys vals = .ok stream ∧
    (Instance.unmarshal σ (some 1) stream).2 = none ∧
    (∃ x, get (Slim.view (Instance.unmarshal σ (some 1) stream).1.inner) [0x61, 0x62]
        = .ok (some x) ∧ x.getD [] = [2]) ∧
    ∀ q, ∃ a, search (Slim.view (Instance.unmarshal σ (some 1) stream).1.inner) q = .ok a := by
  obtain ⟨stream, hs⟩ := C01.Ex.exists_of_isOk (write0510 "allpref" "0.5.10" keys vals) (by decide +kernel)
  have hk : keys ≠ [] := by decide
  obtain ⟨opt, t, hmode, hb, r1, _, _, _, r5, _⟩ := C06_load_legacy_0510_input "allpref" "0.5.10" keys vals 1
    stream hs hk (by decide) Nat.one_pos (by decide) σ
  obtain ⟨opt', hmode', _, hget⟩ := C06_load_legacy_0510_input_get "allpref" "0.5.10" keys vals 1
    stream hs hk (by decide) Nat.one_pos (by decide) σ
  have hopt : opt' = { inner := true, leaf := true } := by
    have : optOfMode "allpref" = some { inner := true, leaf := true } := by decide
    rw [this] at hmode'
    exact (Option.some.inj hmode').symm
  subst hopt
  exact ⟨stream, hs, r1, hget 1 (by decide) (by decide), fun q => (r5 q).2.2.2⟩

end C06Input

#print axioms C06_load_legacy_0510_input
#print axioms C06_load_legacy_0510_input_get
