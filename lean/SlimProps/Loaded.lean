import SlimProps.L2
import SlimProps.L2b
import SlimProps.L2c
import SlimProps.C05
import SlimProps.C18
/-
  SlimProps.Loaded — "freshly built or loaded from bytes": the headline theorem of every
  property, restated for a SlimTrie instance that was LOADED: `Unmarshal` (model
  `Legacy.Instance.unmarshal`) of the bytes `Marshal` (`marshalSlim`) produced for a built trie,
  into an instance with ANY prior contents `σ` and any encoder width `encSize`.

    loadedFrom σ t encSize := (Instance.unmarshal σ encSize (marshalSlim (Slim.encode t))).1

  `loaded_eq`: for every built trie within Go's own size limits (`Refine.Small t`) the load
  succeeds and the loaded instance is `⟨Slim.encode t, lv, false⟩` with `lv` the level table
  `initLevels` computes (`C05_roundtrip` + `C18_initLevels_ok`),
  whatever `σ` held.  Hence `Slim.view (loadedFrom …).inner = L2view t` (`loaded_view`), and every
  bit-level theorem of `SlimProps.L2/L2b/L2c` is a statement about the loaded instance.

  `Refine.Small t` (SlimProofs/EncodeWF.lean) only excludes tries beyond the Go code's own
  limits: every counter the Go code keeps in an int32 (its rank and select indexes are `[]int32`)
  fits one, and the protobuf body can be allocated.  SlimProps.LoadedInput derives it from a bound
  on the input.

  The `…_loaded` forms of C01, C02, C03, C04, C09, C10, C13, C14, C18 and C19 are each the `…_L2`
  theorem rewritten with `loaded_view`.
-/

open Wire Frame Version Legacy Refine

/-- the instance after loading the marshalled trie into an instance that held `σ` -/
def loadedFrom (σ : Instance) (t : Trie1) (encSize : Option Nat) : Instance :=
  (Instance.unmarshal σ encSize (marshalSlim (Slim.encode t))).1

section loaded
variable (keys : List Bytes) (vals : Option (List Bytes)) (opt : Opt) (t : Trie1)
  (hb : build keys vals opt = .ok t) (hsm : Small t) (σ : Instance) (encSize : Option Nat)
include hb hsm

/-- **Loading a marshalled built trie** succeeds and yields the built message with its freshly
    initialised level table, whatever the instance held before. -/
theorem loaded_eq :
    ∃ lv, Slim.initLevels (Slim.encode t) = .ok lv ∧
      Instance.unmarshal σ encSize (marshalSlim (Slim.encode t))
        = ({ inner := Slim.encode t, levels := lv, varsNil := false }, none) := by
  obtain ⟨lv, hlv⟩ := C18_initLevels_ok keys vals opt t hb
  exact ⟨lv, hlv, (C05_roundtrip keys vals opt t hb hsm encSize lv hlv σ).2⟩

/-- the same about `loadedFrom`; `rw [loadedFrom]` and not `congrArg Prod.fst`: the kernel would
    evaluate `Instance.unmarshal` to compare `loadedFrom σ t encSize` with its first component -/
theorem loadedFrom_eq :
    ∃ lv, Slim.initLevels (Slim.encode t) = .ok lv ∧
      loadedFrom σ t encSize = { inner := Slim.encode t, levels := lv, varsNil := false } := by
  obtain ⟨lv, hlv, h⟩ := loaded_eq keys vals opt t hb hsm σ encSize
  refine ⟨lv, hlv, ?_⟩
  rw [loadedFrom, h]

theorem loaded_inner : (loadedFrom σ t encSize).inner = Slim.encode t := by
  obtain ⟨lv, _, h⟩ := loadedFrom_eq keys vals opt t hb hsm σ encSize
  rw [h]

theorem loaded_view : Slim.view (loadedFrom σ t encSize).inner = L2view t := by
  rw [loaded_inner keys vals opt t hb hsm σ encSize]

theorem loaded_indep (σ' : Instance) : loadedFrom σ t encSize = loadedFrom σ' t encSize := by
  obtain ⟨lv, hlv, h⟩ := loadedFrom_eq keys vals opt t hb hsm σ encSize
  obtain ⟨lv', hlv', h'⟩ := loadedFrom_eq keys vals opt t hb hsm σ' encSize
  have hll : lv' = lv := by rw [hlv] at hlv'; exact (Except.ok.inj hlv').symm
  rw [h, h', hll]

/-- **C05 (answers identical)**: the level table is the one `initLevels` computes, no hypothesis that
    `init` succeeds. -/
theorem C05_answers_identical_built :
    ∃ lv, Slim.initLevels (Slim.encode t) = .ok lv ∧
      (loadedFrom σ t encSize).inner = Slim.encode t ∧
      Slim.view (loadedFrom σ t encSize).inner = Slim.view (Slim.encode t) ∧
      (loadedFrom σ t encSize).levels = lv ∧ (loadedFrom σ t encSize).varsNil = false ∧
      Slim.stat (loadedFrom σ t encSize).inner (loadedFrom σ t encSize).levels
        = Slim.stat (Slim.encode t) lv := by
  obtain ⟨lv, hlv, hl⟩ := loadedFrom_eq keys vals opt t hb hsm σ encSize
  rw [hl]
  exact ⟨lv, hlv, rfl, rfl, rfl, rfl, rfl⟩

theorem C01_get_retained_loaded (i : Nat) (hi : i < keys.length)
    (hk : keptAt (keepMask keys.length vals opt.dedup) i = true) :
    (∃ id, getID (Slim.view (loadedFrom σ t encSize).inner) (keys.getD i []) = .ok (some id)) ∧
    get (Slim.view (loadedFrom σ t encSize).inner) (keys.getD i [])
      = .ok (some (expectedValue vals t i)) := by
  rw [loaded_view keys vals opt t hb hsm]; exact C01_get_retained_L2 keys vals opt t hb i hi hk

theorem C01_get_retained_bytes_loaded (i : Nat) (hi : i < keys.length)
    (hk : keptAt (keepMask keys.length vals opt.dedup) i = true) :
    ∃ r, get (Slim.view (loadedFrom σ t encSize).inner) (keys.getD i []) = .ok (some r) ∧
      (vals = none → r = none) ∧ (∀ vs, vals = some vs → r.getD [] = vs.getD i []) := by
  rw [loaded_view keys vals opt t hb hsm]
  exact C01_get_retained_bytes_L2 keys vals opt t hb i hi hk

theorem C02_rangeget_indexed_loaded (hne : keys ≠ []) (i : Nat) (hi : i < keys.length) :
    rangeGet (Slim.view (loadedFrom σ t encSize).inner) (keys.getD i []) =
      .ok (some (recVal (keepMask keys.length vals opt.dedup) vals i)) := by
  rw [loaded_view keys vals opt t hb hsm]; exact C02_rangeget_indexed_L2 keys vals opt t hb hne i hi

theorem C03_search_loaded (hc : opt.complete = true) (q : Bytes) :
    search (Slim.view (loadedFrom σ t encSize).inner) q =
      .ok (shownVal (retained keys vals opt.dedup) (Spec.lt (retained keys vals opt.dedup) q),
           shownVal (retained keys vals opt.dedup) (Spec.get (retained keys vals opt.dedup) q),
           shownVal (retained keys vals opt.dedup) (Spec.gt (retained keys vals opt.dedup) q)) := by
  rw [loaded_view keys vals opt t hb hsm]; exact C03_search_L2 keys vals opt t hb hc q

theorem C03_getID_loaded (hc : opt.complete = true) (q : Bytes) :
    ∃ e, getID (Slim.view (loadedFrom σ t encSize).inner) q = .ok e ∧
      e.isSome = (Spec.get (retained keys vals opt.dedup) q).isSome := by
  rw [loaded_view keys vals opt t hb hsm]; exact C03_getID_L2 keys vals opt t hb hc q

theorem C03_get_loaded (hc : opt.complete = true) (q : Bytes) :
    get (Slim.view (loadedFrom σ t encSize).inner) q =
      .ok (shownVal (retained keys vals opt.dedup) (Spec.get (retained keys vals opt.dedup) q)) := by
  rw [loaded_view keys vals opt t hb hsm]; exact C03_get_L2 keys vals opt t hb hc q

theorem C03_rangeget_loaded (hc : opt.complete = true) (q : Bytes) :
    rangeGet (Slim.view (loadedFrom σ t encSize).inner) q =
      .ok (shownVal (retained keys vals opt.dedup) (Spec.le (retained keys vals opt.dedup) q)) := by
  rw [loaded_view keys vals opt t hb hsm]; exact C03_rangeget_L2 keys vals opt t hb hc q

open IterLemmas Scan in
theorem C04_getGEPath_loaded (hc : opt.complete = true) (start : Bytes) :
    ∃ p, getGEPath (Slim.view (loadedFrom σ t encSize).inner) start = .ok p ∧
      GERes keys (keepMask keys.length vals opt.dedup) t start p := by
  rw [loaded_view keys vals opt t hb hsm]; exact C04_getGEPath_L2 keys vals opt t hb hc start

open Scan in
theorem C04_iter_loaded (hc : opt.complete = true) (start : Bytes) (incl wv : Bool) :
    ∃ s, newIterFrom (Slim.view (loadedFrom σ t encSize).inner) start incl = .ok s ∧
      ∀ k, iterTake (Slim.view (loadedFrom σ t encSize).inner) wv k s =
        .ok (IterStack.expect k ((Spec.scanFrom (retained keys vals opt.dedup) start incl).map
          (C04.item (retained keys vals opt.dedup) wv))) := by
  rw [loaded_view keys vals opt t hb hsm]; exact C04_iter_L2 keys vals opt t hb hc start incl wv

open Scan in
theorem C04_scanFrom_loaded (hc : opt.complete = true) (start : Bytes) (incl wv : Bool)
    (keepFn : Bytes → Bool) (stopAfter : Option Nat) :
    scanFrom (Slim.view (loadedFrom σ t encSize).inner) start incl wv keepFn stopAfter =
      .ok (IterScan.truncate stopAfter
        (((Spec.scanFrom (retained keys vals opt.dedup) start incl).map
          (C04.pair (retained keys vals opt.dedup) wv)).takeWhile (fun y => keepFn y.1))) := by
  rw [loaded_view keys vals opt t hb hsm]
  exact C04_scanFrom_L2 keys vals opt t hb hc start incl wv keepFn stopAfter

open Scan in
theorem C04_scanFromTo_loaded (hc : opt.complete = true) (start : Bytes) (incl : Bool)
    (stop : Bytes) (inclEnd wv : Bool) (stopAfter : Option Nat) :
    scanFromTo (Slim.view (loadedFrom σ t encSize).inner) start incl stop inclEnd wv stopAfter =
      .ok (IterScan.truncate stopAfter
        ((Spec.scanFromTo (retained keys vals opt.dedup) start incl stop inclEnd).map
          (C04.pair (retained keys vals opt.dedup) wv))) := by
  rw [loaded_view keys vals opt t hb hsm]
  exact C04_scanFromTo_L2 keys vals opt t hb hc start incl stop inclEnd wv stopAfter

theorem C09_search_retained_loaded (hne : keys ≠ []) (m : Nat) (hm : m < keys.length)
    (hk : keptAt (keepMask keys.length vals opt.dedup) m = true) :
    search (Slim.view (loadedFrom σ t encSize).inner) (keys.getD m []) =
      .ok (valOf (keepMask keys.length vals opt.dedup) vals
             (prevKept (keepMask keys.length vals opt.dedup) m),
           valOf (keepMask keys.length vals opt.dedup) vals (some m),
           valOf (keepMask keys.length vals opt.dedup) vals
             (nextKept (keepMask keys.length vals opt.dedup) m)) := by
  rw [loaded_view keys vals opt t hb hsm]
  exact C09_search_retained_L2 keys vals opt t hb hne m hm hk

theorem C09_search_retained_R_loaded (hne : keys ≠ []) (i : Nat) (e : Entry)
    (hi : (retained keys vals opt.dedup)[i]? = some e) :
    search (Slim.view (loadedFrom σ t encSize).inner) e.1 =
      .ok (shownVal (retained keys vals opt.dedup)
             (if i = 0 then none else (retained keys vals opt.dedup)[i - 1]?),
           shownVal (retained keys vals opt.dedup) (some e),
           shownVal (retained keys vals opt.dedup) (retained keys vals opt.dedup)[i + 1]?) := by
  rw [loaded_view keys vals opt t hb hsm]
  exact C09_search_retained_R_L2 keys vals opt t hb hne i e hi

theorem C10_total_loaded (q : Bytes) :
    (∃ a, getID (Slim.view (loadedFrom σ t encSize).inner) q = .ok a) ∧
    (∃ a, get (Slim.view (loadedFrom σ t encSize).inner) q = .ok a) ∧
    (∃ a, searchID (Slim.view (loadedFrom σ t encSize).inner) q = .ok a) ∧
    (∃ a, rangeGet (Slim.view (loadedFrom σ t encSize).inner) q = .ok a) ∧
    (∃ a, search (Slim.view (loadedFrom σ t encSize).inner) q = .ok a) := by
  rw [loaded_view keys vals opt t hb hsm]; exact C10_total_L2 keys vals opt t hb q

theorem C10_searchID_eq_getID_loaded (q : Bytes) (a : Option Nat)
    (b : Option Nat × Option Nat × Option Nat)
    (hg : getID (Slim.view (loadedFrom σ t encSize).inner) q = .ok a)
    (hs : searchID (Slim.view (loadedFrom σ t encSize).inner) q = .ok b) : b.2.1 = a := by
  rw [loaded_view keys vals opt t hb hsm] at hg hs
  exact C10_searchID_eq_getID_L2 keys vals opt t hb q a b hg hs

theorem C10_search_eq_get_loaded (q : Bytes) (a : Option (Option Bytes))
    (y : Option (Option Bytes) × Option (Option Bytes) × Option (Option Bytes))
    (hg : get (Slim.view (loadedFrom σ t encSize).inner) q = .ok a)
    (hs : search (Slim.view (loadedFrom σ t encSize).inner) q = .ok y) : y.2.1 = a := by
  rw [loaded_view keys vals opt t hb hsm] at hg hs
  exact C10_search_eq_get_L2 keys vals opt t hb q a y hg hs

/-- a loaded trie renders exactly like the record array it was built as -/
theorem C19_render_loaded (fmtVal : Option Bytes → String) :
    Slim.toStringSlim (Slim.view (loadedFrom σ t encSize).inner) fmtVal
      = Slim.toStringSlim t.view fmtVal := by
  rw [loaded_view keys vals opt t hb hsm]; exact C19_render_eq_L2 keys vals opt t hb fmtVal

open Slim C18 in
/-- `Stat` of the loaded instance: `|retained|` keys, `N` nodes, and a consistent level table -/
theorem C18_stat_loaded (hne : keys ≠ []) :
    ∃ lv, (loadedFrom σ t encSize).levels = lv ∧
      stat (loadedFrom σ t encSize).inner (loadedFrom σ t encSize).levels
        = .ok { levels := lv, keyCnt := (retained keys vals opt.dedup).length,
                nodeCnt := t.nodes.size } ∧
      (∀ e ∈ lv, e.1 = e.2.1 + e.2.2) ∧ lv.Pairwise LevelLe ∧ lv.head? = some (0, 0, 0) ∧
      lv.getLast? = some (t.nodes.size, innerCnt t, t.nodes.size - innerCnt t) := by
  obtain ⟨lv, hlv, hl⟩ := loadedFrom_eq keys vals opt t hb hsm σ encSize
  rw [hl]
  exact ⟨lv, rfl, (C18_totals keys vals opt t hb hne lv hlv).2.2,
    C18_levels_consistent keys vals opt t hb hne lv hlv⟩

end loaded

/-! ### C10 (supplied values), C13, C14: statements with their own shapes of hypotheses -/

theorem C10_hit_supplied_loaded (keys : List Bytes) (vs : List Bytes) (opt : Opt) (t : Trie1)
    (hb : build keys (some vs) opt = .ok t) (hsm : Small t) (σ : Instance) (encSize : Option Nat)
    (hne : keys ≠ []) (hvs : ∀ b ∈ vs, b ≠ [])
    (q : Bytes) (x : Option Bytes)
    (h : get (Slim.view (loadedFrom σ t encSize).inner) q = .ok (some x)) :
    ∃ b, x = some b ∧ b ∈ vs := by
  rw [loaded_view keys (some vs) opt t hb hsm] at h
  exact C10_hit_supplied_L2 keys vs opt t hb hne hvs q x h

theorem C13_monotone_loaded (keys : List Bytes) (vals : Option (List Bytes)) (o o' : Opt)
    (t t' : Trie1) (hd : o.dedup = o'.dedup) (hin : o'.inner = true → o.inner = true)
    (hlf : o'.leaf = true → o.leaf = true)
    (hb : build keys vals o = .ok t) (hb' : build keys vals o' = .ok t')
    (hsm : Small t) (hsm' : Small t') (σ σ' : Instance) (e e' : Option Nat) (q : Bytes) (id : Nat)
    (h : getID (Slim.view (loadedFrom σ t e).inner) q = .ok (some id)) :
    getID (Slim.view (loadedFrom σ' t' e').inner) q = .ok (some id) := by
  rw [loaded_view keys vals o t hb hsm] at h
  rw [loaded_view keys vals o' t' hb' hsm']
  exact C13_monotone_L2 keys vals o o' t t' hd hin hlf hb hb' q id h

theorem C13_monotone_get_loaded (keys : List Bytes) (vals : Option (List Bytes)) (o o' : Opt)
    (t t' : Trie1) (hd : o.dedup = o'.dedup) (hin : o'.inner = true → o.inner = true)
    (hlf : o'.leaf = true → o.leaf = true)
    (hb : build keys vals o = .ok t) (hb' : build keys vals o' = .ok t')
    (hsm : Small t) (hsm' : Small t') (σ σ' : Instance) (e e' : Option Nat) (q : Bytes)
    (x : Option Bytes)
    (h : get (Slim.view (loadedFrom σ t e).inner) q = .ok (some x)) :
    get (Slim.view (loadedFrom σ' t' e').inner) q = .ok (some x) := by
  rw [loaded_view keys vals o t hb hsm] at h
  rw [loaded_view keys vals o' t' hb' hsm']
  exact C13_monotone_get_L2 keys vals o o' t t' hd hin hlf hb hb' q x h

/-- **C14 on a loaded trie**: `GetIw` = `Get` followed by the two's-complement reading. -/
theorem C14_getInt_loaded (keys : List Bytes) (vs : List Bytes) (opt : Opt) (t : Trie1)
    (hb : build keys (some vs) opt = .ok t) (hsm : Small t) (σ : Instance) (encSize : Option Nat)
    (hne : keys ≠ []) (w : Nat) (hw : 0 < w) (hwidth : ∀ v ∈ vs, v.length = w) (key : Bytes) :
    Slim.getInt (loadedFrom σ t encSize).inner w key
      = (get (Slim.view (loadedFrom σ t encSize).inner) key).map
          (fun r => r.map (fun b => Slim.leSigned (b.getD []))) := by
  rw [loaded_inner keys (some vs) opt t hb hsm]
  exact C14_getInt_built keys vs opt t hb hne w hw hwidth key

/-! ### non-vacuity

  `C05.ex_hyps` provides a concrete built trie (3 keys, Complete mode, values) together with a
  proof of `Small` for it (from the size of the input, `small_of_input`).  Loaded into an
  instance with arbitrary prior contents and any encoder width, it finds the key `ab` with its
  value, answers every query without panic, scans its three entries in order and reports 3 keys. -/
example (σ : Instance) (e : Option Nat) :
    ∃ t, build C05.exKeys (some C05.exVals) C05.exOpt = .ok t ∧ Small t ∧
      (∃ r, get (Slim.view (loadedFrom σ t e).inner) [0x61, 0x62] = .ok (some r) ∧
        r.getD [] = [2]) ∧
      (∀ q, ∃ a, search (Slim.view (loadedFrom σ t e).inner) q = .ok a) ∧
      Scan.scanFrom (Slim.view (loadedFrom σ t e).inner) [] true true (fun _ => true) none =
        .ok [([0x61], some [1]), ([0x61, 0x62], some [2]), ([0x62, 0xff], some [3])] ∧
      ∃ lv, Slim.stat (loadedFrom σ t e).inner (loadedFrom σ t e).levels
        = .ok { levels := lv, keyCnt := 3, nodeCnt := t.nodes.size } := by
  obtain ⟨t, _, hb, hsm, _, _⟩ := C05.ex_hyps
  have hne : C05.exKeys ≠ [] := by simp [C05.exKeys]
  refine ⟨t, hb, hsm, ?_, ?_, ?_, ?_⟩
  · obtain ⟨r, hr, _, hv⟩ := C01_get_retained_bytes_loaded _ _ _ t hb hsm σ e 1 (by decide)
      (by decide)
    exact ⟨r, hr, hv _ rfl⟩
  · exact fun q => (C10_total_loaded _ _ _ t hb hsm σ e q).2.2.2.2
  · rw [C04_scanFrom_loaded _ _ _ t hb hsm σ e (by decide)]
    exact congrArg Except.ok (by decide +kernel)
  · obtain ⟨lv, _, hstat, _⟩ := C18_stat_loaded _ _ _ t hb hsm σ e hne
    refine ⟨lv, ?_⟩
    rw [hstat]
    have : (retained C05.exKeys (some C05.exVals) C05.exOpt.dedup).length = 3 := by decide
    rw [this]

#print axioms loaded_eq
#print axioms loaded_inner
#print axioms loaded_view
#print axioms loaded_indep
#print axioms C05_answers_identical_built
#print axioms C01_get_retained_loaded
#print axioms C01_get_retained_bytes_loaded
#print axioms C02_rangeget_indexed_loaded
#print axioms C03_search_loaded
#print axioms C03_getID_loaded
#print axioms C03_get_loaded
#print axioms C03_rangeget_loaded
#print axioms C04_getGEPath_loaded
#print axioms C04_iter_loaded
#print axioms C04_scanFrom_loaded
#print axioms C04_scanFromTo_loaded
#print axioms C09_search_retained_loaded
#print axioms C09_search_retained_R_loaded
#print axioms C10_total_loaded
#print axioms C10_searchID_eq_getID_loaded
#print axioms C10_search_eq_get_loaded
#print axioms C10_hit_supplied_loaded
#print axioms C13_monotone_loaded
#print axioms C13_monotone_get_loaded
#print axioms C14_getInt_loaded
#print axioms C18_stat_loaded
#print axioms C19_render_loaded
