import SlimProps.L2
import SlimProps.C04Iter
/-
  SlimProps.L2c — C04 (scanning in Complete mode) at the bit level: the statements of
  `SlimProps.C04Iter` for `L2view t = Slim.view (Slim.encode t)`, closed (only
  `build keys vals opt = .ok t` and `opt.complete = true`).

  `C04_getGEPath_L2` carries the L1 result over by `Transport.getGEPath_le`; the other three are
  `C04.yields_sim` at `viewSim_built`: the run of the iterator through the bit-level view, read
  off as at L1.
-/

open IterLemmas Subtree SearchDescent Exact Scan Transport

theorem C04_getGEPath_L2 (keys : List Bytes) (vals : Option (List Bytes)) (opt : Opt) (t : Trie1)
    (hb : build keys vals opt = .ok t) (hc : opt.complete = true) (start : Bytes) :
    ∃ p, getGEPath (L2view t) start = .ok p ∧
      GERes keys (keepMask keys.length vals opt.dedup) t start p := by
  obtain ⟨p, hp, hres⟩ := C04_getGEPath keys vals opt t hb hc start
  exact ⟨p, getGEPath_le (viewSim_built keys vals opt t hb) start p hp, hres⟩

/-- **C04 (iterator) at L2.**  `NewIter` on the encoded trie returns an iterator whose first `k`
    `next()` results are, for every `k`, the retained entries `≥ start` in order, then nil. -/
theorem C04_iter_L2 (keys : List Bytes) (vals : Option (List Bytes)) (opt : Opt) (t : Trie1)
    (hb : build keys vals opt = .ok t) (hc : opt.complete = true)
    (start : Bytes) (incl wv : Bool) :
    ∃ s, newIterFrom (L2view t) start incl = .ok s ∧
      ∀ k, iterTake (L2view t) wv k s =
        .ok (IterStack.expect k ((Spec.scanFrom (retained keys vals opt.dedup) start incl).map
          (C04.item (retained keys vals opt.dedup) wv))) := by
  obtain ⟨s, hs, hy, _⟩ :=
    C04.yields_sim keys vals opt t hb hc (viewSim_built keys vals opt t hb) start incl wv
  refine ⟨s, hs, fun k => ?_⟩
  rw [hy.take k, List.map_map]
  rfl

theorem C04_scanFrom_L2 (keys : List Bytes) (vals : Option (List Bytes)) (opt : Opt) (t : Trie1)
    (hb : build keys vals opt = .ok t) (hc : opt.complete = true)
    (start : Bytes) (incl wv : Bool) (keepFn : Bytes → Bool) (stopAfter : Option Nat) :
    scanFrom (L2view t) start incl wv keepFn stopAfter =
      .ok (IterScan.truncate stopAfter
        (((Spec.scanFrom (retained keys vals opt.dedup) start incl).map
          (C04.pair (retained keys vals opt.dedup) wv)).takeWhile (fun y => keepFn y.1))) :=
  let ⟨_, hs, hy, hf⟩ :=
    C04.yields_sim keys vals opt t hb hc (viewSim_built keys vals opt t hb) start incl wv
  IterScan.scanFrom_of_yields hs hy hf keepFn stopAfter

theorem C04_scanFromTo_L2 (keys : List Bytes) (vals : Option (List Bytes)) (opt : Opt) (t : Trie1)
    (hb : build keys vals opt = .ok t) (hc : opt.complete = true)
    (start : Bytes) (incl : Bool) (stop : Bytes) (inclEnd wv : Bool) (stopAfter : Option Nat) :
    scanFromTo (L2view t) start incl stop inclEnd wv stopAfter =
      .ok (IterScan.truncate stopAfter
        ((Spec.scanFromTo (retained keys vals opt.dedup) start incl stop inclEnd).map
          (C04.pair (retained keys vals opt.dedup) wv))) :=
  C04.scanFromTo_of (fun _ => C04_scanFrom_L2 keys vals opt t hb hc start incl wv _ stopAfter)
    stop inclEnd

namespace L2c.Ex

def opt : Opt := { inner := true, leaf := true }

/-- on the 3-key build of `L2.Ex` in Complete mode (key 1 `ab` is de-duplicated away): a full
    scan of the encoded trie calls back with exactly the two retained entries, in order -/
example : ∃ t, build L2.Ex.keys (some L2.Ex.vals) opt = .ok t ∧
    scanFrom (L2view t) [] true true (fun _ => true) none =
      .ok [([0x61], some [1]), ([0x62, 0xe3], some [2])] := by
  obtain ⟨t, ht⟩ := L2.Ex.build_ok opt
  refine ⟨t, ht, ?_⟩
  rw [C04_scanFrom_L2 _ _ _ t ht (by decide)]
  exact congrArg Except.ok (by decide +kernel)

end L2c.Ex

#print axioms C04_getGEPath_L2
#print axioms C04_iter_L2
#print axioms C04_scanFrom_L2
#print axioms C04_scanFromTo_L2
