import SlimProofs.WireMarshal
/-
  C05 (wire half) — "Marshal … its length equals the advertised protobuf size, and re-marshalling a
  loaded trie reproduces the same bytes"; `Unmarshal(Marshal(t))` gives back the very message, so
  every answer computed from the message is preserved (the query half is SlimProps.C05).

  Objects: `Wire.encodeSlim / decodeSlim / protoSizeSlim` = `proto.Marshal / Unmarshal / Size` on
  `*trie.Slim` (golang/protobuf v1.3.1), `marshalSlim` = `(*SlimTrie).Marshal`, `unmarshalDispatch`
  = `(*SlimTrie).Unmarshal` up to the in-memory conversions.

  Hypotheses, all explicit:
    `m.WF`   the field values fit their Go types (int32 ≥ 0, uint32, uint64);
    `m.NF`   proto3 normal form: `XXX_unrecognized` holds only well-formed, canonically keyed fields
             the Slim unmarshaler does not consume itself (`SlimProofs/WireSlim.lean`);
    a length bound that every Go value satisfies: `< 2^64` for the message codec (lengths are
    uint64 varints), `BodyOK` (≤ 2^48 bytes, what `make([]byte, n)` can allocate on linux/amd64) for
    the framed stream.  No other size bound.
-/
open Wire Frame Version

/-- Varint codec round trip on the whole uint64 range, in front of any further bytes. -/
theorem C05_varint (n : Nat) (h : n < 2 ^ 64) (rest : Bytes) :
    unvarint (varint n ++ rest) = some (n, rest) := unvarint_varint h rest

theorem C05_roundtrip_bitmap (b : BitmapMsg) (hwf : b.WF) (hsz : (encodeBitmap b).length < 2 ^ 64) :
    decodeBitmap (encodeBitmap b) = .ok b := decodeBitmapTop_encode b hwf hsz

theorem C05_roundtrip_vlenarray (v : VLenArrayMsg) (hwf : v.WF) (hsz : (encodeVLenArray v).length < 2 ^ 64) :
    decodeVLenArray (encodeVLenArray v) = .ok v := decodeVLenArrayTop_encode v hwf hsz

theorem C05_roundtrip_bits (b : BitsMsg) (hwf : b.WF) (hsz : (encodeBits b).length < 2 ^ 64) :
    decodeBits (encodeBits b) = .ok b := decodeBitsTop_encode b hwf hsz

theorem C05_roundtrip_array32 (a : Array32Msg) (hwf : a.WF) (hnf : a.NF)
    (hsz : (encodeArray32 a).length < 2 ^ 64) :
    decodeArray32 (encodeArray32 a) = .ok a := decodeArray32_encode a hwf hnf hsz

/-- `proto.Unmarshal(proto.Marshal(m)) = m` for the Slim message. -/
theorem C05_wire_roundtrip (m : SlimMsg) (hwf : m.WF) (hnf : m.NF) (hsz : (encodeSlim m).length < 2 ^ 64) :
    decodeSlim (encodeSlim m) = .ok m := decodeSlim_encode m hwf hnf hsz

/-- `proto.Size(m) = len(proto.Marshal(m))`, for every message (no hypothesis). -/
theorem C05_size (m : SlimMsg) : protoSizeSlim m = (encodeSlim m).length := protoSizeSlim_eq m

theorem C05_size_array32 (a : Array32Msg) : protoSizeArray32 a = (encodeArray32 a).length :=
  protoSizeArray32_eq a

/-- The marshalled stream is the 32-byte header plus the advertised protobuf size. -/
theorem C05_marshal_size (m : SlimMsg) : (marshalSlim m).length = 32 + protoSizeSlim m := by
  rw [C05_size]; exact frame_length _ _

/-- Byte stability of the message codec: what a decode of `encode m` yields encodes to the same bytes. -/
theorem C05_stable (m m' : SlimMsg) (hwf : m.WF) (hnf : m.NF) (hsz : (encodeSlim m).length < 2 ^ 64)
    (h : decodeSlim (encodeSlim m) = .ok m') : encodeSlim m' = encodeSlim m := by
  rw [C05_wire_roundtrip m hwf hnf hsz] at h
  cases h; rfl

/-- `Unmarshal(Marshal(m))` is the current layout carrying `m` itself. -/
theorem C05_unmarshal_marshal (m : SlimMsg) (hwf : m.WF) (hnf : m.NF) (hb : BodyOK (encodeSlim m)) :
    unmarshalDispatch (marshalSlim m) = .ok (.current m) := unmarshal_marshal m hwf hnf hb

/-- Re-marshalling a loaded stream reproduces the bytes. -/
theorem C05_stable_stream (m m' : SlimMsg) (hwf : m.WF) (hnf : m.NF) (hb : BodyOK (encodeSlim m))
    (h : unmarshalDispatch (marshalSlim m) = .ok (.current m')) : marshalSlim m' = marshalSlim m := by
  rw [C05_unmarshal_marshal m hwf hnf hb] at h
  cases h; rfl

/-- Header round trip: version (≤ 16 ASCII bytes, no trailing NUL), header size, body size. -/
theorem C05_header_roundtrip (v : String) (hv : VersionOK v) (n : Nat) (hn : n < 2 ^ 64) (tail : Bytes) :
    readHeader (header v n ++ tail) = .ok (⟨v, 32, n⟩, tail) := readHeader_header v hv n hn tail

theorem C05_frame_roundtrip (v : String) (hv : VersionOK v) (body : Bytes) (hb : BodyOK body) (rest : Bytes) :
    readFrame (frame v body ++ rest) = .ok (v, body, rest) := readFrame_frame v hv body hb rest

/-- The empty message — what a rejected load leaves and what an old writer's stream for no keys
    decodes to — satisfies the hypotheses of the round trip. -/
theorem emptyMsg_ok : ({} : SlimMsg).WF ∧ ({} : SlimMsg).NF ∧ BodyOK (encodeSlim {}) := by
  refine ⟨?_, ?_, ?_⟩
  · refine ⟨by decide, by decide, by simp, ?_, ?_, ?_, ?_, ?_, ?_⟩ <;> intro b hb <;> cases hb
  · unfold SlimMsg.NF; simp [unknownOnly]
  · unfold BodyOK maxAlloc
    rw [← C05_size]
    decide

/-! ### non-vacuity: a concrete non-trivial message satisfies every hypothesis -/

namespace C05Wire

/-- A message with scalars, a present-but-empty sub-message, nested bitmaps, bytes, and the retired
    fields 12 and 15 of a 0.5.10 stream in `XXX_unrecognized`. -/
def c05Example : SlimMsg :=
  { bigInnerCnt := 3, shortSize := 300,
    nodeTypeBM := some { words := [5, 2 ^ 64 - 1], rankIndex := [0, 2], selectIndex := [0] },
    inners := some {},
    shortTable := [7, 2 ^ 32 - 1],
    leaves := some { n := 2, eltCnt := 2, fixedSize := 4, bytes := [1, 0, 0, 0, 2, 0, 0, 0],
                     presenceBM := some { words := [3], rankIndex := [0] } },
    unrecognized := [0x60, 0x01, 0x78, 0xac, 0x02] }

theorem c05Example_WF : c05Example.WF := by
  unfold c05Example SlimMsg.WF
  simp only [Option.some.injEq, forall_eq', reduceCtorEq, false_implies, implies_true, and_true,
    VLenArrayMsg.WF, BitmapMsg.WF]
  decide

theorem c05Example_NF : c05Example.NF := by
  unfold c05Example SlimMsg.NF
  simp [unknownOnly, readField, readValue, decodeVarint, decodeVarintAux, slimKnown, varint]

theorem c05Example_size : (encodeSlim c05Example).length = 80 := by
  rw [← C05_size]
  simp [c05Example, protoSizeSlim, protoSizeVLenArray, protoSizeBitmap, sizeVarintF, sizeMsgF, sizePackedF,
    sizeBytesF, packedSize, sizeVarint]

theorem c05Example_BodyOK : BodyOK (encodeSlim c05Example) := by
  unfold BodyOK maxAlloc; rw [c05Example_size]; omega

example : decodeSlim (encodeSlim c05Example) = .ok c05Example :=
  C05_wire_roundtrip _ c05Example_WF c05Example_NF (by rw [c05Example_size]; omega)

example : unmarshalDispatch (marshalSlim c05Example) = .ok (.current c05Example) :=
  C05_unmarshal_marshal _ c05Example_WF c05Example_NF c05Example_BodyOK

example : (marshalSlim c05Example).length = 112 := by
  rw [C05_marshal_size, C05_size, c05Example_size]

example : VersionOK "0.5.12" := by decide
example : VersionOK "1.0.0" := by decide
example : unvarint (varint 300 ++ [7]) = some (300, [7]) := C05_varint 300 (by omega) [7]

end C05Wire

#print axioms C05_varint
#print axioms C05_roundtrip_bitmap
#print axioms C05_roundtrip_vlenarray
#print axioms C05_roundtrip_bits
#print axioms C05_roundtrip_array32
#print axioms C05_wire_roundtrip
#print axioms C05_size
#print axioms C05_size_array32
#print axioms C05_marshal_size
#print axioms C05_stable
#print axioms C05_unmarshal_marshal
#print axioms C05_stable_stream
#print axioms C05_header_roundtrip
#print axioms C05_frame_roundtrip
