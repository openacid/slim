import SlimProofs.Monotone
import SlimProps.C13Shape
import SlimProps.C01
/-
  SlimProps.C13 — "Storing more key information only removes false positives".

  For one key list and value list and two option combinations with the same `DedupValue`, the
  second storing no more prefix information than the first
  (`(o'.inner → o.inner) ∧ (o'.leaf → o.leaf)`), both builds successful:

  * `C13_monotone`      for EVERY query `q`: if `GetID` finds `q` in the richer trie (id `id`),
                        it finds `q` in the poorer trie with the same id;
  * `C13_monotone_get`  if `Get` reports `q` found with value `x` in the richer trie, it reports
                        `q` found with the same value in the poorer trie;
  * `C13_retained_same` every mode gives the same answer for retained keys (from C01).

  (`C13Shape.lean` has the structural half `C13_same_shape`.  "Complete reports found only for
  retained keys" is the no-false-positive half of C03: `C13Complete.lean`.)

  Proof of the id form: `C13.joint` — the two runs of `buildLoop` end with the same queue
  (`buildLoop_sim`, C13Shape.lean) and each satisfies the well-formedness invariant for that queue
  (`build_binv`) — then the lock-step descent `Monotone.getIDLoop_mono`.  The value form follows
  from it and `C13_same_shape`: what `getLeaf` reads behind an id depends on the shape of the
  array and on `elts` only (`C13.getLeaf_shape`).
-/

namespace C13

open BuildInv BuildShape C13Shape Subtree

theorem shape_at {a a' : Array Node} (hm : a'.map shapeOf = a.map shapeOf) (j : Nat) (nd : Node)
    (h : a[j]? = some nd) : ∃ nd', a'[j]? = some nd' ∧ shapeOf nd' = shapeOf nd := by
  have h1 := congrArg (·[j]?) hm
  simp only [Array.getElem?_map, h, Option.map_some] at h1
  exact Option.map_eq_some_iff.mp h1

theorem joint (keys : List Bytes) (vals : Option (List Bytes)) (o o' : Opt) (t t' : Trie1)
    (hd : o.dedup = o'.dedup) (hin : o'.inner = true → o.inner = true)
    (hlf : o'.leaf = true → o.leaf = true)
    (hb : build keys vals o = .ok t) (hb' : build keys vals o' = .ok t') (hne : keys ≠ []) :
    ∃ queue, Monotone.Joint keys (keepMask keys.length vals o.dedup) t t' queue ∧
      queue[0]? = some { s := 0, e := keys.length, fb := 0 } := by
  obtain ⟨hasc, hv, st, hst, rfl⟩ := build_ok_elim hb hne
  obtain ⟨_, _, st', hst', rfl⟩ := build_ok_elim hb' hne
  have hs := buildLoop_sim _ o' _ _ ⟨rfl, rfl, rfl, rfl, rfl⟩ hst (mkCtx_opt keys vals hd ▸ hst')
  have hinv := build_binv hne hasc hv hst
  have hinv' := build_binv hne hasc hv hst'
  rw [← hd] at hinv'
  refine ⟨st.queue, ⟨qok_of_binv hinv, hs.queue ▸ qok_of_binv (vals := vals) hinv', ?_, hin, hlf⟩,
    hinv.root⟩
  · intro j r h
    obtain ⟨nd', h1, h2⟩ := shape_at hs.nodes j _ h
    cases nd' with
    | leaf ith lp => cases h2
    | inner r' =>
      simp only [shapeOf, Prod.mk.injEq, Option.some.injEq, and_true] at h2
      obtain ⟨h3, h4, h5⟩ := h2
      exact ⟨r'.pref, h1.trans (by rw [← h3, ← h4, ← h5])⟩

/-- the value behind a leaf depends on the shape of the array and on `elts` only -/
theorem getLeaf_shape {t t' : Trie1} (hm : t.nodes.map shapeOf = t'.nodes.map shapeOf)
    (he : t.elts = t'.elts) {id : Nat} {x : Option Bytes} (h : getLeaf t.view id = .ok x) :
    getLeaf t'.view id = .ok x := by
  unfold getLeaf at h ⊢
  simp only [Trie1.view, ← he] at h ⊢
  cases hnd : t.nodes[id]? with
  | none => simp [hnd, bind, Except.bind] at h
  | some nd =>
    obtain ⟨nd', hnd', hs⟩ := shape_at hm.symm id nd hnd
    rw [hnd] at h
    rw [hnd']
    cases nd <;> cases nd' <;> simp only [shapeOf, Prod.mk.injEq, Option.some.injEq, reduceCtorEq,
      and_false, true_and] at hs
    · simp [bind, Except.bind] at h
    · rw [hs]; exact h

end C13

/-- **C13 (ids)**: for every query, an id found in the mode that stores more is found in the
    mode that stores less. -/
theorem C13_monotone (keys : List Bytes) (vals : Option (List Bytes)) (o o' : Opt) (t t' : Trie1)
    (hd : o.dedup = o'.dedup) (hin : o'.inner = true → o.inner = true)
    (hlf : o'.leaf = true → o.leaf = true)
    (hb : build keys vals o = .ok t) (hb' : build keys vals o' = .ok t') (q : Bytes) (id : Nat)
    (h : getID t.view q = .ok (some id)) : getID t'.view q = .ok (some id) := by
  rcases BuildShape.build_nil_or hb with ⟨rfl, rfl⟩ | hne
  · cases (h : Except.ok none = .ok (some id))
  · obtain ⟨queue, J, hroot⟩ := C13.joint keys vals o o' t t' hd hin hlf hb hb' hne
    exact Monotone.getID_mono J hroot q id h

/-- **C13 (values)**: for every query, a hit in the mode that stores more is a hit with the
    same value in the mode that stores less. -/
theorem C13_monotone_get (keys : List Bytes) (vals : Option (List Bytes)) (o o' : Opt)
    (t t' : Trie1) (hd : o.dedup = o'.dedup) (hin : o'.inner = true → o.inner = true)
    (hlf : o'.leaf = true → o.leaf = true)
    (hb : build keys vals o = .ok t) (hb' : build keys vals o' = .ok t') (q : Bytes)
    (x : Option Bytes)
    (h : get t.view q = .ok (some x)) : get t'.view q = .ok (some x) := by
  obtain ⟨id, hid, hleaf⟩ := (Agree.get_hit_iff t.view q x).mp h
  have hs := C13_same_shape keys vals o o' t t' hd hb hb'
  exact (Agree.get_hit_iff t'.view q x).mpr
    ⟨id, C13_monotone keys vals o o' t t' hd hin hlf hb hb' q id hid,
      C13.getLeaf_shape hs.1 hs.2.2.2 hleaf⟩

/-- **C13 (retained keys)**: every mode (same `DedupValue`) gives the same answer — found, with
    the value supplied — for every retained key. -/
theorem C13_retained_same (keys : List Bytes) (vals : Option (List Bytes)) (o o' : Opt)
    (t t' : Trie1) (hd : o.dedup = o'.dedup)
    (hb : build keys vals o = .ok t) (hb' : build keys vals o' = .ok t')
    (i : Nat) (hi : i < keys.length)
    (hk : keptAt (keepMask keys.length vals o.dedup) i = true) :
    get t.view (keys.getD i []) = .ok (some (expectedValue vals t i)) ∧
    get t'.view (keys.getD i []) = .ok (some (expectedValue vals t i)) := by
  have h1 := (C01_get_retained keys vals o t hb i hi hk).2
  have h2 := (C01_get_retained keys vals o' t' hb' i hi (by rw [← hd]; exact hk)).2
  refine ⟨h1, ?_⟩
  have hidx := (C13_same_shape keys vals o o' t t' hd hb hb').2.1
  rw [h2]
  simp only [expectedValue, hidx]

/-! ### non-vacuity

  The hypotheses are satisfiable (both builds succeed: `C08_accept`), and the implication is
  not trivially an equivalence: on the concrete input below the query `bx` is a false positive
  of the default mode that the complete mode rejects, while the retained key `a` is found by
  both (kernel evaluation of the model). -/
namespace C13.Ex

def keys : List Bytes := [[0x61], [0x61, 0x62], [0x62, 0xe3]]
def vals : List Bytes := [[1], [1], [2]]
def rich : Opt := { inner := true, leaf := true }
def poor : Opt := {}

example : ∃ t t', build keys (some vals) rich = .ok t ∧ build keys (some vals) poor = .ok t' ∧
    rich.dedup = poor.dedup ∧ (poor.inner = true → rich.inner = true) ∧
    (poor.leaf = true → rich.leaf = true) := by
  obtain ⟨t, ht⟩ := L2.Ex.build_ok rich
  obtain ⟨t', ht'⟩ := L2.Ex.build_ok poor
  exact ⟨t, t', ht, ht', rfl, by decide, by decide⟩

def found (o : Opt) (q : Bytes) : Bool :=
  match build keys (some vals) o with
  | .error _ => false
  | .ok t => match getID t.view q with
    | .ok (some _) => true
    | _ => false

-- the retained key `a` (value 1) is found in both modes; key 1 (`ab`) is dropped by dedup
example : found rich [0x61] = true ∧ found poor [0x61] = true := by decide +kernel
-- `bx`: found by the poorer mode only — storing more removed a false positive
example : found rich [0x62, 0x78] = false ∧ found poor [0x62, 0x78] = true := by decide +kernel

end C13.Ex

#print axioms C13_monotone
#print axioms C13_monotone_get
#print axioms C13_retained_same
