import SlimProofs.InstanceLemmas
import SlimProofs.Legacy0510Wire
import SlimProofs.InputSmall
import SlimProps.C07Wire
import SlimProps.C18
/-
  C06 (wire half, 0.5.10 / 0.5.11) — "data written by every older compatible version loads …":
  the stream `LegacyWrite.write0510` produces (validated byte for byte against the 27 archived
  0.5.10 files by its Go twin; no 0.5.11 file is archived, the loader treats the two versions
  alike) goes through the whole loading path of the model — header, version dispatch, frame,
  protobuf decode with the retired fields 12/13/15 interleaved, the two in-memory conversions,
  `init` — and yields today's message of the same trie, up to the word-index select tables of the
  prefix position bitmaps (which `select32R64` tolerates: `C06_select_wordIndex`) and the retired
  fields kept as unknown bytes.

  Objects: `to0510` / `write0510` (the reconstructed writer), `decodeSlim`, `unmarshalDispatch`,
  `Legacy.unmarshalMsg` / `Legacy.Instance.unmarshal` (= the complete `Unmarshal`),
  `Legacy.oldMsg`, `Legacy.wordSelectMsg`, `LegacyWrite.retired` (bytes of fields 12, 13, 15 as written).

  Hypotheses of the trie-level statements: `build keys (some vals) opt = .ok t`, `keys ≠ []`,
  `Refine.Small t` (Go's own int32 limits, as in C05), the 0.5.10 body can be allocated (`hbody`;
  a hypothesis of its own, although `InputLegacy.bodyOK_to0510` gives it from `ShapeOK t` and
  `SmallCore t`), and what 0.5.10 supported for values: at least one leaf value, all of one width `w > 0`
  (`st.encoder.GetEncodedSize(nil) = w`).
-/
open Wire Frame Version Legacy LegacyWrite Refine

theorem version_0510_0511 {ver : String} (hver : ver = "0.5.10" ∨ ver = "0.5.11") :
    VersionOK ver ∧ isCompatible ver = true ∧ isCurrentLayout ver = true ∧ before000512 ver = true :=
  version_table.2.1 ver (by simpa using hver)

theorem ver_accepted {ver : String} (hver : ver = "0.5.10" ∨ ver = "0.5.11") :
    (ver != "0.5.10" && ver != "0.5.11") = false := by
  rcases hver with rfl | rfl <;> decide

/-- The wire round trip of a 0.5.10 / 0.5.11 body, for every well-formed message without
    unknown bytes whose `ShortSize` is a bit count: known fields as written, the retired fields
    12, 13 (a ten-byte negative varint), 15 in `XXX_unrecognized`, in order. -/
theorem C06_wire_body (cur : SlimMsg) (hwf : cur.WF) (hu : cur.unrecognized = [])
    (hss : cur.shortSize ≤ 64)
    (hne : (cur.nodeTypeBM.isNone && cur.inners.isNone && cur.leaves.isNone) = false)
    (hsz : (to0510 cur).length < 2 ^ 64) :
    decodeSlim (to0510 cur) = .ok (oldMsg cur (retired cur)) :=
  decodeSlim_to0510 cur hwf hu hss hne hsz

/-- The framed stream takes the `v0510` branch of `Unmarshal` with exactly that message. -/
theorem C06_wire_dispatch (ver : String) (hver : ver = "0.5.10" ∨ ver = "0.5.11") (cur : SlimMsg)
    (hwf : cur.WF) (hu : cur.unrecognized = []) (hss : cur.shortSize ≤ 64)
    (hne : (cur.nodeTypeBM.isNone && cur.inners.isNone && cur.leaves.isNone) = false)
    (hb : BodyOK (to0510 cur)) :
    unmarshalDispatch (frame ver (to0510 cur)) = .ok (.v0510 ver (oldMsg cur (retired cur))) := by
  have hv := version_0510_0511 hver
  have h := unmarshal_frame_slim ver hv.1 hv.2.1 hv.2.2.1 (to0510 cur) hb []
  rw [List.append_nil, C06_wire_body cur hwf hu hss hne (bodyOK_length_lt hb)] at h
  rw [h]
  simp [hv.2.2.2]

/-- the `es` of `C06_load_0510` and `C06_load_0510_instance`, from the supplied values -/
theorem LegacyWrite.build_elts_fixed (keys vals : List Bytes) (opt : Opt) (t : Trie1) (w : Nat)
    (hb : build keys (some vals) opt = .ok t) (hk : keys ≠ []) (hw : ∀ v ∈ vals, v.length = w) :
    ∃ es, t.elts = some es ∧ es ≠ [] ∧ ∀ v ∈ es, v.length = w := by
  obtain ⟨helts, h0, hm⟩ := build_elts_supplied keys vals opt t hb hk
  refine ⟨_, helts, fun hnil => ?_, List.forall_mem_map.mpr fun i hi => hw _ (hm i hi)⟩
  rw [List.map_eq_nil_iff.mp hnil] at h0
  cases h0

/-- `load ∘ write` through the whole loading path: the 0.5.10 / 0.5.11 stream of a built trie
    loads as today's message of that trie with word-index select tables. -/
theorem C06_load_0510 (keys vals : List Bytes) (opt : Opt) (t : Trie1) (ver : String)
    (hver : ver = "0.5.10" ∨ ver = "0.5.11")
    (hb : build keys (some vals) opt = .ok t) (hk : keys ≠ []) (hsm : Small t)
    (hbody : BodyOK (to0510 (Slim.encodeCreator t)))
    (es : List Bytes) (w : Nat) (helts : t.elts = some es) (hw : 0 < w) (hne : es ≠ [])
    (hes : ∀ v ∈ es, v.length = w) :
    Slim.encode t = Slim.encodeCreator t ∧
    unmarshalMsg (some w) (frame ver (to0510 (Slim.encode t)))
      = .ok (wordSelectMsg (Slim.encodeCreator t) (retired (Slim.encodeCreator t))) := by
  have hs : ShapeOK t := build_shape keys (some vals) opt t hb hk
  have henc : Slim.encode t = Slim.encodeCreator t := encode_eq t (Nat.ne_of_gt hs.nonempty)
  refine ⟨henc, ?_⟩
  rw [henc]
  have hd := C06_wire_dispatch ver hver (Slim.encodeCreator t) (encodeCreator_WF hs hsm)
    (encodeCreator_unrecognized t)
    (by rw [enc_shortSize]; exact Nat.le_trans (eShortSize_le t) (by decide)) (encodeCreator_inners_isSome t) hbody
  have hl := load_0510_msg t es w (retired (Slim.encodeCreator t)) helts hw hne hes
  unfold unmarshalMsg
  rw [hd]
  exact hl

/-- The instance after `C06_load_0510`: whatever it held, it is the freshly initialised instance of that message;
    `init` succeeds because `initLevels` does not read the select tables (nor any prefix or leaf
    field) and succeeds on today's message (C18). -/
theorem C06_load_0510_instance (keys vals : List Bytes) (opt : Opt) (t : Trie1) (ver : String)
    (hver : ver = "0.5.10" ∨ ver = "0.5.11")
    (hb : build keys (some vals) opt = .ok t) (hk : keys ≠ []) (hsm : Small t)
    (hbody : BodyOK (to0510 (Slim.encodeCreator t)))
    (es : List Bytes) (w : Nat) (helts : t.elts = some es) (hw : 0 < w) (hne : es ≠ [])
    (hes : ∀ v ∈ es, v.length = w) (σ : Instance) :
    ∃ lv, Slim.initLevels (Slim.encode t) = .ok lv ∧
      Instance.unmarshal σ (some w) (frame ver (to0510 (Slim.encode t)))
        = ({ inner := wordSelectMsg (Slim.encodeCreator t) (retired (Slim.encodeCreator t)),
             levels := lv, varsNil := false }, none) := by
  obtain ⟨lv, hlv⟩ := C18_initLevels_ok keys (some vals) opt t hb
  obtain ⟨henc, hm⟩ := C06_load_0510 keys vals opt t ver hver hb hk hsm hbody es w helts hw hne hes
  exact ⟨lv, hlv, Instance.unmarshal_of_levels σ _ _ _ lv hm
    (by rw [initLevels_wordSelectMsg, ← henc, hlv])⟩

/-- the stream `write0510` produces for the user's keys and values is the framed 0.5.10 body of the built
    trie, i.e. the stream `C06_load_0510` speaks about -/
theorem C06_write0510_stream (mode ver : String) (keys vals : List Bytes) (opt : Opt) (t : Trie1)
    (hmode : optOfMode mode = some opt) (hver : ver = "0.5.10" ∨ ver = "0.5.11") (hk : keys ≠ [])
    (hb : build keys (some vals) opt = .ok t) :
    write0510 mode ver keys vals = .ok (frame ver (to0510 (Slim.encode t))) := by
  unfold write0510
  have hv := ver_accepted hver
  have hke : keys.isEmpty = false := by cases keys <;> simp_all
  simp only [hmode, hv, hke, hb]
  rfl

/-- the empty key set: an empty body; the loader's conversions return early on `Leaves == nil` and
    `InnerPrefixes == nil`, the instance is the empty trie. -/
theorem C06_load_0510_empty (ver : String) (hver : ver = "0.5.10" ∨ ver = "0.5.11") (e : Option Nat)
    (σ : Instance) :
    unmarshalMsg e (frame ver []) = .ok {} ∧
    Instance.unmarshal σ e (frame ver []) = ({ inner := {}, levels := [(0, 0, 0)], varsNil := false }, none) := by
  have hv := version_0510_0511 hver
  have h := unmarshal_frame_slim ver hv.1 hv.2.1 hv.2.2.1 [] (by unfold BodyOK maxAlloc; simp) []
  rw [List.append_nil] at h
  have hd : decodeSlim [] = .ok {} := by
    unfold decodeSlim decodeSlimInto; rw [decodeMsg_nil]; rfl
  rw [hd] at h
  have hm : unmarshalMsg e (frame ver []) = .ok {} := by
    unfold unmarshalMsg
    rw [h]
    simp only [hv.2.2.2, if_true]
    rfl
  exact ⟨hm, Instance.unmarshal_of_levels σ e _ _ _ hm rfl⟩

/-- A 0.5.10 / 0.5.11 stream cut anywhere before its end is rejected as truncated, and the
    instance is left empty. -/
theorem C06_truncated_0510 (ver : String) (hver : ver = "0.5.10" ∨ ver = "0.5.11") (cur : SlimMsg)
    (hb : BodyOK (to0510 cur)) (e : Option Nat) (cut : Nat) (hcut : cut < (frame ver (to0510 cur)).length)
    (σ : Instance) :
    unmarshalMsg e ((frame ver (to0510 cur)).take cut) = .error .truncated ∧
    (Instance.unmarshal σ e ((frame ver (to0510 cur)).take cut)).1.inner = {} := by
  have hv := version_0510_0511 hver
  have h := C07_truncated_frame ver hv.1 hv.2.1 (to0510 cur) hb [] cut hcut
  rw [List.append_nil] at h
  have hm := unmarshalMsg_of_dispatch_error e _ _ h
  exact ⟨hm, by rw [Instance.unmarshal_error_inner σ e _ _ hm]⟩

namespace C06Wire

def exKeys : List Bytes := [[0x61, 0x62], [0x61, 0x63]]
def exVals : List Bytes := [[0, 0, 0, 0], [1, 0, 0, 0]]
def exOpt : Opt := { inner := true }

/-- "ab" ↦ 0, "ac" ↦ 1 with InnerPrefix (one stored prefix of three half-bytes, 4-byte values):
    every hypothesis of `C06_load_0510` holds. -/
theorem ex_hyps : ∃ t es, build exKeys (some exVals) exOpt = .ok t ∧ Small t ∧
    BodyOK (to0510 (Slim.encodeCreator t)) ∧ t.elts = some es ∧ es ≠ [] ∧ (∀ v ∈ es, v.length = 4) := by
  -- `Small` and `BodyOK` follow from the size of the input; only `build` is evaluated
  have h : (build exKeys (some exVals) exOpt).toOption.bind (·.elts) = some exVals := by decide +kernel
  match hb : build exKeys (some exVals) exOpt with
  | .ok t =>
    rw [hb] at h
    exact ⟨t, exVals, rfl, small_of_input _ _ _ t hb (by decide),
      bodyOK_0510_of_input _ _ _ t hb (by decide) (by decide), h, by decide, by decide⟩
  | .error e => rw [hb] at h; cases h

example : ∃ t, build exKeys (some exVals) exOpt = .ok t ∧
    unmarshalMsg (some 4) (frame "0.5.10" (to0510 (Slim.encode t)))
      = .ok (wordSelectMsg (Slim.encodeCreator t) (retired (Slim.encodeCreator t))) := by
  obtain ⟨t, es, hb, hsm, hbody, he, hne, hes⟩ := ex_hyps
  exact ⟨t, hb, (C06_load_0510 exKeys exVals exOpt t "0.5.10" (Or.inl rfl) hb (by decide) hsm hbody es 4 he
    (by decide) hne hes).2⟩

/-- the retired fields of a message with `BigInnerCnt = 2`, `ShortSize = 3`: field 12 = 480,
    field 13 = −14 (ten bytes), field 15 = 7 -/
example : retired { bigInnerCnt := 2, shortSize := 3 } =
    [0x60, 0xe0, 0x03, 0x68, 0xf2, 0xff, 0xff, 0xff, 0xff, 0xff, 0xff, 0xff, 0xff, 0x01, 0x78, 0x07] := by
  simp [retired, encVarintF, tag, varint, int32Varint, Slim.bigInnerSize, Slim.innerSize]

end C06Wire

#print axioms C06_wire_body
#print axioms C06_wire_dispatch
#print axioms C06_load_0510
#print axioms C06_load_0510_instance
#print axioms C06_write0510_stream
#print axioms C06_load_0510_empty
#print axioms C06_truncated_0510
#print axioms C06Wire.ex_hyps
