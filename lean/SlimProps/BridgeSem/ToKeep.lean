import Generated.Funcs
import SlimProps.BridgeSem.Calc
import SlimProofs.Order
/-
  SlimProps.BridgeSem.ToKeep — tie 1, semantic part: `newToKeep` (trie/slimtrie_create.go): loops over a `[]bool`,
  `bytes.Compare(a, b) != 0`.  Each loop is followed along its trajectory (`forLoop`, Calc.lean); what the
  de-duplicating loop writes is what `LeafCount.keepMaskVals_succ` says of the model's mask, position by position.
-/

open Generated

namespace BridgeSem

/-- the values as the translator sees them -/
def natVals (vs : List Bytes) : List (List Nat) := vs.map (fun b => b.map UInt8.toNat)

theorem natVals_getD (vs : List Bytes) (j : Nat) :
    (natVals vs).getD j [] = (vs.getD j []).map UInt8.toNat := by
  unfold natVals
  rw [List.getD_eq_getElem?_getD, List.getD_eq_getElem?_getD, List.getElem?_map]
  cases vs[j]? <;> rfl

theorem bne_map (a b : Bytes) : (a.map UInt8.toNat != b.map UInt8.toNat) = (a != b) := by
  rw [Bool.eq_iff_iff, bne_iff_ne, bne_iff_ne, Ne, Ne,
    List.map_inj_right (fun x y h => UInt8.toNat_inj.mp h)]

theorem loop2_spec (n : Nat) (hn : n < 2 ^ 63) (T : List Bool) (hT : T.length = n) :
    Generated.newToKeep_loop2 n n (0, T) = (n, List.replicate n true) := by
  have hKT : T.length = (List.replicate n true).length := by rw [hT, List.length_replicate]
  have h := forLoop (L := Generated.newToKeep_loop2 n) (n := n)
    (F := fun i => (i, (List.replicate n true).take i ++ T.drop i)) (fun _ => rfl)
    (fun fuel i _ hi => by
      rw [Generated.newToKeep_loop2]
      simp only [ltS_small (w := 64) (Nat.lt_of_le_of_lt hi hn) hn, decide_eq_true_eq]
      by_cases hlt : i < n
      · rw [if_pos hlt, if_pos hlt, add_small (Nat.lt_trans (Nat.succ_lt_succ (Nat.lt_trans hlt hn)) (by decide)),
          set_take_drop _ _ _ _ (by simp [hlt]) hKT]
      · rw [if_neg hlt, if_neg hlt])
    n 0 (Nat.le_refl 0) (Nat.zero_le _) (Nat.le_refl _)
  have he := take_drop_end _ T hKT
  rw [List.length_replicate] at he
  rw [← he]
  exact h

/-- the de-duplicating loop writes at position `i ≥ 1` what `LeafCount.keepMaskVals_succ` says the model's mask holds
    there; position 0 is set before the loop (`T`) -/
theorem loop1_spec (vs : List Bytes) (hn : vs.length < 2 ^ 63) (T : List Bool) (hT : T.length = vs.length)
    (h0 : T.take 1 = (keepMaskVals none vs).take 1) (hpos : 0 < vs.length) :
    Generated.newToKeep_loop1 vs.length (some (natVals vs)) vs.length (1, T) = (vs.length, keepMaskVals none vs) := by
  have hKl := LeafCount.keepMaskVals_length none vs
  have h := forLoop (L := Generated.newToKeep_loop1 vs.length (some (natVals vs))) (n := vs.length)
    (F := fun i => (i, (keepMaskVals none vs).take i ++ T.drop i)) (fun _ => rfl)
    (fun fuel i h1 hi => by
      rw [Generated.newToKeep_loop1]
      simp only [ltS_small (w := 64) (Nat.lt_of_le_of_lt hi hn) hn, decide_eq_true_eq]
      by_cases hlt : i < vs.length
      · have hi64 : i + 1 < 2 ^ 64 := Nat.lt_trans (Nat.succ_lt_succ (Nat.lt_trans hlt hn)) (by decide)
        rw [if_pos hlt, if_pos hlt, add_small hi64, set_take_drop _ _ _ _ _ (hT.trans hKl.symm)]
        obtain ⟨j, rfl⟩ : ∃ j, i = j + 1 := ⟨i - 1, (Nat.sub_add_cancel h1).symm⟩
        have hk := LeafCount.keepMaskVals_succ none vs j hlt
        rw [List.getD_eq_getElem?_getD, List.getElem?_eq_getElem (hKl ▸ hlt), Option.getD_some] at hk
        rw [List.getElem?_eq_getElem (hKl ▸ hlt), hk, Option.some_inj, Bool.eq_iff_iff]
        -- what the Go code writes at position `j + 1`, however the comparison is phrased
        set_option linter.unusedSimpArgs false in
        simp only [sub_small (w := 64) (Nat.le_add_left 1 j) (Nat.lt_of_succ_lt hi64), Nat.add_sub_cancel,
          Option.getD_some, natVals_getD, bne_iff_ne, beq_iff_eq, ne_eq,
          Bool.not_eq_true', beq_eq_false_iff_ne, Bool.not_eq_eq_eq_not, Bool.not_true,
          List.map_inj_right (fun x y h => UInt8.toNat_inj.mp h)]
        -- On the present source the `simp only` leaves no goal and neither alternative runs.  The first is for a
        -- comparison that comes out as the model's own up to unfolding, the second for its operands in the other order;
        -- of the rewrites under harmless/ only H1/h2 touches `newToKeep`, and only the bound of the second loop.
        all_goals first
          | exact Iff.rfl
          | exact ⟨fun h e => h e.symm, fun h e => h e.symm⟩
      · rw [if_neg hlt, if_neg hlt])
    vs.length 1 (Nat.le_refl 1) hpos (Nat.sub_le _ _)
  rw [← h0, List.take_append_drop] at h
  rw [h, ← hKl, take_drop_end _ T (hT.trans hKl.symm)]

/-- **`newToKeep`** (trie/slimtrie_create.go) is `keepMask` (SlimModel/Spec.lean): for every number
    of records `n` (an `int`), values (nil, or as many as records) and `*opt.DedupValue`. -/
theorem newToKeep_sem (n : Nat) (vals : Option (List Bytes)) (dedup : Bool) (hn : n < 2 ^ 63)
    (hv : ∀ vs, vals = some vs → vs.length = n) :
    Generated.newToKeep n (vals.map natVals) (some dedup) = keepMask n vals dedup := by
  unfold Generated.newToKeep keepMask
  -- (`List.length_replicate`: the bound of the second loop may be written `len(tokeep)`)
  have hall := loop2_spec n hn (List.replicate n false) List.length_replicate
  cases vals with
  | none =>
    set_option linter.unusedSimpArgs false in
    simp only [Option.map_none, Option.isSome_none, Bool.and_false, Bool.false_eq_true, if_false,
      List.length_replicate, hall]
  | some vs =>
    obtain rfl := hv vs rfl
    cases dedup with
    | false =>
      set_option linter.unusedSimpArgs false in
      simp only [Option.getD_some, Bool.false_and, Bool.false_eq_true, if_false, List.length_replicate, hall]
    | true =>
      simp only [Option.map_some, Option.getD_some, Option.isSome_some, Bool.and_self, if_true]
      cases vs with
      | nil => rfl
      | cons v rest =>
        exact congrArg Prod.snd (loop1_spec (v :: rest) hn ((List.replicate (v :: rest).length false).set 0 true)
          (by simp) rfl (Nat.succ_pos _))

end BridgeSem

#print axioms BridgeSem.newToKeep_sem
