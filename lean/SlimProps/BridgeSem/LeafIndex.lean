import Generated.Funcs
import SlimProps.BridgeSem.Common
/-
  SlimProps.BridgeSem.LeafIndex — tie 1, semantic part: `getLeafIndex` (trie/slimtrie_query.go).
-/

open Generated

namespace BridgeSem

/-- `r` is the `Rank64` of the node id in `NodeTypeBM`: the number of inner nodes before it -/
theorem getLeafIndex_sem (nodeid r : Nat) (hr : r ≤ nodeid) (hn : nodeid < 2 ^ 31) :
    Generated.getLeafIndex nodeid r = ((nodeid - r : Nat) : Int) := by
  unfold Generated.getLeafIndex
  rw [sub_small hr (Nat.lt_trans hn (by decide))]
  exact toS_small (Nat.lt_of_le_of_lt (Nat.sub_le nodeid r) hn)

end BridgeSem

#print axioms BridgeSem.getLeafIndex_sem
