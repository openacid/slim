import Generated.Funcs
import SlimProps.BridgeSem.Common
import SlimProps.BridgeSem.Extern
import SlimProps.BridgeSem.LeftChildWhole
import SlimProps.BridgeSem.GetNode
import SlimModel.Query
import SlimModel.Slim
/-
  SlimProps.BridgeSem.DescentStep — tie 1, semantic part: ONE STEP OF THE DESCENT of `GetID` / `searchID`
  (trie/slimtrie_query.go), composed of the two whole-function bridges `getNode_ok` (GetNode.lean) and
  `getLeftChildID_sem` (LeftChildWhole.lean): if the model decodes node `id` as the inner node `r`, the Go
  `getNode(id, qr0)` followed by `getLeftChildID(qr, 4 i)` on the session it left returns the model's
  `leftChildID r (labelIdxOfKey (nibs key) i r.big)` — the id of the child left of the label the key selects at
  half-byte position `i`, and whether the label is present: the two values on which `GetID` / `searchID` branch.

  Hypotheses: `GetNodeFits s id` (GetNode.lean), `Inners` carries the rank index of `IndexRank128`, every
  node's bit range lies inside `Inners`, `ShortSize` is neither 17 nor 257 (`getLeftChildID` tells a short
  node by `to - from == ShortSize`; the builder chooses at most `maxShortSize = 10`).
-/

set_option linter.unusedSimpArgs false
set_option linter.unusedVariables false

open Generated Bits
open Slim (shortPart innerFrom_big innerFrom_small)

namespace BridgeSem

theorem innerFrom_shape (s : SlimMsg) (ith frm size : Nat) (short : Option Nat)
    (h : Slim.innerFrom s ith = .ok (frm, size, short)) :
    (ith < s.bigInnerCnt ∧ size = 257 ∧ short = none) ∨
    (¬ ith < s.bigInnerCnt ∧ size = 17 ∧ short = none) ∨
    (¬ ith < s.bigInnerCnt ∧ size = s.shortSize ∧ short.isSome) := by
  by_cases hb : ith < s.bigInnerCnt
  · rw [innerFrom_big s ith hb] at h
    cases h
    exact Or.inl ⟨hb, rfl, rfl⟩
  · cases hsbm : s.shortBM with
    | none =>
      have := innerFrom_noShortBM s ith hb hsbm
      rw [h] at this; cases this
    | some sbm =>
      cases hrs : rank64 sbm ith with
      | error e =>
        have := innerFrom_rankErr s ith sbm e hb hsbm hrs
        rw [h] at this; cases this
      | ok kc =>
        rw [innerFrom_small s ith sbm kc.1 kc.2 hb hsbm hrs] at h
        split at h
        · cases h
        · split at h
          · obtain ⟨h1, h2⟩ := shortPart_ok s _ _ _ _ h
            exact Or.inr (Or.inr ⟨hb, h1, h2⟩)
          · cases h
            exact Or.inr (Or.inl ⟨hb, rfl, rfl⟩)

theorem getNode_getLeftChildID (s : SlimMsg) (ws : List Nat) (id : Nat) (qr0 : W.querySession) (r : InnerRec)
    (key : Bytes) (i : Nat) (hfit : GetNodeFits s id) (hn : Slim.getNode s id = .ok (.inner r))
    (hinn : s.inners = some (mk ws "r128"))
    (hkey : qr0.key = natBytes key) (hkl : qr0.keyBitLen = 8 * key.length)
    (hlen : 8 * key.length < 2 ^ 31) (hi : 4 * i < 2 ^ 31)
    (hss : s.shortSize ≠ 17 ∧ s.shortSize ≠ 257)
    (hin : ∀ nt ith frm size short, s.nodeTypeBM = some nt → rank64 nt id = .ok (ith, true) →
      Slim.innerFrom s ith = .ok (frm, size, short) → 0 < size ∧ frm + size ≤ 64 * ws.length)
    (hfitw : 64 * ws.length + 64 < 2 ^ 31) :
    ∃ qr, W.SlimTrie.getNode (absTrie s (varsOf s)) id qr0 = some qr ∧
      W.SlimTrie.getLeftChildID (absTrie s (varsOf s)) qr (4 * i)
        = some ((leftChildID r (labelIdxOfKey (nibs key) i r.big)).1.toNat,
                b2n (leftChildID r (labelIdxOfKey (nibs key) i r.big)).2) := by
  obtain ⟨qr, hg, hd, hk1, hk2, nt, b, hnt, hrk, hib⟩ := getNode_ok s id qr0 (.inner r) hfit hn
  refine ⟨qr, hg, ?_⟩
  obtain ⟨hI, inn, size, short, r0, c, hinn', hif, hto, hbm, hbig, hws, hlab, hr128, hfc, _⟩ := hd
  rw [hinn] at hinn'
  cases hinn'
  have hbt : b = true := by
    cases b with
    | true => rfl
    | false => rw [hI] at hib; cases hib
  subst hbt
  obtain ⟨hsz, hrg⟩ := hin nt _ _ _ _ hnt hrk hif
  rw [rank128_mk_cnt ws qr.from_ (Nat.lt_of_lt_of_le (Nat.lt_add_of_pos_right hsz) hrg)] at hr128
  cases hr128
  -- the word size and the size of the bit range tell the three kinds of node apart
  rw [hbig] at hws
  have hshape : NodeShape s qr size short ∧ (qr.wordSize == 8) = r.big := by
    unfold NodeShape
    rw [hbig]
    rcases innerFrom_shape s _ _ _ _ hif with ⟨hb, rfl, rfl⟩ | ⟨hb, rfl, rfl⟩ | ⟨hb, rfl, hsome⟩
    · rw [decide_eq_true hb] at hws ⊢
      exact ⟨⟨Or.inr ⟨hws, rfl⟩, fun h => hss.2 h.symm⟩, by rw [hws]; rfl⟩
    · rw [decide_eq_false hb] at hws ⊢
      exact ⟨⟨Or.inl ⟨hws, rfl⟩, fun h => hss.1 h.symm⟩, by rw [hws]; rfl⟩
    · rw [decide_eq_false hb] at hws ⊢
      cases short with
      | none => cases hsome
      | some bm => exact ⟨⟨hws, rfl, hbm bm rfl⟩, by rw [hws]; rfl⟩
  have := getLeftChildID_sem s (some (varsOf s)) ws qr key i qr.from_ size short hinn
    (by rw [hk1, hkey]) (by rw [hk2, hkl]) hlen hi rfl hto hshape.1 hsz hrg hfitw hfit.wf.2.1
  rw [absTrie_eq, absInst, this,
    getLeftChildID_model r ws qr.from_ size short _ (by rw [hlab]; rfl) hfc, hshape.2]
  simp only [Option.some.injEq, Prod.mk.injEq, and_true]
  exact (Int.toNat_natCast _).symm
/-! non-vacuity: node 1 of `exSlim`, key "abd", bit 20 -/
example : (W.SlimTrie.getNode (absTrie exSlim (varsOf exSlim)) 1 exQr).bind
    (fun qr => W.SlimTrie.getLeftChildID (absTrie exSlim (varsOf exSlim)) qr 20) = some (3, 1) := by decide +kernel
example : (Slim.getNode exSlim 1).toOption.map
    (fun n => match n with | .inner r => leftChildID r (labelIdxOfKey (nibs [97, 98, 100]) 5 r.big) | _ => (0, false))
    = some (3, true) := by decide +kernel

end BridgeSem

#print axioms BridgeSem.innerFrom_shape
#print axioms BridgeSem.getNode_getLeftChildID
