import Generated.Funcs
import SlimProps.BridgeSem.PrintAxioms
import SlimProps.BridgeSem.Common
import SlimProps.BridgeSem.Extern
import SlimModel.Legacy
import SlimProofs.BitsLemmas.Words

/-
  SlimProps.BridgeSem.LegacyLeaf — tie 1, semantic part, the LEGACY LOADER (trie/slimtrie_marshal.go):
  `before000512FixLeafSize` translated WHOLE (`Generated.W.before000512FixLeafSize`: the nil test of
  `Leaves`, the nil test of `PresenceBM`, the explicit `panic`, `int32(st.encoder.GetEncodedSize(nil))`,
  the `int32` division with its divide-by-zero panic, `make`, the `for i := 0; i < n; i++` loop with the
  element assignments, `newBM(indexes, n, "r64")`, and the four assignments THROUGH the local pointer
  `leaves` — an alias of `st.inner.Leaves` — as updates of the returned `*SlimTrie`)
  = the model's `Legacy.fixLeafSize` (SlimModel/Legacy.lean), INCLUDING when it panics.

  The range hypotheses `FixLeafFits s enc` bind only when the function has work to do (`Leaves` non-nil,
  `PresenceBM` nil, `FixedSize = 0`, `enc = some w`): `w < 2^31`, `len(Leaves.Bytes) < 2^31` (the two
  `int32(…)` conversions are exact; the model computes in `Nat`), and for `w ≠ 0` `len/w + 63 < 2^31`
  (`bitmap.Of` computes `(n+63)>>6` in `int32`: beyond that Go panics in `make`, the model does not); the
  fuel exceeds `len(Leaves.Bytes)` (the loop is translated with fuel).  The three panics need no range hypothesis.

  `enc` is the outcome of `st.encoder.GetEncodedSize(nil)` (the interface field `encoder` is not
  represented; the translator makes the outcome a parameter `encSize_`): `some w` / `none` = panics — the
  same convention as the model's `encSize`.

  External semantics ASSUMED (Generated/GoSem.lean) and related to the model here: `bitmap.Of` (transcribed, with
  its `int32` arithmetic and index panics) = `Bits.ofIdx`; `bitmap.IndexRank64` (int32 running count) =
  `Bits.indexRank64 _ false` below 2^31 bits; `trie.newBM(…, "r64")` = `Bits.newBM … "r64"` (newBM/indexit are not
  translated: the translator accepts the call only while their source text is the specified one).
-/

set_option linter.unusedSimpArgs false
set_option linter.unusedVariables false

open Generated Bits

namespace BridgeSem

theorem bitmapOf_fold (ps : List Nat) (a : Array Nat)
    (h : ∀ p ∈ ps, p < 2 ^ 31 ∧ p / 64 < a.size) :
    ps.foldlM (fun ws i => do
        let x ← Go.idxS 32 ws (Go.sar 32 i 6)
        Go.setS 32 ws (Go.sar 32 i 6) (Go.or x (Go.shl 64 1 (Go.and i 63)))) a.toList
      = some (ps.foldl setBitStep a).toList := by
  induction ps generalizing a with
  | nil => rfl
  | cons p ps ih =>
    have hp := h p (by simp)
    have hp1 : p < 2 ^ 31 := hp.1
    have hp2 : p / 64 < a.size := hp.2
    rw [List.foldlM_cons, List.foldl_cons]
    obtain ⟨hsar, hj, hlt31⟩ := bitPos_split hp1
    have hshl : Go.shl 64 1 (p % 64) = 1 <<< (p % 64) := by
      rw [Nat.one_shiftLeft, shl_small (by rw [Nat.one_mul]; exact Nat.pow_lt_pow_right (by omega) (by omega)),
        Nat.one_mul]
    have hidx : Go.idxS 32 a.toList (p / 64) = some a[p / 64] := by
      rw [idxS_eq 32 _ _ hlt31]; simp [hp2]
    have hset : Go.setS 32 a.toList (p / 64) (Go.or a[p / 64] (1 <<< (p % 64)))
        = some (setBitStep a p).toList := by
      rw [setS_eq 32 _ _ _ hlt31 (by simpa using hp2), setBitStep, Array.toList_modify, List.modify_eq_set,
        Array.getElem?_toList, Array.getElem?_eq_getElem hp2]
      rfl
    rw [hsar, hj, hshl, hidx]
    simp only [Option.bind_eq_bind, Option.bind_some]
    rw [hset]
    simp only [Option.bind_some]
    apply ih
    intro q hq
    have := h q (by simp [hq])
    refine ⟨this.1, ?_⟩
    simpa [setBitStep] using this.2

/-- `bitmap.Of(ps, capa)` (GoSem transcription).  `hc`: the bit count `max capa (last+1)` is rounded up to words
    in `int32`; `h`: a position at or beyond the bit count is an index panic -/
theorem bitmapOf_sem (ps : List Nat) (capa : Nat) (hc : max capa (lastSucc ps) + 63 < 2 ^ 31)
    (h : ∀ p ∈ ps, p < max capa (lastSucc ps)) :
    Go.bitmapOf ps capa = some (ofIdx ps capa) := by
  have hn : Go.bitmapOfBits ps capa = max capa (lastSucc ps) := by
    unfold Go.bitmapOfBits
    unfold lastSucc at *
    cases hl : ps.getLast? with
    | none => simp
    | some l =>
      rw [hl] at hc
      simp only at hc ⊢
      have h1 : Go.add 32 l 1 = l + 1 := by rw [add_small (by omega)]
      rw [h1, ltS_small (by omega) (by omega)]
      by_cases hlt : capa < l + 1
      · simp [hlt]; omega
      · simp [hlt]; omega
  unfold Go.bitmapOf
  simp only []
  rw [hn]
  generalize hN : max capa (lastSucc ps) = n at *
  have h2 : Go.sar 32 (Go.add 32 n 63) 6 = (n + 63) / 64 := by
    rw [add_small (Nat.lt_trans hc (by decide)), sar_small 6 hc]
  rw [h2, makeS_eq 32 _ (Nat.lt_of_le_of_lt (Nat.div_le_self _ _) hc), ← Array.toList_replicate]
  simp only [Option.bind_eq_bind, Option.bind_some]
  rw [ofIdx_eq, hN]
  apply bitmapOf_fold
  intro p hp
  have := h p hp
  simp only [Array.size_replicate]
  omega

theorem indexRank64_go_sem (ws : List Nat) (n bound : Nat) (hb : n + 64 * ws.length ≤ bound) (hbd : bound < 2 ^ 31) :
    Go.indexRank64.go ws n = Bits.indexRank64.go false ws n := by
  induction ws generalizing n with
  | nil => simp [Go.indexRank64.go, Bits.indexRank64.go]
  | cons w ws ih =>
    simp only [Go.indexRank64.go, Bits.indexRank64.go]
    have hle := popcount_le w
    simp only [List.length_cons] at hb
    rw [popcount64_eq, conv_count hle, add_small (by omega)]
    congr 1
    apply ih
    omega

/-- `bitmap.IndexRank64(words)` (GoSem transcription): the running count is an `int32` -/
theorem indexRank64_sem (ws : List Nat) (h : 64 * ws.length < 2 ^ 31) :
    Go.indexRank64 ws = Bits.indexRank64 ws false := by
  unfold Go.indexRank64 Bits.indexRank64
  exact indexRank64_go_sem ws 0 (64 * ws.length) (by omega) h

theorem newBMr64_sem (ps : List Nat) (capa : Nat) (hc : max capa (lastSucc ps) + 63 < 2 ^ 31)
    (h : ∀ p ∈ ps, p < max capa (lastSucc ps)) :
    Go.newBMr64 ps capa = some ((newBM ps capa "r64").words, (newBM ps capa "r64").rankIndex) := by
  unfold Go.newBMr64
  rw [bitmapOf_sem ps capa hc h]
  simp only [Option.bind_eq_bind, Option.bind_some, Option.pure_def]
  have hl : 64 * (ofIdx ps capa).length < 2 ^ 31 := by
    rw [ofIdx_length']; omega
  rw [indexRank64_sem _ hl]
  rfl

/-- the loop `for i := int32(0); i < n; i++ { indexes[i] = i }` -/
theorem fixLeafSize_loop_sem (n : Nat) (hn : n < 2 ^ 31) :
    ∀ (fuel i : Nat) (idx : List Nat), i ≤ n → n - i < fuel → idx.length = n →
      Generated.W.before000512FixLeafSize_loop1 n fuel (i, idx)
        = some (Sum.inr (n, idx.take i ++ List.range' i (n - i))) := by
  intro fuel
  induction fuel with
  | zero => intro i idx _ h; exact absurd h (Nat.not_lt_zero _)
  | succ fuel ih =>
    intro i idx hi hf hlen
    have hi31 : i < 2 ^ (32 - 1) := Nat.lt_of_le_of_lt hi hn
    unfold Generated.W.before000512FixLeafSize_loop1
    -- the loop test, written `i < n` or `n <= i`
    simp only [ltS_small hi31 hn, leS_small hn hi31]
    by_cases hlt : i < n
    · have hset := setS_eq 32 idx i i hi31 (hlen ▸ hlt)
      have hadd : Go.add 32 i 1 = i + 1 := add_small (Nat.lt_of_le_of_lt hlt (Nat.lt_trans hn (by decide)))
      simp only [hlt, Nat.not_le.mpr hlt, decide_true, decide_false, if_true, Bool.false_eq_true, if_false, ↓reduceIte,
        hset, hadd, Option.bind_eq_bind, Option.bind_some]
      rw [ih (i + 1) (idx.set i i) hlt (by omega) (by simpa using hlen)]
      congr 3
      have : n - i = (n - (i + 1)) + 1 := by omega
      rw [take_succ_set idx i i (hlen ▸ hlt), this, List.range'_succ]
      simp
    · obtain rfl : i = n := Nat.le_antisymm hi (Nat.not_lt.mp hlt)
      simp [List.take_of_length_le (Nat.le_of_eq hlen)]

/-- the `int32` conversions of `before000512FixLeafSize` are exact: the element size and the length of
    `Leaves.Bytes` are below 2^31, and so is the number of leaves plus 63 (`bitmap.Of` rounds up to words) -/
def FixLeafFits (s : SlimMsg) (enc : Option Nat) : Prop :=
  ∀ lv w, s.leaves = some lv → lv.presenceBM = none → lv.fixedSize = 0 → enc = some w →
    w < 2 ^ 31 ∧ lv.bytes.length < 2 ^ 31 ∧ (w ≠ 0 → lv.bytes.length / w + 63 < 2 ^ 31)

theorem lastSucc_range (n : Nat) : lastSucc (List.range n) = n := by
  unfold lastSucc
  cases n with
  | zero => rfl
  | succ n => simp [List.range_succ]

theorem except_map_error {α β : Type} (f : α → β) (e : Err) :
    f <$> (Except.error e : Except Err α) = Except.error e := rfl
theorem except_map_ok {α β : Type} (f : α → β) (a : α) :
    f <$> (Except.ok a : Except Err α) = Except.ok (f a) := rfl
theorem except_bind_error {α β : Type} (f : α → Except Err β) (e : Err) :
    ((Except.error e : Except Err α) >>= f) = Except.error e := rfl

/-- `h`: a non-zero `FixedSize` with a nil `PresenceBM` (the explicit `panic`), an encoder whose
    `GetEncodedSize(nil)` panics, element size 0 (integer division by zero) -/
theorem before000512FixLeafSize_panics (s : SlimMsg) (enc : Option Nat) (v : Option W.slimVars) (fuel : Nat)
    (lv : VLenArrayMsg) (hl : s.leaves = some lv) (hp : lv.presenceBM = none)
    (h : lv.fixedSize ≠ 0 ∨ enc = none ∨ enc = some 0) :
    Generated.W.before000512FixLeafSize fuel (absInst s v) enc = none
      ∧ ∃ msg, Legacy.fixLeafSize s enc = .error (.panic msg) := by
  -- Every panic is met before anything is computed.  Any `simp` pass would rebuild the continuation under each
  -- `bind` before the test at the head discards it; once the fields the function tests are closed terms
  -- (`cases s; cases hl`), both sides reduce along the executed prefix only, however that prefix is written.
  cases s; cases hl
  obtain ⟨_, _, _, f, _, _⟩ := lv
  cases hp
  cases f with
  | succ k => exact ⟨rfl, _, rfl⟩
  | zero =>
    obtain h | rfl | rfl := h
    · exact absurd rfl h
    · exact ⟨rfl, _, rfl⟩
    · exact ⟨rfl, _, rfl⟩

theorem before000512FixLeafSize_sem (s : SlimMsg) (enc : Option Nat) (v : Option W.slimVars) (fuel : Nat)
    (hfit : FixLeafFits s enc)
    (hfuel : ∀ lv, s.leaves = some lv → lv.bytes.length < fuel) :
    Generated.W.before000512FixLeafSize fuel (absInst s v) enc
      = (okOpt (Legacy.fixLeafSize s enc)).map (fun s' => absInst s' v) := by
  cases hl : s.leaves with
  | none => cases s; cases hl; rfl
  | some lv =>
    cases hp : lv.presenceBM with
    | some bm => cases s; cases hl; cases lv; cases hp; rfl
    | none =>
      by_cases hpanic : lv.fixedSize ≠ 0 ∨ enc = none ∨ enc = some 0
      · obtain ⟨h1, msg, h2⟩ := before000512FixLeafSize_panics s enc v fuel lv hl hp hpanic
        rw [h1, h2]; rfl
      · have hf : lv.fixedSize = 0 := Decidable.byContradiction fun h => hpanic (.inl h)
        obtain ⟨w, he⟩ : ∃ w, enc = some w := by
          cases enc with
          | none => exact absurd (.inr (.inl rfl)) hpanic
          | some w => exact ⟨w, rfl⟩
        have hw0 : w ≠ 0 := fun h => hpanic (.inr (.inr (by rw [he, h])))
        obtain ⟨hw, hlen, hn⟩ := hfit lv w hl hp hf he
        have hn' := hn hw0
        have hfl := hfuel lv hl
        have hcw : Go.conv 64 true 32 w = w := conv_narrow_small _ _ _ _ (by decide) (Nat.lt_trans hw (by decide))
        have hcl := conv_len lv.bytes hlen
        have hdiv : Go.divChkS 32 lv.bytes.length w = some (lv.bytes.length / w) := by
          unfold Go.divChkS
          rw [if_neg hw0, divS_small hlen hw (by decide)]
        have hnle : lv.bytes.length / w ≤ lv.bytes.length := Nat.div_le_self _ _
        generalize hN : lv.bytes.length / w = n at *
        have hn31 : n < 2 ^ 31 := Nat.lt_of_le_of_lt hnle hlen
        have hloop := fixLeafSize_loop_sem n hn31 fuel 0
          (List.replicate n 0) (Nat.zero_le n) (Nat.lt_of_le_of_lt hnle hfl) (by simp)
        have hbm := newBMr64_sem (List.range n) n
          (by rw [lastSucc_range]; simpa using hn')
          (by intro p hp; rw [lastSucc_range]; simpa using hp)
        have hsel : (newBM (List.range n) n "r64").selectIndex = [] := rfl
        simp only [List.take_zero, List.nil_append, Nat.sub_zero, ← List.range_eq_range'] at hloop
        subst he
        unfold Generated.W.before000512FixLeafSize Legacy.fixLeafSize
        simp [absInst, absSlim, absVLen, absBitmap, hl, hp, hf, Go.deref, Go.encodedSize, hcw, hcl,
          hdiv, makeS_eq 32 n hn31, hloop, hbm, hw0, hsel, hN, except_map_ok]

/-- a 0.5.10 message whose `Leaves` hold only `Bytes` (three 4-byte leaves) -/
def exLegacyLeaves : SlimMsg :=
  { leaves := some { bytes := [1, 0, 0, 0, 2, 0, 0, 0, 3, 0, 0, 0] } }

example : FixLeafFits exLegacyLeaves (some 4) := by
  intro lv w h1 _ _ h2
  cases h1; cases h2
  decide

def exFixedLeaves : SlimMsg :=
  { leaves := some { n := 3, eltCnt := 3, fixedSize := 4, bytes := [1, 0, 0, 0, 2, 0, 0, 0, 3, 0, 0, 0], presenceBM := some { words := [7], rankIndex := [0] } } }

example : Generated.W.before000512FixLeafSize 13 (absInst exLegacyLeaves none) (some 4)
    = some (absInst exFixedLeaves none) := by decide

example : okOpt (Legacy.fixLeafSize exLegacyLeaves (some 4)) = some exFixedLeaves := by decide

example : Generated.W.before000512FixLeafSize 13 (absInst exLegacyLeaves none) (some 0) = none := by decide
example : Generated.W.before000512FixLeafSize 13 (absInst exLegacyLeaves none) none = none := by decide
/-- too little fuel is `none`, not a wrong answer -/
example : Generated.W.before000512FixLeafSize 2 (absInst exLegacyLeaves none) (some 4) = none := by decide

end BridgeSem

#print_axioms? BridgeSem.bitmapOf_sem
#print_axioms? BridgeSem.indexRank64_sem
#print_axioms? BridgeSem.newBMr64_sem
#print_axioms? BridgeSem.fixLeafSize_loop_sem
#print_axioms? BridgeSem.before000512FixLeafSize_sem
#print_axioms? BridgeSem.before000512FixLeafSize_panics
