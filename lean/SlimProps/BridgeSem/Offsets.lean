import Generated.Funcs
import SlimProps.BridgeSem.Common
import SlimModel.Slim
/-
  SlimProps.BridgeSem.Offsets — tie 1, semantic part: where the label bitmap of the `ithInner`-th inner node starts
  in `Inners`: the two fields `initVars` caches (trie/slimtrie_vars.go) and the assignments to `qr.from` in
  `getIthInnerFrom` (trie/slimtrie_getnode.go) and in `getNode` (trie/slimtrie_query.go), which are the same text.
-/

open Generated

namespace BridgeSem

theorem bigInnerOffset_sem (cnt : Nat) (h : 240 * cnt < 2 ^ 31) :
    Generated.bigInnerOffset cnt = ((Slim.bigInnerSize : Int) - Slim.innerSize) * cnt := by
  unfold Generated.bigInnerOffset
  go_simp
  simp only [Slim.bigInnerSize, Slim.innerSize]
  omega

/-- negative for every short size the builder chooses: the reason the offsets are `Int` -/
theorem shortMinusInner_sem (ss : Nat) (h : ss < 2 ^ 31) :
    Generated.shortMinusInner ss = (ss : Int) - Slim.innerSize := by
  unfold Generated.shortMinusInner
  rw [sub_natCast (Nat.lt_trans h (by decide)) (by decide)]
  exact toS_ofS (w := 32) (by decide) (by omega) (by omega)

theorem innerFromBig_sem (ith : Nat) (h : ith * 257 < 2 ^ 31) :
    Generated.innerFromBig ith = ((ith * Slim.bigInnerSize : Nat) : Int) ∧
    Generated.getNodeFromBig ith = ((ith * Slim.bigInnerSize : Nat) : Int) := by
  unfold Generated.innerFromBig Generated.getNodeFromBig
  go_simp
  simp [Slim.bigInnerSize]

/-- `from = BigInnerOffset + innerSize*ithInner + ShortMinusInner*ithShort` on int32 values
    `bo`, `sm` (given by their patterns `Go.ofS 32 _`): only the RESULT has to fit an int32; a product
    or partial sum may wrap. -/
theorem innerFromSmall_sem (ith ithShort : Nat) (bo sm : Int) (hi : ith < 2 ^ 32) (hs : ithShort < 2 ^ 32)
    (hlo : -(2 : Int) ^ 31 ≤ bo + 17 * ith + sm * ithShort)
    (hhi : bo + 17 * ith + sm * ithShort < (2 : Int) ^ 31) :
    Generated.innerFromSmall ith (Go.ofS 32 bo) (Go.ofS 32 sm) ithShort
      = bo + (Slim.innerSize : Int) * ith + sm * ithShort ∧
    Generated.getNodeFromSmall ith (Go.ofS 32 bo) (Go.ofS 32 sm) ithShort
      = bo + (Slim.innerSize : Int) * ith + sm * ithShort := by
  unfold Generated.innerFromSmall Generated.getNodeFromSmall
  rw [smallOffset_pat ith ithShort bo sm hi hs, toS_ofS (w := 32) (by decide) hlo hhi]
  exact ⟨rfl, rfl⟩

/-- with the fields as `initVars` sets them: the `Int` expression of `Slim.innerFrom` / `Slim.ithInnerFrom` -/
theorem innerFrom_offset_sem (cnt ss ith ithShort : Nat) (hc : 240 * cnt < 2 ^ 31) (hss : ss < 2 ^ 31)
    (hi : ith < 2 ^ 32) (hs : ithShort < 2 ^ 32)
    (hlo : -(2 : Int) ^ 31 ≤ ((Slim.bigInnerSize : Int) - Slim.innerSize) * cnt + (Slim.innerSize : Int) * ith
      + ((ss : Int) - Slim.innerSize) * ithShort)
    (hhi : ((Slim.bigInnerSize : Int) - Slim.innerSize) * cnt + (Slim.innerSize : Int) * ith
      + ((ss : Int) - Slim.innerSize) * ithShort < (2 : Int) ^ 31) :
    Generated.innerFromSmall ith (Go.ofS 32 (Generated.bigInnerOffset cnt))
        (Go.ofS 32 (Generated.shortMinusInner ss)) ithShort
      = ((Slim.bigInnerSize : Int) - Slim.innerSize) * cnt + (Slim.innerSize : Int) * ith
        + ((ss : Int) - Slim.innerSize) * ithShort := by
  rw [bigInnerOffset_sem cnt hc, shortMinusInner_sem ss hss]
  have hinner : (Slim.innerSize : Int) = 17 := rfl
  exact (innerFromSmall_sem ith ithShort _ _ hi hs (by rw [← hinner]; exact hlo)
    (by rw [← hinner]; exact hhi)).1

end BridgeSem

#print axioms BridgeSem.bigInnerOffset_sem
#print axioms BridgeSem.shortMinusInner_sem
#print axioms BridgeSem.innerFromBig_sem
#print axioms BridgeSem.innerFromSmall_sem
#print axioms BridgeSem.innerFrom_offset_sem
