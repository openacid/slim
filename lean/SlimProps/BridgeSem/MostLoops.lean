import Generated.Funcs
import SlimProps.BridgeSem.Common
import SlimProps.BridgeSem.Extern
import SlimProps.BridgeSem.LeftChildWhole
import SlimProps.BridgeSem.GetNode
import SlimModel.Query
import SlimModel.Slim

/-
  SlimProps.BridgeSem.MostLoops — tie 1, semantic part: `leftMost` and `rightMost` (trie/slimtrie_query.go)
  translated WHOLE, loops included: `for { …; st.getNode(idx, qr); if qr.isInner == 0 { break }; … }` becomes
  the fuel-recursive `Generated.W.SlimTrie.leftMost_loop1` / `rightMost_loop1` (state: `idx`, for `leftMost`
  also `path` and the session, which is created once and reused), `break` ends the loop with the state,
  running out of fuel is `none`; the functions take the fuel as an extra first parameter.

  ONE DIRECTION: whenever the model's descent (SlimModel/Query.lean, on the bit-level view `Slim.view s`, whose `node`
  is `Slim.getNode s`) reaches a leaf within the fuel, the Go loop reaches the SAME leaf within the same fuel:
  every iteration is `getNode_sem` with `sessionOf_decodes` (GetNode.lean) and `getNode_inner_data`, plus one
  `Rank128` on the session (`firstChild = rank(from)+1`, `firstChild + #labels - 1 = rank(to)`).
  This module is NOT an obligation of any property (DESIGN.md): two archived harmless rewrites of the source
  (they move the two `Rank128` computations into helper methods) break these proofs; `leftMost` / `rightMost` are
  tied by the one-step bridges of LeftChild.lean and by the differential runs.
  The hypotheses `TrieFits` hold for the example trie (`exSlim_trieFits`).
-/

set_option linter.unusedSimpArgs false
set_option linter.unusedVariables false

open Generated Bits

namespace BridgeSem

/-- a message on which the descents stay inside `int32` and inside `Inners` -/
structure TrieFits (s : SlimMsg) (ws : List Nat) : Prop where
  inn : s.inners = some (mk ws "r128")
  bits : 64 * ws.length + 64 < 2 ^ 31
  node : ∀ id node, Slim.getNode s id = .ok node → GetNodeFits s id
  /-- the bit range of every inner node (`ith`: its ordinal among the inner nodes) lies inside `Inners` -/
  range : ∀ nt id ith frm size short, s.nodeTypeBM = some nt → rank64 nt id = .ok (ith, true) →
    Slim.innerFrom s ith = .ok (frm, size, short) → 0 < size ∧ frm + size ≤ 64 * ws.length
  /-- a short node is stored as a code with as many set bits as the node has labels
      (`creator.build` picks the code among those with `popcount = number of labels`) -/
  short : ∀ nt id ith frm size bm, s.nodeTypeBM = some nt → rank64 nt id = .ok (ith, true) →
    Slim.innerFrom s ith = .ok (frm, size, some bm) →
    cnt (getBit ws) (frm + size)
      = cnt (getBit ws) frm + ((List.range Slim.innerSize).filter (fun k => bm.testBit k)).length

theorem labels_length (s : SlimMsg) (ws : List Nat) (hf : TrieFits s ws) (nt : BitmapMsg) (id ith frm size : Nat)
    (short : Option Nat) (hnt : s.nodeTypeBM = some nt) (hrk : rank64 nt id = .ok (ith, true))
    (hif : Slim.innerFrom s ith = .ok (frm, size, short)) :
    cnt (getBit ws) (frm + size) = cnt (getBit ws) frm + (nodeLabels ws frm size short).length := by
  cases short with
  | some bm => exact hf.short nt id ith frm size bm hnt hrk hif
  | none =>
    unfold nodeLabels
    rw [labelsIn_eq_filter, ← cnt_eq_length_filter, cnt_add]

/-- `[frm, frm + size)` is the bit range of the node in `Inners`; it is the same whatever session `qr0`
    the call starts from (`leftMost` reuses its session from one iteration to the next). -/
theorem getNode_inner_data (s : SlimMsg) (ws : List Nat) (hf : TrieFits s ws) (id : Nat) (r : InnerRec)
    (h : Slim.getNode s id = .ok (.inner r)) :
    ∃ frm size, 0 < size ∧ frm + size ≤ 64 * ws.length ∧ r.firstChild = cnt (getBit ws) frm + 1 ∧
      r.firstChild + r.labels.length - 1 = cnt (getBit ws) (frm + size) ∧
      ∃ f : W.querySession → W.querySession,
        ∀ qr0, sessionOf s id qr0 = .ok (f qr0) ∧ (f qr0).isInner = 1 ∧ (f qr0).from_ = frm ∧ (f qr0).to = frm + size := by
  obtain ⟨nt, ith, b, hnt, hrk, rfl, frm, size, short, inn, r0, c, rp, hif, hinn, hr128, hrp, rfl⟩ :=
    getNode_inv s id _ h
  rw [hf.inn] at hinn
  cases hinn
  obtain ⟨hsz, hrg⟩ := hf.range nt id ith frm size short hnt hrk hif
  rw [rank128_mk_cnt ws frm (Nat.lt_of_lt_of_le (Nat.lt_add_of_pos_right hsz) hrg)] at hr128
  cases hr128
  refine ⟨frm, size, hsz, hrg, rfl, ?_, ?_⟩
  · show cnt (getBit ws) frm + 1 + (nodeLabels ws frm size short).length - 1 = _
    rw [labels_length s ws hf nt id ith frm size short hnt hrk hif, Nat.add_right_comm, Nat.add_sub_cancel]
  · have hs : ∀ qr0, sessionOf s id qr0 = innerSession s ith _ := fun qr0 => sessionOf_inner s nt id ith qr0 hnt hrk
    unfold innerSession at hs
    simp only [hif, bind, Except.bind, hrp] at hs
    cases rp <;> exact ⟨_, fun qr0 => ⟨hs qr0, rfl, rfl, rfl⟩⟩

/-- `Rank128(Inners, to-1)`: `r0 + bit` (in either order) is the rank of `to` -/
theorem rank_last (ws : List Nat) (to : Nat) (h0 : 0 < to) (hto : to ≤ 64 * ws.length)
    (hfit : 64 * ws.length + 64 < 2 ^ 31) :
    ∃ a b, Go.rank128 ws (indexRank128 ws) (to - 1) = some (a, b) ∧
      Go.add 32 a b = cnt (getBit ws) to ∧ Go.add 32 b a = cnt (getBit ws) to := by
  have hc : cnt (getBit ws) to = cnt (getBit ws) (to - 1) + b2n (getBit ws (to - 1)) :=
    (cnt_last (getBit ws) h0).symm
  -- the sum is `cnt … to ≤ to`
  have e := add_small_both (w := 32) (a := cnt (getBit ws) (to - 1)) (b := b2n (getBit ws (to - 1)))
    (hc ▸ add_lt_u32 (b := 0) (Nat.le_trans (cnt_le _ to) hto) (Nat.zero_le _) hfit)
  exact ⟨_, _, rank128_mk_sem ws (to - 1) (Nat.lt_of_lt_of_le (Nat.sub_lt h0 (by decide)) hto) hfit,
    e.1.trans hc.symm, e.2.trans hc.symm⟩

theorem rightMost_loop_sem (s : SlimMsg) (ws : List Nat) (hf : TrieFits s ws) :
    ∀ fuel id id', rightMost (Slim.view s) fuel id = .ok id' →
      W.SlimTrie.rightMost_loop1 (some (absSlim s)) (absTrie s (varsOf s)) fuel id = some (Sum.inr id') := by
  intro fuel
  induction fuel with
  | zero => intro id id' h; simp [rightMost] at h
  | succ fuel ih =>
    intro id id' h
    unfold rightMost at h
    obtain ⟨node, hn, h⟩ := Slim.bind_eq_ok h
    have hfit := hf.node id node hn
    rw [W.SlimTrie.rightMost_loop1]
    cases node with
    | leaf ith lp =>
      simp only [pure, Except.pure, Except.ok.injEq] at h
      subst h
      obtain ⟨nt, r, b, hnt, hrk, rfl, rfl, hlp⟩ := getNode_inv s id _ hn
      simp only [getNode_sem s id _ hfit, sessionOf_leaf s nt id r _ hnt hrk, leafSession, hlp, bind, Except.bind,
        pure, Except.pure, okOpt_ok, Option.bind_eq_bind, bind_some_nr, beq_self_eq_true, if_true, Option.pure_def]
    | inner r =>
      obtain ⟨frm, size, hsz, hrg, hfc, htarget, f, hff⟩ := getNode_inner_data s ws hf id r hn
      simp only at h
      rw [htarget] at h
      have hpos : 0 < frm + size := Nat.lt_of_lt_of_le hsz (Nat.le_add_left _ _)
      obtain ⟨a, b, hrk, hab, hba⟩ := rank_last ws (frm + size) hpos hrg hf.bits
      have hrec := ih _ _ h
      have hsub : Go.sub 32 (frm + size) 1 = frm + size - 1 :=
        sub_small hpos (add_lt_u32 (b := 0) hrg (Nat.zero_le _) hf.bits)
      simp only [absSlim, hf.inn, Option.map_some, absBitmap, mk_r128] at hrec
      simp only [getNode_sem s id _ hfit, hff, okOpt_ok, hsub, Option.bind_eq_bind, bind_some_nr, one_beq_zero, one_bne_zero,
        Bool.false_eq_true, if_false, if_true, Go.deref, absSlim, hf.inn, Option.map_some, absBitmap, mk_r128,
        Option.pure_def, hrk, hab, hba, hrec]

theorem rightMost_sem (s : SlimMsg) (ws : List Nat) (hf : TrieFits s ws) (fuel id id' : Nat)
    (h : rightMost (Slim.view s) fuel id = .ok id') :
    W.SlimTrie.rightMost fuel (absTrie s (varsOf s)) id = some id' := by
  unfold W.SlimTrie.rightMost
  have hl := rightMost_loop_sem s ws hf fuel id id' h
  simp only [absTrie] at hl ⊢
  simp [hl]

/-- `qr0` is arbitrary because the session is created once, before the loop, and reused; `path`, when
    not nil, collects the ids visited -/
theorem leftMost_loop_sem (s : SlimMsg) (ws : List Nat) (hf : TrieFits s ws) :
    ∀ fuel id id' (path : Option (List Nat)) (qr0 : W.querySession), leftMost (Slim.view s) fuel id = .ok id' →
      ∃ p q, W.SlimTrie.leftMost_loop1 (some (absSlim s)) (absTrie s (varsOf s)) fuel (id, path, qr0)
          = some (Sum.inr (id', p, q)) ∧ (path = none → p = none) := by
  intro fuel
  induction fuel with
  | zero => intro id id' path qr0 h; simp [leftMost] at h
  | succ fuel ih =>
    intro id id' path qr0 h
    unfold leftMost at h
    obtain ⟨node, hn, h⟩ := Slim.bind_eq_ok h
    have hfit := hf.node id node hn
    rw [W.SlimTrie.leftMost_loop1]
    -- the `path` bookkeeping: a value `path'` that is nil when `path` is
    have hpath : ∃ path' : Option (List Nat), (path = none → path' = none) ∧
        (do let path ← (do
              if path.isSome then
                let t1_ ← Go.deref path
                let _ ← Go.deref path
                let path := some (t1_ ++ [id])
                pure path
              else pure path : Option (Option (List Nat)))
            pure path) = some path' := by
      cases path with
      | none => exact ⟨none, fun _ => rfl, rfl⟩
      | some l => exact ⟨some (l ++ [id]), (fun h => by cases h), rfl⟩
    obtain ⟨path', hp', hpe⟩ := hpath
    simp only [Option.bind_eq_bind, Option.pure_def] at hpe ⊢
    rw [hpe]
    cases node with
    | leaf ith lp =>
      simp only [pure, Except.pure, Except.ok.injEq] at h
      subst h
      obtain ⟨qr, hs, hd, _⟩ := sessionOf_decodes s id qr0 _ hn
      have h1 : okOpt (sessionOf s id qr0) = some qr := by rw [hs]; rfl
      have h2 : qr.isInner = 0 := hd.1
      refine ⟨path', qr, ?_, hp'⟩
      simp only [getNode_sem s id _ hfit, h1, h2, bind_some_nr, beq_self_eq_true, bne_self_eq_false,
        Bool.false_eq_true, if_true, if_false]
    | inner r =>
      obtain ⟨frm, size, hsz, hrg, hfc, _, f, hff⟩ := getNode_inner_data s ws hf id r hn
      simp only at h
      rw [hfc] at h
      obtain ⟨p, q, hrec, hpn⟩ := ih _ _ path' (f qr0) h
      simp only [absSlim, hf.inn, Option.map_some, absBitmap, mk_r128] at hrec
      have hfl : frm < 64 * ws.length := Nat.lt_of_lt_of_le (Nat.lt_add_of_pos_right hsz) hrg
      have hadd := add_small_both
        (add_lt_u32 (b := 1) (Nat.le_trans (cnt_le (getBit ws) frm) (Nat.le_of_lt hfl)) (by decide) hf.bits)
      refine ⟨p, q, ?_, fun hpa => hpn (hp' hpa)⟩
      simp only [getNode_sem s id _ hfit, hff, okOpt_ok, bind_some_nr, one_beq_zero, one_bne_zero, Bool.false_eq_true, if_false,
        if_true, Go.deref, absSlim, hf.inn, Option.map_some, absBitmap, mk_r128,
        rank128_mk_sem ws frm hfl hf.bits, hadd, hrec]

theorem leftMost_sem (s : SlimMsg) (ws : List Nat) (hf : TrieFits s ws) (fuel id id' : Nat)
    (path : Option (List Nat)) (h : leftMost (Slim.view s) fuel id = .ok id') :
    ∃ p, W.SlimTrie.leftMost fuel (absTrie s (varsOf s)) id path = some (p, id') ∧ (path = none → p = none) := by
  unfold W.SlimTrie.leftMost
  simp only [absTrie]
  generalize hx : W.SlimTrie.leftMost_loop1 _ _ fuel (id, path, _) = x
  obtain ⟨p, q, rfl, hp⟩ : ∃ p q, x = some (Sum.inr (id', p, q)) ∧ (path = none → p = none) :=
    hx ▸ leftMost_loop_sem s ws hf fuel id id' path _ h
  exact ⟨p, rfl, hp⟩

/-! non-vacuity: `exSlim` satisfies `TrieFits`; the descents from its root -/

/-- `rank64` on the node-type bitmap of `exSlim` (one word, `0b111`), read backwards -/
theorem exSlim_rank_inv (id ith : Nat) (b : Bool) (h : rank64 { words := [7], rankIndex := [0] } id = .ok (ith, b)) :
    id < 64 ∧ ith = popcount (7 % 2 ^ id) ∧ b = Nat.testBit 7 id := by
  unfold rank64 at h
  by_cases hlt : id < 64
  · have h0 : id / 64 = 0 := Nat.div_eq_of_lt hlt
    have h1 : id % 64 = id := Nat.mod_eq_of_lt hlt
    simp only [h0, h1, List.getElem?_cons_zero, Nat.zero_add, Except.ok.injEq, Prod.mk.injEq] at h
    exact ⟨hlt, h.1.symm, h.2.symm⟩
  · have : ([7] : List Nat)[id / 64]? = none := List.getElem?_eq_none ((Nat.le_div_iff_mul_le (by decide)).mpr (Nat.le_of_not_lt hlt))
    simp [this] at h

theorem exSlim_inner_ids (id ith : Nat) (h : rank64 { words := [7], rankIndex := [0] } id = .ok (ith, true)) :
    id = 0 ∨ id = 1 ∨ id = 2 := by
  obtain ⟨_, _, hb⟩ := exSlim_rank_inv id ith true h
  by_cases hlt : id < 3
  · omega
  · have : 7 < 2 ^ id := Nat.lt_of_lt_of_le (by decide : 7 < 2 ^ 3) (Nat.pow_le_pow_right (by decide) (Nat.le_of_not_lt hlt))
    rw [Nat.testBit_lt_two_pow this] at hb
    cases hb

/-- the leaf-prefix lookup of `exSlim` stays inside `int32` whatever the leaf: a rank index entry plus
    a popcount -/
theorem exSlim_leafFits (k : Nat) : LeafPrefixFits exSlim k := by
  intro lp pres pos w r h1 h2 h3 h4 h5
  cases h1; cases h2; cases h3
  have hr : r = 0 := by simpa using List.mem_of_getElem? h5
  have := popcount_le (w % 2 ^ (k % 64))
  exact ⟨by omega, by decide⟩

theorem exSlim_fits (id : Nat) (h : id < 64) : GetNodeFits exSlim id where
  wf := exSlim_wf
  id_lt := Nat.lt_trans h (by decide)
  rank_le := by
    intro nt r b hnt hrk
    cases hnt
    obtain ⟨_, hr, _⟩ := exSlim_rank_inv id r b hrk
    rw [hr, popcount_mod_two_pow_cnt 7 id (Nat.le_of_lt h)]
    exact cnt_le _ id
  leaf := fun _ r _ _ => exSlim_leafFits (id - r)
  inner := by
    intro nt r hnt hrk
    cases hnt
    rcases exSlim_inner_ids id r hrk with rfl | rfl | rfl <;> (cases hrk; exact exSlim_innerFits _ (by decide))

theorem exSlim_trieFits : TrieFits exSlim [2216209416204] where
  inn := by decide
  bits := by decide
  node := by
    intro id node h
    obtain ⟨nt, ith, b, hnt, hrk, _⟩ := (Slim.getNode_ok_iff _ id node).mp h
    cases hnt
    exact exSlim_fits id (exSlim_rank_inv id ith b hrk).1
  range := by
    intro nt id ith frm size short hnt hrk hif
    cases hnt
    rcases exSlim_inner_ids id ith hrk with rfl | rfl | rfl <;> (cases hrk; cases hif; decide)
  short := by
    intro nt id ith frm size bm hnt hrk hif
    cases hnt
    rcases exSlim_inner_ids id ith hrk with rfl | rfl | rfl <;> (cases hrk; cases hif)

example : W.SlimTrie.rightMost 4 (absTrie exSlim (varsOf exSlim)) 0 = some 6 := by decide +kernel
example : W.SlimTrie.rightMost 1 (absTrie exSlim (varsOf exSlim)) 0 = none := by decide +kernel
example : (rightMost (Slim.view exSlim) 4 0).toOption = some 6 := by decide +kernel
example : W.SlimTrie.leftMost 4 (absTrie exSlim (varsOf exSlim)) 0 none = some (none, 3) := by decide +kernel
example : W.SlimTrie.leftMost 4 (absTrie exSlim (varsOf exSlim)) 0 (some []) = some (some [0, 1, 3], 3) := by decide +kernel
example : (leftMost (Slim.view exSlim) 4 0).toOption = some 3 := by decide +kernel

end BridgeSem

#print axioms BridgeSem.getNode_inner_data
#print axioms BridgeSem.rightMost_loop_sem
#print axioms BridgeSem.rightMost_sem
#print axioms BridgeSem.leftMost_loop_sem
#print axioms BridgeSem.leftMost_sem
#print axioms BridgeSem.exSlim_trieFits
