import Generated.Funcs
import SlimProps.BridgeSem.Common
import SlimProps.BridgeSem.Extern
import SlimProps.BridgeSem.Calc
import SlimModel.Query
import SlimModel.Slim
import SlimProofs.Refine.GetNodeEq

/-
  SlimProps.BridgeSem.GetNode — tie 1, semantic part: `getNode` (trie/slimtrie_query.go) translated WHOLE,
  with its callees `getLeafPrefix`, `getLeafIndex`, `decStep` (`Generated.W.SlimTrie.getNode` …: the
  `*querySession` is a record that the function returns updated; `st.inner` is the generated `Slim`
  structure, `st.vars` the cached `slimVars`; every branch, early return, nil / index / slice panic and
  the calls of the external `bitmap.Rank64`, `Rank128`, `Select32R64`, `bitstr.Len` are translated).

  Two steps.  `getNode_sem`: getNode(id, qr0) = okOpt (sessionOf s id qr0) — INCLUDING when it panics — where
  `sessionOf` writes the session with the model's functions: `Bits.rank64` on `NodeTypeBM` (`ithInner`, `isInner`),
  `Slim.getLeafPrefix` for a leaf (`leafSession`), `Slim.innerFrom` (`from`, `to = from + size`, `bm`, `wordSize`)
  and the prefix block of `Slim.getNode` (`rawPref`: `hasInnerPrefix`, `innerPrefix`, `innerPrefixLen`) for an
  inner node (`innerSession`).  `sessionOf_decodes`: the ABSTRACTION RELATION `Decodes s qr node` between the
  session and the `Node` record of `Slim.getNode` (labels = set bits of `Inners` in [from, to) or of the cached
  short bitmap, firstChild = rank128(from) + 1, big = (wordSize = 8), prefix); whenever
  `Slim.getNode s id = .ok node`, `sessionOf` succeeds with a session that decodes to exactly `node`.
  Together (`getNode_ok`): then the Go `getNode` does not panic and leaves such a session.
  (`getNode_getLeftChildID`, one step of the descent, is in SlimProps/BridgeSem/DescentStep.lean)

  Hypotheses (`GetNodeFits`, `InnerFits`, `LeafPrefixFits`): the message is well formed (`SlimMsg.WF`:
  `int32` / `uint32` / `uint64` ranges), `ShortSize ≤ 64`, and the `int32` computations of THIS call do
  not overflow — stated on the model's values (rank ≤ position, offsets, ordinals, bitmap sizes).
  `vars` are the fields `initVars` caches (`varsOf`; `initVars_sem`).
  The named parts of `Slim.getNode` and `Slim.innerFrom` used here (`Slim.prefBlock`, `Slim.shortPart`,
  `smallFrom`) are defined in SlimProofs/Refine/GetNodeEq.lean.
  External semantics assumed: GoSem.lean / SlimProps/BridgeSem/Extern.lean.
-/

set_option linter.unusedSimpArgs false
set_option linter.unusedVariables false

open Generated Bits
open Slim (shortPart innerFrom_big innerFrom_small prefBlock)

namespace BridgeSem

theorem b2n_true : b2n true = 1 := rfl
theorem b2n_false : b2n false = 0 := rfl

theorem getLeafIndexW_sem (s : SlimMsg) (v : W.slimVars) (nt : BitmapMsg) (id : Nat)
    (hnt : s.nodeTypeBM = some nt) (hri : ∀ r ∈ nt.rankIndex, r < 2 ^ 31) (hid : id < 2 ^ 31) :
    W.SlimTrie.getLeafIndex (absTrie s v) id
      = (okOpt (rank64 nt id)).map (fun p => (Go.sub 32 id p.1, b2n p.2)) := by
  unfold W.SlimTrie.getLeafIndex
  simp only [absTrie, absSlim, hnt, Go.deref, Option.bind_eq_bind, Option.pure_def, Option.bind_some,
    Option.map_some, absBitmap, rank64_sem nt id hri hid]
  cases rank64 nt id <;> rfl

theorem getLeafIndexW_nil (s : SlimMsg) (v : W.slimVars) (id : Nat) (hnt : s.nodeTypeBM = none) :
    W.SlimTrie.getLeafIndex (absTrie s v) id = none := by
  unfold W.SlimTrie.getLeafIndex
  simp [absTrie, absSlim, hnt, Go.deref]

/-- what `getLeafPrefix` writes into the session, in the model's terms -/
def leafSession (s : SlimMsg) (ithLeaf : Nat) (qr : W.querySession) : Except Err W.querySession := do
  let lp ← Slim.getLeafPrefix s ithLeaf
  pure { qr with ithLeaf := ithLeaf, hasLeafPrefix := lp.isSome,
                 leafPrefix := match lp with | some b => natBytes b | none => qr.leafPrefix }

/-- the leaf-prefix lookup stays inside `int32` -/
def LeafPrefixFits (s : SlimMsg) (ithLeaf : Nat) : Prop :=
  ∀ lp pres pos w r, s.leafPrefixes = some lp → lp.presenceBM = some pres → lp.positionBM = some pos →
    pres.words[ithLeaf / 64]? = some w → pres.rankIndex[ithLeaf / 64]? = some r →
    r + popcount (w % 2 ^ (ithLeaf % 64)) < 2 ^ 31 ∧ pos.words.length * 64 < 2 ^ 31

theorem getLeafPrefixW_sem (s : SlimMsg) (v : W.slimVars) (nt : BitmapMsg) (id r : Nat) (b : Bool)
    (qr : W.querySession)
    (hnt : s.nodeTypeBM = some nt) (hri : ∀ r ∈ nt.rankIndex, r < 2 ^ 31) (hid : id < 2 ^ 31)
    (hrk : rank64 nt id = .ok (r, b)) (hle : r ≤ id) (hfit : LeafPrefixFits s (id - r)) :
    W.SlimTrie.getLeafPrefix (absTrie s v) id qr = okOpt (leafSession s (id - r) qr) := by
  unfold W.SlimTrie.getLeafPrefix
  rw [getLeafIndexW_sem s v nt id hnt hri hid, hrk]
  have hsub : Go.sub 32 id r = id - r := sub_small hle (Nat.lt_trans hid (by decide))
  dsimp only [okOpt_ok, Option.map_some, Option.bind_eq_bind, Option.bind_some, Option.pure_def]
  rw [hsub]
  unfold leafSession Slim.getLeafPrefix
  dsimp only [absTrie, absSlim, Go.deref, Option.bind_some]
  generalize hk : id - r = k at hfit ⊢
  have hk31 : k < 2 ^ 31 := hk ▸ Nat.lt_of_le_of_lt (Nat.sub_le id r) hid
  cases hlp : s.leafPrefixes with
  | none => rfl
  | some lp =>
    obtain ⟨h1, h2, h3⟩ := bitPos_split hk31
    have h4 : Go.conv 32 true 32 (k % 64) = k % 64 :=
      conv_narrow_small _ _ _ _ (by decide) (Nat.lt_trans (Nat.mod_lt k (by decide)) (by decide))
    simp only [Option.map_some, Option.isSome_some, Option.isNone_some, Bool.false_eq_true, if_true, if_false, Option.bind_some,
      absVLen, h1, h2, h4, idxS_eq _ _ _ h3, bitAt_lt (k % 64) (Nat.mod_lt _ (by decide)),
      maskAt_le (k % 64) (Nat.le_of_lt (Nat.mod_lt _ (by decide)))]
    cases hp : lp.presenceBM with
    | none => rfl
    | some pres =>
      dsimp only [Option.map_some, Option.bind_some, absBitmap]
      cases hw : pres.words[k / 64]? with
      | none => rfl
      | some w =>
        simp only [Option.bind_some, and_bit_ne_zero, and_bit_eq_zero, and_bit_ne_zero', and_bit_eq_zero']
        cases hb : w.testBit (k % 64) with
        | false => rfl
        | true =>
          simp only [if_true, Bool.not_true, Bool.false_eq_true, if_false]
          cases hr : pres.rankIndex[k / 64]? with
          | none => rfl
          | some r' =>
            cases hps : lp.positionBM with
            | none => rfl
            | some pos =>
              obtain ⟨hf1, hf2⟩ := hfit lp pres pos w r' hlp hp hps hw hr
              -- from here on both sides are `select` and the slice: step under them (Calc.lean)
              simp only [Option.bind_some, mask64_and, conv_popcount, Option.map_some, absBitmap,
                add_small (w := 32) (Nat.lt_trans hf1 (by decide)),
                select32R64_sem pos _ hf1 (Nat.lt_trans hf2 (by decide)), okOpt_bind, Option.bind_assoc, okOpt_pure]
              refine Option.bind_congr fun ab hsel => ?_
              obtain ⟨ha, hb'⟩ := select32R64_bounds pos _ ab.1 ab.2 (toOption_eq_some.mp hsel)
              rw [sliceS_sem _ _ _ (Nat.lt_trans ha hf2) (Nat.lt_of_le_of_lt hb' hf2), bind_map']
              rfl

/-- the inner prefix of a node as stored: nothing, the two bytes of a step, or the bytes of a `bitstr` -/
inductive RawPref where
  | none
  | step (b0 b1 : UInt8)
  | stored (bs : Bytes)

/-- the prefix block of `Slim.getNode`, returning what is stored -/
def rawPref (s : SlimMsg) (ithInner : Nat) : Except Err RawPref := do
  let some ips := s.innerPrefixes | .error (.panic "nil InnerPrefixes")
  if ips.eltCnt = 0 then return RawPref.none
  let some pres := ips.presenceBM | .error (.panic "nil PresenceBM")
  let some w := pres.words[ithInner / 64]? | .error (.panic "index out of range (prefix presence)")
  if !w.testBit (ithInner % 64) then return RawPref.none
  let (ithPref, _) ← rank128 pres ithInner
  match ips.positionBM with
  | some pos =>
    let (a, b) ← select32R64 pos ithPref
    let bs ← Slim.sliceBytes ips.bytes a b
    if bs.isEmpty then .error (.panic "index out of range (bitstr.Len)")
    return RawPref.stored bs
  | none =>
    match ips.bytes[ithPref * 2]?, ips.bytes[ithPref * 2 + 1]? with
    | some b0, some b1 => return RawPref.step b0 b1
    | _, _ => .error (.panic "index out of range (decStep)")

def RawPref.toPref : RawPref → Pref
  | .none => Pref.none
  | .step b0 b1 => Pref.step (Slim.decStep b0 b1)
  | .stored bs => Pref.stored (Slim.bitstrNibs bs)

/-- `bitstr.Len` as an `int32` pattern: `8*len - 16 + popcount(last byte)` -/
def bitstrBits (bs : Bytes) : Nat :=
  (bs.length * 8 + (2 ^ 32 - 16) + popcount (bs.getLast?.getD 0).toNat) % 2 ^ 32

/-- what `getNode` writes into the session for the `ithInner`-th inner node, in the model's terms:
    `Slim.innerFrom` gives the bit range and the short-table entry, `rawPref` the prefix. -/
def innerSession (s : SlimMsg) (ithInner : Nat) (qr : W.querySession) : Except Err W.querySession := do
  let (frm, size, short) ← Slim.innerFrom s ithInner
  let qr := { qr with wordSize := if ithInner < s.bigInnerCnt then 8 else 4, from_ := frm, to := frm + size,
                      bm := short.getD qr.bm }
  match ← rawPref s ithInner with
  | .none => pure qr
  | .step b0 b1 => pure { qr with innerPrefixLen := 4 * Slim.decStep b0 b1 }
  | .stored bs => pure { qr with innerPrefix := natBytes bs, innerPrefixLen := bitstrBits bs, hasInnerPrefix := true }

/-- the session `getNode(id, qr0)` leaves, in the model's terms -/
def sessionOf (s : SlimMsg) (id : Nat) (qr0 : W.querySession) : Except Err W.querySession := do
  let some nt := s.nodeTypeBM | .error (.panic "nil NodeTypeBM")
  let (ithInner, isInner) ← rank64 nt id
  let qr := { qr0 with innerPrefixLen := 0, hasInnerPrefix := false, ithInner := ithInner, isInner := b2n isInner }
  if isInner then innerSession s ithInner qr else leafSession s (id - ithInner) qr

/-- `getNode` on the `ith` inner node stays inside `int32` -/
structure InnerFits (s : SlimMsg) (ith : Nat) : Prop where
  ith_lt : ith + 64 < 2 ^ 31
  shortSize_le : s.shortSize ≤ 64
  big_fits : ith < s.bigInnerCnt → 257 * ith + 257 < 2 ^ 31
  small_fits : ∀ sbm k c, s.shortBM = some sbm → rank64 sbm ith = .ok (k, c) →
    0 ≤ smallFrom s ith k ∧ smallFrom s ith k + 17 + 64 < 2 ^ 31
  rank_sub : ∀ ips pres w n, s.innerPrefixes = some ips → ips.presenceBM = some pres →
    pres.words[ith / 64]? = some w → pres.rankIndex[(ith + 64) / 128]? = some n →
    ith / 64 % 2 * popcount w ≤ n
  pref_fits : ∀ ips pres k c, s.innerPrefixes = some ips → ips.presenceBM = some pres →
    rank128 pres ith = .ok (k, c) → 2 * k + 1 < 2 ^ 31
  pos_fits : ∀ ips pos, s.innerPrefixes = some ips → ips.positionBM = some pos →
    pos.words.length * 64 < 2 ^ 31

/-- `from = BigInnerOffset + innerSize*ithInner + ShortMinusInner*ithShort` with the cached `vars`:
    whenever the model's integer is a non-negative `int32`, the pattern is that integer —
    intermediate wrap-around (`ShortMinusInner` is negative) does not matter. -/
theorem smallFrom_pat (s : SlimMsg) (ith k : Nat) (hi : ith + 64 < 2 ^ 31) (hk : k < 2 ^ 31 + 64)
    (h0 : 0 ≤ smallFrom s ith k) (h1 : smallFrom s ith k + 17 + 64 < 2 ^ 31) :
    Go.add 32 (Go.add 32 (varsOf s).BigInnerOffset (Go.mul 32 17 ith)) (Go.mul 32 (varsOf s).ShortMinusInner k)
      = (smallFrom s ith k).toNat := by
  unfold varsOf
  rw [smallOffset_pat ith k _ _ (Nat.lt_trans (Nat.lt_of_le_of_lt (Nat.le_add_right ith 64) hi) (by decide))
    (Nat.lt_trans hk (by decide))]
  have e : (240 * (s.bigInnerCnt : Int) + 17 * (ith : Int) + ((s.shortSize : Int) - 17) * (k : Int))
      = smallFrom s ith k := by
    unfold smallFrom; simp [Slim.bigInnerSize, Slim.innerSize]
  rw [e]
  generalize smallFrom s ith k = F at h0 h1
  obtain ⟨n, rfl⟩ := Int.eq_ofNat_of_zero_le h0
  rw [ofS_natCast (by omega)]
  simp

theorem bitstrLen_sem (bs : Bytes) :
    Go.bitstrLen (natBytes bs) = if bs.isEmpty then none else some (bitstrBits bs) := by
  unfold Go.bitstrLen bitstrBits natBytes
  rw [List.getLast?_map, List.length_map]
  cases bs with
  | nil => rfl
  | cons b0 rest =>
    cases h : (b0 :: rest).getLast? with
    | none => simp at h
    | some l => simp [Go.wrap]; rfl

/-- `ips.Bytes[ithPref<<1:]` -/
theorem sliceFrom_step (bytes : Bytes) (k : Nat) (hk : 2 * k + 1 < 2 ^ 31) :
    Go.sliceFromS 32 (natBytes bytes) (Go.shl 32 k 1)
      = if k * 2 ≤ bytes.length then some ((natBytes bytes).drop (k * 2)) else none := by
  have hshl : Go.shl 32 k 1 = k * 2 := shl_small (by omega)
  rw [hshl]
  unfold Go.sliceFromS
  rw [natBytes_length]
  by_cases hle : k * 2 ≤ bytes.length
  · rw [if_pos ⟨by omega, hle⟩, if_pos hle]
  · rw [if_neg (fun h => hle h.2), if_neg hle]

/-- `decStep(ips.Bytes[ithPref<<1:])`: the argument is the rest of the byte section -/
theorem decStepW_sem (bytes : Bytes) (j : Nat) :
    W.decStep ((natBytes bytes).drop j)
      = match bytes[j]?, bytes[j + 1]? with
        | some b0, some b1 => some (4 * Slim.decStep b0 b1)
        | _, _ => none := by
  unfold W.decStep
  simp only [Option.bind_eq_bind, Option.pure_def]
  have h0 : (0 : Nat) < 2 ^ (64 - 1) := by decide
  have h1 : (1 : Nat) < 2 ^ (64 - 1) := by decide
  simp only [idxS_eq _ _ _ h0, idxS_eq _ _ _ h1, List.getElem?_drop, natBytes, List.getElem?_map,
    Nat.add_zero]
  cases hb0 : bytes[j]? with
  | none => rfl
  | some b0 =>
    cases hb1 : bytes[j + 1]? with
    | none => rfl
    | some b1 =>
      simp only [Option.map_some, Option.bind_some]
      have hx := byte_lt b0
      have hy := byte_lt b1
      unfold Slim.decStep
      generalize b0.toNat = x at hx
      generalize b1.toNat = y at hy
      apply congrArg some
      have e1 : Go.conv 8 false 32 x = x := conv_widen_u _ _ _ (by decide)
      have e2 : Go.conv 8 false 32 y = y := conv_widen_u _ _ _ (by decide)
      have e3 : Go.shl 32 x 8 = x * 256 :=
        shl_small (Nat.lt_of_lt_of_le (Nat.mul_lt_mul_of_pos_right hx (by decide)) (by decide))
      have e4 : Go.or (x * 256) y = x * 256 + y := or_mul x y 8 hy
      rw [e1, e2, e3, e4, shl_small (by omega)]
      exact Nat.mul_comm _ 4

/-- a field of `ss` bits at bit `j` of a word: the test that it does not straddle (`j <= 64 - ss`, or
    `64 - ss < j` with the branches swapped), and the two shift amounts -/
theorem straddle_arith {j ss : Nat} (hj : j < 64) (hss : ss ≤ 64) :
    Go.leS 32 j (Go.sub 32 64 ss) = decide (j + ss ≤ 64) ∧ Go.ltS 32 (Go.sub 32 64 ss) j = decide (¬ j + ss ≤ 64) ∧
      Go.conv 32 true 32 j = j ∧ Go.conv 32 true 64 (Go.sub 32 64 j) = 64 - j := by
  have h64 : 64 - ss < 2 ^ (32 - 1) := Nat.lt_of_le_of_lt (Nat.sub_le 64 ss) (by decide)
  have hj31 : j < 2 ^ (32 - 1) := Nat.lt_trans hj (by decide)
  refine ⟨?_, ?_, ?_, ?_⟩
  · rw [sub_small hss (by decide), leS_small hj31 h64]
    exact decide_eq_decide.mpr (Nat.le_sub_iff_add_le hss)
  · rw [sub_small hss (by decide), ltS_small h64 hj31]
    exact decide_eq_decide.mpr (Nat.not_le.symm.trans (not_congr (Nat.le_sub_iff_add_le hss)))
  · exact conv_narrow_small _ _ _ _ (by decide) (Nat.lt_trans hj (by decide))
  · rw [sub_small (Nat.le_of_lt hj) (by decide),
      conv_widen_small _ _ _ (by decide) (Nat.lt_of_le_of_lt (Nat.sub_le 64 j) (by decide))]

theorem shortPart_ok (s : SlimMsg) (F frm size : Nat) (short : Option Nat)
    (h : shortPart s F = .ok (frm, size, short)) : size = s.shortSize ∧ short.isSome := by
  unfold shortPart at h
  cases hinn : s.inners with
  | none => rw [hinn] at h; cases h
  | some inn =>
    rw [hinn] at h
    obtain ⟨code, _, h⟩ := Slim.bind_eq_ok h
    cases htb : s.shortTable[code]? with
    | none => rw [htb] at h; cases h
    | some bm => rw [htb] at h; cases h; exact ⟨rfl, rfl⟩

theorem innerFrom_noShortBM (s : SlimMsg) (ith : Nat) (hb : ¬ ith < s.bigInnerCnt) (hsbm : s.shortBM = none) :
    okOpt (Slim.innerFrom s ith) = none := by
  unfold Slim.innerFrom
  rw [if_neg hb, hsbm]
  rfl

theorem innerFrom_rankErr (s : SlimMsg) (ith : Nat) (sbm : BitmapMsg) (e : Err) (hb : ¬ ith < s.bigInnerCnt)
    (hsbm : s.shortBM = some sbm) (hrs : rank64 sbm ith = .error e) :
    okOpt (Slim.innerFrom s ith) = none := by
  unfold Slim.innerFrom
  simp only [hb, if_false, hsbm, hrs]
  rfl

theorem sessionOf_inner (s : SlimMsg) (nt : BitmapMsg) (id ith : Nat) (qr0 : W.querySession)
    (hnt : s.nodeTypeBM = some nt) (hrk : rank64 nt id = .ok (ith, true)) :
    sessionOf s id qr0 = innerSession s ith
      { qr0 with innerPrefixLen := 0, hasInnerPrefix := false, ithInner := ith, isInner := 1 } := by
  unfold sessionOf
  simp only [hnt, hrk]
  rfl

theorem sessionOf_leaf (s : SlimMsg) (nt : BitmapMsg) (id ith : Nat) (qr0 : W.querySession)
    (hnt : s.nodeTypeBM = some nt) (hrk : rank64 nt id = .ok (ith, false)) :
    sessionOf s id qr0 = leafSession s (id - ith)
      { qr0 with innerPrefixLen := 0, hasInnerPrefix := false, ithInner := ith, isInner := 0 } := by
  unfold sessionOf
  simp only [hnt, hrk]
  rfl

/-- `x >>= f` computed through a representation `mk` of the intermediate value -/
theorem bind_congr_map {α β γ : Type} {x : Option β} {a : Option α} {f : β → Option γ} {g : α → Option γ}
    (mk : α → β) (h1 : x = a.map mk) (h2 : ∀ p, f (mk p) = g p) : x.bind f = a.bind g := by
  subst h1
  cases a with
  | none => rfl
  | some p => exact h2 p

theorem getNode_inner_sem (s : SlimMsg) (nt : BitmapMsg) (id ith : Nat) (qr0 : W.querySession)
    (hwf : s.WF) (hid : id < 2 ^ 31) (hnt : s.nodeTypeBM = some nt)
    (hrk : rank64 nt id = .ok (ith, true)) (hfit : InnerFits s ith) :
    W.SlimTrie.getNode (absTrie s (varsOf s)) id qr0 = okOpt (sessionOf s id qr0) := by
  obtain ⟨hbig, hss, hswf, hntwf, hinnwf, hsbwf, hipswf, hlpswf, hlvwf⟩ := hwf
  have hri := (hntwf nt hnt).2.1
  have hith31 : ith < 2 ^ 31 := Nat.lt_of_le_of_lt (Nat.le_add_right ith 64) hfit.ith_lt
  obtain ⟨h1, h2, h3⟩ := bitPos_split hith31
  have hlt : Go.ltS 32 ith s.bigInnerCnt = decide (ith < s.bigInnerCnt) := ltS_small hith31 hbig
  have hle : Go.leS 32 s.bigInnerCnt ith = decide (s.bigInnerCnt ≤ ith) := leS_small hbig hith31
  rw [sessionOf_inner s nt id ith qr0 hnt hrk]
  unfold W.SlimTrie.getNode innerSession
  dsimp only [absTrie, absSlim, Go.deref, Option.bind_eq_bind, Option.pure_def, Option.bind_some]
  simp only [hnt, Option.bind_some, Option.map_some, absBitmap, rank64_sem nt id hri hid, hrk, okOpt_ok, b2n_true,
    h1, h2, hlt, hle, one_beq_zero, one_bne_zero, Bool.false_eq_true, if_false, if_true, idxS_eq _ _ _ h3,
    bitAt_lt (ith % 64) (Nat.mod_lt _ (by decide))]
  rw [okOpt_bind]
  -- the session after the first half of `getNode`: bit range and short-table entry, from `Slim.innerFrom`
  refine bind_congr_map (fun p =>
    { qr0 with innerPrefixLen := 0, hasInnerPrefix := false, ithInner := ith, isInner := 1,
               wordSize := if ith < s.bigInnerCnt then 8 else 4, from_ := p.1, to := p.1 + p.2.1,
               bm := p.2.2.getD qr0.bm }) ?_ ?_
  · by_cases hb : ith < s.bigInnerCnt
    · have hbf := hfit.big_fits hb
      have e1 := mul_small_both (w := 32) (Nat.lt_trans (Nat.lt_of_le_of_lt (Nat.le_add_right (257 * ith) 257) hbf) (by decide))
      have e2 := add_small_both (w := 32) (Nat.lt_trans hbf (by decide))
      have hb' : ¬ s.bigInnerCnt ≤ ith := Nat.not_le.mpr hb
      rw [innerFrom_big s ith hb]
      simp only [hb, hb', decide_true, decide_false, Bool.false_eq_true, if_true, if_false, e1, e2, okOpt_ok,
        Option.map_some, Option.getD_none]
    · have hb' : s.bigInnerCnt ≤ ith := Nat.le_of_not_lt hb
      simp only [hb, hb', decide_false, decide_true, Bool.false_eq_true, if_false, if_true]
      cases hsbm : s.shortBM with
      | none => rw [innerFrom_noShortBM s ith hb hsbm]; rfl
      | some sbm =>
        have hsbri := (hsbwf sbm hsbm).2.1
        simp only [Option.map_some, Option.bind_some, absBitmap, rank64_sem sbm ith hsbri hith31]
        cases hrs : rank64 sbm ith with
        | error e => rw [innerFrom_rankErr s ith sbm e hb hsbm hrs]; rfl
        | ok kc =>
          obtain ⟨k, c⟩ := kc
          obtain ⟨hf0, hf1⟩ := hfit.small_fits sbm k c hsbm hrs
          have hk32 := rank64_ok_lt sbm ith k c hsbri hrs
          have hfrom := smallFrom_pat s ith k hfit.ith_lt hk32 hf0 hf1
          rw [innerFrom_small s ith sbm k c hb hsbm hrs, if_neg (Int.not_lt.mpr hf0)]
          simp only [okOpt_ok, Option.map_some, Option.bind_some, hfrom]
          generalize hF : (smallFrom s ith k).toNat = F at *
          have hF31 : F + 17 + 64 < 2 ^ 31 := by omega
          cases c with
          | false =>
            have e3 := add_small_both (w := 32) (Nat.lt_trans (Nat.lt_of_le_of_lt (Nat.le_add_right (F + 17) 64) hF31) (by decide))
            simp only [b2n_false, Bool.false_eq_true, if_false, if_true, bne_self_eq_false, beq_self_eq_true, e3, Slim.innerSize, okOpt_ok,
              Option.map_some, Option.getD_none]
          | true =>
            simp only [b2n_true, one_bne_zero, one_beq_zero, Bool.false_eq_true, if_true, if_false, shortPart, Slim.extractShort]
            cases hinn : s.inners with
            | none => rfl
            | some inn =>
              have hFs : F + s.shortSize < 2 ^ 31 :=
                Nat.lt_of_le_of_lt (Nat.add_le_add (Nat.le_add_right F 17) hfit.shortSize_le) hF31
              obtain ⟨e4, e5, e6⟩ := bitPos_split (Nat.lt_of_le_of_lt (Nat.le_add_right F s.shortSize) hFs)
              obtain ⟨e8, _, e9⟩ := bitPos_split hFs
              have e7 : Go.add 32 F s.shortSize = F + s.shortSize := add_small (Nat.lt_trans hFs (by decide))
              obtain ⟨e10, e10', e11, e12⟩ := straddle_arith (Nat.mod_lt F (by decide : 0 < 64)) hfit.shortSize_le
              simp only [Option.map_some, Option.bind_some, absBitmap, e4, e5, e7, e8, e10, e10', e11, e12,
                idxS_eq _ _ _ e6, idxS_eq _ _ _ e9, varsOf, and_eq, Nat.and_two_pow_sub_one_eq_mod, Go.idxU, Go.shr, Go.or, Go.shl, Go.wrap,
                conv_widen_u 32 64 _ (by decide), decide_eq_true_eq]
              -- the Go side is normalised; split along the model's `extractShort` and the table lookup
              cases inn.words[F / 64]? with
              | none => rfl
              | some w =>
                by_cases hj : F % 64 + s.shortSize ≤ 64
                · simp only [hj, not_true_eq_false, if_true, if_false, Option.bind_some, bind, Except.bind, pure, Except.pure]
                  cases s.shortTable[w >>> (F % 64) % 2 ^ s.shortSize]? <;> rfl
                · simp only [hj, not_false_eq_true, if_false, if_true]
                  cases inn.words[(F + s.shortSize) / 64]? with
                  | none => rfl
                  | some w2 =>
                    simp only [Option.bind_some, bind, Except.bind, pure, Except.pure]
                    cases s.shortTable[w >>> (F % 64) ||| w2 <<< (64 - F % 64) % 2 ^ 64 % 2 ^ s.shortSize]? <;> rfl
  · intro ⟨frm, size, short⟩
    dsimp only
    unfold rawPref
    cases hips : s.innerPrefixes with
    | none => rfl
    | some ips =>
      have hipwf := hipswf ips hips
      have hec : Go.ltS 32 0 ips.eltCnt = decide (0 < ips.eltCnt) := ltS_small (by decide) hipwf.2.1
      dsimp only [Option.map_some, Option.bind_some, absVLen]
      rw [hec]
      by_cases he : ips.eltCnt = 0
      · simp only [he, Nat.lt_irrefl, decide_false, Bool.false_eq_true, if_false, Option.bind_some]
        rfl
      · have hpos : 0 < ips.eltCnt := Nat.pos_of_ne_zero he
        simp only [hpos, he, decide_true, if_true, if_false]
        cases hp : ips.presenceBM with
        | none => rfl
        | some pres =>
          dsimp only [Option.map_some, Option.bind_some, absBitmap]
          cases hw : pres.words[ith / 64]? with
          | none => rfl
          | some w =>
            simp only [Option.bind_some, and_bit_ne_zero, and_bit_ne_zero']
            cases hbit : w.testBit (ith % 64) with
            | false => rfl
            | true =>
              have hpreswf := hipwf.2.2.2.2 pres hp
              simp only [if_true, rank128_sem pres ith hpreswf.2.1 hfit.ith_lt
                (fun w n hw hn => hfit.rank_sub ips pres w n hips hp hw hn)]
              -- from here on both sides run `Rank128`, `Select32R64` and the slice: step under them (Calc.lean)
              simp only [Bool.not_true, Bool.false_eq_true, if_false, okOpt_bind, Option.bind_assoc, bind_map']
              refine Option.bind_congr fun kc hrk128 => ?_
              have hk := hfit.pref_fits ips pres kc.1 kc.2 hips hp (toOption_eq_some.mp hrk128)
              cases hpb : ips.positionBM with
              | some pos =>
                have hpl := hfit.pos_fits ips pos hips hpb
                simp only [Option.map_some, Option.isSome_some, Option.isNone_some, Bool.false_eq_true, if_true, if_false,
                  Option.bind_some, absBitmap, select32R64_sem pos kc.1 (by omega) (Nat.lt_trans hpl (by decide)), okOpt_bind, Option.bind_assoc]
                refine Option.bind_congr fun ab hsel => ?_
                obtain ⟨ha, hb'⟩ := select32R64_bounds pos kc.1 ab.1 ab.2 (toOption_eq_some.mp hsel)
                rw [sliceS_sem ips.bytes ab.1 ab.2 (Nat.lt_trans ha hpl) (Nat.lt_of_le_of_lt hb' hpl), bind_map']
                refine Option.bind_congr fun bs _ => ?_
                rw [bitstrLen_sem bs]
                cases bs <;> rfl
              | none =>
                simp only [Option.map_none, Option.isSome_none, Option.isNone_none, Bool.false_eq_true, if_false, if_true,
                  sliceFrom_step ips.bytes kc.1 hk]
                by_cases hle : kc.1 * 2 ≤ ips.bytes.length
                · simp only [hle, if_true, Option.bind_some, decStepW_sem]
                  cases hb0 : ips.bytes[kc.1 * 2]? with
                  | none => rfl
                  | some b0 =>
                    cases hb1 : ips.bytes[kc.1 * 2 + 1]? <;> rfl
                · have hb0 : ips.bytes[kc.1 * 2]? = none := List.getElem?_eq_none (Nat.le_of_lt (Nat.not_le.mp hle))
                  simp only [hle, if_false, hb0]
                  rfl

/-- `getNode(id, …)` stays inside `int32` -/
structure GetNodeFits (s : SlimMsg) (id : Nat) : Prop where
  wf : s.WF
  id_lt : id < 2 ^ 31
  rank_le : ∀ nt r b, s.nodeTypeBM = some nt → rank64 nt id = .ok (r, b) → r ≤ id
  leaf : ∀ nt r, s.nodeTypeBM = some nt → rank64 nt id = .ok (r, false) → LeafPrefixFits s (id - r)
  inner : ∀ nt r, s.nodeTypeBM = some nt → rank64 nt id = .ok (r, true) → InnerFits s r

theorem getNode_sem (s : SlimMsg) (id : Nat) (qr0 : W.querySession) (hfit : GetNodeFits s id) :
    W.SlimTrie.getNode (absTrie s (varsOf s)) id qr0 = okOpt (sessionOf s id qr0) := by
  cases hnt : s.nodeTypeBM with
  | none =>
    -- with the field `NodeTypeBM` nil both sides evaluate to a panic
    cases s
    cases hnt
    rfl
  | some nt =>
    have hri := (hfit.wf.2.2.2.1 nt hnt).2.1
    cases hrk : rank64 nt id with
    | error e =>
      -- both sides evaluate up to the call of `Rank64`, which fails
      cases s
      cases hnt
      show (Go.rank64 nt.words nt.rankIndex id).bind _ = okOpt (rank64 nt id >>= _)
      rw [rank64_sem nt id hri hfit.id_lt, hrk]
      rfl
    | ok rb =>
      obtain ⟨r, b⟩ := rb
      cases b with
      | true => exact getNode_inner_sem s nt id r qr0 hfit.wf hfit.id_lt hnt hrk (hfit.inner nt r hnt hrk)
      | false =>
        rw [sessionOf_leaf s nt id r qr0 hnt hrk,
          ← getLeafPrefixW_sem s (varsOf s) nt id r false _ hnt hri hfit.id_lt hrk (hfit.rank_le nt r false hnt hrk)
            (hfit.leaf nt r hnt hrk)]
        -- after the call of `Rank64` the Go side evaluates to the call of `getLeafPrefix` on that session
        cases s
        cases hnt
        show (Go.rank64 nt.words nt.rankIndex id).bind _ = _
        rw [rank64_sem nt id hri hfit.id_lt, hrk]
        rfl

theorem getNode_unfold (s : SlimMsg) (id : Nat) :
    Slim.getNode s id = (do
      let some nt := s.nodeTypeBM | .error (.panic "nil NodeTypeBM")
      let (ithInner, isInner) ← rank64 nt id
      if !isInner then
        let ithLeaf := id - ithInner
        return .leaf ithLeaf (← Slim.getLeafPrefix s ithLeaf)
      let (frm, size, short) ← Slim.innerFrom s ithInner
      let some inn := s.inners | .error (.panic "nil Inners")
      let labels := match short with
        | some bm => (List.range Slim.innerSize).filter (fun k => bm.testBit k)
        | none => Slim.labelsIn inn.words frm size
      let (r0, _) ← rank128 inn frm
      let some ips := s.innerPrefixes | .error (.panic "nil InnerPrefixes")
      let pref : Pref ← prefBlock ips ithInner
      return .inner { big := decide (ithInner < s.bigInnerCnt), labels := labels, firstChild := r0 + 1, pref := pref }) := by
  unfold Slim.getNode prefBlock
  rfl

theorem prefBlock_eq_rawPref (s : SlimMsg) (ips : VLenArrayMsg) (ith : Nat) (hips : s.innerPrefixes = some ips) :
    prefBlock ips ith = (rawPref s ith).map RawPref.toPref := by
  unfold prefBlock rawPref
  rw [hips]
  dsimp only
  by_cases he : ips.eltCnt = 0
  · rw [if_pos he, if_pos he]; rfl
  rw [if_neg he, if_neg he]
  cases ips.presenceBM with
  | none => rfl
  | some pres =>
    dsimp only
    cases pres.words[ith / 64]? with
    | none => rfl
    | some w =>
      dsimp only
      cases w.testBit (ith % 64) with
      | false => rfl
      | true =>
        dsimp only [bind, Except.bind]
        cases rank128 pres ith with
        | error e => rfl
        | ok kc =>
          dsimp only
          cases ips.positionBM with
          | some pos =>
            dsimp only
            cases select32R64 pos kc.1 with
            | error e => rfl
            | ok ab =>
              dsimp only
              cases Slim.sliceBytes ips.bytes ab.1 ab.2 with
              | error e => rfl
              | ok bs => cases bs <;> rfl
          | none =>
            dsimp only
            cases ips.bytes[kc.1 * 2]? with
            | none => rfl
            | some b0 => cases ips.bytes[kc.1 * 2 + 1]? <;> rfl

theorem rawPref_of_prefBlock (s : SlimMsg) (ips : VLenArrayMsg) (ith : Nat) (p : Pref)
    (hips : s.innerPrefixes = some ips) (h : prefBlock ips ith = .ok p) :
    ∃ rp, rawPref s ith = .ok rp ∧ rp.toPref = p := by
  rw [prefBlock_eq_rawPref s ips ith hips] at h
  cases hr : rawPref s ith with
  | error e => rw [hr] at h; cases h
  | ok rp => rw [hr] at h; cases h; exact ⟨rp, rfl, rfl⟩

theorem getNode_inv (s : SlimMsg) (id : Nat) (node : Node) (h : Slim.getNode s id = .ok node) :
    ∃ nt ith b, s.nodeTypeBM = some nt ∧ rank64 nt id = .ok (ith, b) ∧
      match node with
      | .leaf il lp => b = false ∧ il = id - ith ∧ Slim.getLeafPrefix s il = .ok lp
      | .inner r => b = true ∧ ∃ frm size short inn r0 c rp,
          Slim.innerFrom s ith = .ok (frm, size, short) ∧ s.inners = some inn ∧
          rank128 inn frm = .ok (r0, c) ∧ rawPref s ith = .ok rp ∧
          r = { big := decide (ith < s.bigInnerCnt), labels := nodeLabels inn.words frm size short,
                firstChild := r0 + 1, pref := rp.toPref } := by
  obtain ⟨nt, ith, b, hnt, hrk, h⟩ := (Slim.getNode_ok_iff s id node).mp h
  refine ⟨nt, ith, b, hnt, hrk, ?_⟩
  cases b with
  | false =>
    obtain ⟨lp, hlp, rfl⟩ := h
    exact ⟨rfl, rfl, hlp⟩
  | true =>
    obtain ⟨frm, size, short, inn, r0, c, ips, p, hif, hinn, hr128, hips, hpb, rfl⟩ :=
      (Slim.innerNode_ok_iff s ith node).mp h
    obtain ⟨rp, hrp, rfl⟩ := rawPref_of_prefBlock s ips ith p hips hpb
    exact ⟨rfl, frm, size, short, inn, r0, c, rp, hif, hinn, hr128, hrp, rfl⟩

/-- What a session says about the node, in the model's vocabulary — the ABSTRACTION RELATION between
    the `querySession` that `getNode` fills and the `Node` record that `Slim.getNode` decodes:

    * leaf: `isInner = 0`, `ithLeaf` is the leaf ordinal, `hasLeafPrefix` / `leafPrefix` the prefix;
    * inner node: `isInner = 1`; `[from, to)` is the bit range `Slim.innerFrom` gives for the
      `ithInner`-th inner node (`bm` caches the short-table entry of a short node); the labels are the
      set bits of that range (`nodeLabels`); `firstChild` is the rank of `from` in `Inners` plus one (the
      `Rank128` that `getLeftChildID` / `leftMost` perform on the session); `big` is `wordSize = 8`;
      the prefix is `innerPrefixLen` bits (a step) or the `bitstr` in `innerPrefix`. -/
def Decodes (s : SlimMsg) (qr : W.querySession) : Node → Prop
  | .leaf ith lp =>
    qr.isInner = 0 ∧ qr.ithLeaf = ith ∧ qr.hasLeafPrefix = lp.isSome ∧ ∀ b, lp = some b → qr.leafPrefix = natBytes b
  | .inner r =>
    qr.isInner = 1 ∧
    ∃ inn size short r0 c, s.inners = some inn ∧
      Slim.innerFrom s qr.ithInner = .ok (qr.from_, size, short) ∧ qr.to = qr.from_ + size ∧
      (∀ bm, short = some bm → qr.bm = bm) ∧
      r.big = decide (qr.ithInner < s.bigInnerCnt) ∧ qr.wordSize = (if r.big then 8 else 4) ∧
      r.labels = nodeLabels inn.words qr.from_ size short ∧
      rank128 inn qr.from_ = .ok (r0, c) ∧ r.firstChild = r0 + 1 ∧
      (match r.pref with
       | .none => qr.hasInnerPrefix = false ∧ qr.innerPrefixLen = 0
       | .step n => qr.hasInnerPrefix = false ∧ qr.innerPrefixLen = 4 * n
       | .stored ns => qr.hasInnerPrefix = true ∧
          ∃ bs, qr.innerPrefix = natBytes bs ∧ ns = Slim.bitstrNibs bs ∧ qr.innerPrefixLen = bitstrBits bs)

theorem sessionOf_decodes (s : SlimMsg) (id : Nat) (qr0 : W.querySession) (node : Node)
    (h : Slim.getNode s id = .ok node) :
    ∃ qr, sessionOf s id qr0 = .ok qr ∧ Decodes s qr node ∧ qr.key = qr0.key ∧ qr.keyBitLen = qr0.keyBitLen ∧
      ∃ nt b, s.nodeTypeBM = some nt ∧ rank64 nt id = .ok (qr.ithInner, b) ∧ qr.isInner = b2n b := by
  obtain ⟨nt, ith, b, hnt, hrk, hn⟩ := getNode_inv s id node h
  cases node with
  | leaf il lp =>
    obtain ⟨rfl, rfl, hlp⟩ := hn
    rw [sessionOf_leaf s nt id ith qr0 hnt hrk]
    unfold leafSession
    simp only [hlp, bind, Except.bind, pure, Except.pure]
    refine ⟨_, rfl, ⟨rfl, rfl, rfl, ?_⟩, rfl, rfl, nt, false, hnt, hrk, rfl⟩
    intro b hb; subst hb; rfl
  | inner r =>
    obtain ⟨rfl, frm, size, short, inn, r0, c, rp, hif, hinn, hr128, hrp, rfl⟩ := hn
    rw [sessionOf_inner s nt id ith qr0 hnt hrk]
    unfold innerSession
    simp only [hif, bind, Except.bind, hrp]
    have hbm : ∀ bm, short = some bm → short.getD qr0.bm = bm := by
      intro bm hbm; subst hbm; rfl
    have hws : (if ith < s.bigInnerCnt then 8 else 4 : Nat)
        = if decide (ith < s.bigInnerCnt) = true then 8 else 4 := by
      simp only [decide_eq_true_eq]
    -- all but the last conjunct of `Decodes` is the same for the three kinds of stored prefix
    cases rp
    all_goals refine ⟨_, rfl, ⟨rfl, inn, size, short, r0, c, hinn, hif, rfl, hbm, rfl, hws, rfl, hr128, rfl, ?_⟩,
      rfl, rfl, nt, true, hnt, hrk, rfl⟩
    · exact ⟨rfl, rfl⟩
    · exact ⟨rfl, rfl⟩
    · exact ⟨rfl, _, rfl, rfl, rfl⟩

/-- the hypothesis `h` is what the model-level theorems prove for every node of a built trie -/
theorem getNode_ok (s : SlimMsg) (id : Nat) (qr0 : W.querySession) (node : Node) (hfit : GetNodeFits s id)
    (h : Slim.getNode s id = .ok node) :
    ∃ qr, W.SlimTrie.getNode (absTrie s (varsOf s)) id qr0 = some qr ∧ Decodes s qr node ∧
      qr.key = qr0.key ∧ qr.keyBitLen = qr0.keyBitLen ∧
      ∃ nt b, s.nodeTypeBM = some nt ∧ rank64 nt id = .ok (qr.ithInner, b) ∧ qr.isInner = b2n b := by
  obtain ⟨qr, hs, hd⟩ := sessionOf_decodes s id qr0 node h
  exact ⟨qr, by rw [getNode_sem s id qr0 hfit, hs]; rfl, hd⟩

/-- `initVars` panics when `ShortSize` is not an index of the table `bitmap.Mask`, i.e. above 64 -/
theorem initVars_sem (s : SlimMsg) (v0 : Option W.slimVars) (hbig : s.bigInnerCnt < 2 ^ 31)
    (hss : s.shortSize < 2 ^ 31) :
    W.SlimTrie.initVars { inner := some (absSlim s), vars := v0 }
      = if s.shortSize ≤ 64 then some (absTrie s (varsOf s)) else none := by
  unfold W.SlimTrie.initVars Go.maskAt
  simp only [absSlim, Go.deref, Option.bind_eq_bind, Option.bind_some, Option.pure_def]
  by_cases h : s.shortSize ≤ 64
  · simp only [h, if_true, Option.bind_some, absTrie, absSlim, varsOf]
    have e1 : Go.mul 32 240 s.bigInnerCnt = Go.ofS 32 (240 * (s.bigInnerCnt : Int)) :=
      mul_natCast (by decide) (Nat.lt_trans hbig (by decide))
    have e2 : Go.sub 32 s.shortSize 17 = Go.ofS 32 ((s.shortSize : Int) - 17) :=
      sub_natCast (Nat.lt_trans hss (by decide)) (by decide)
    rw [e1, e2]
  · simp [h]

/-! non-vacuity: `exSlim` (Extern.lean), node 1 (inner, stored prefix "b" + half-byte 6) and node 6
    (the leaf of "bcd" with leaf prefix "cd") -/

example : W.SlimTrie.getNode (absTrie exSlim (varsOf exSlim)) 1 exQr
    = some { exQr with wordSize := 4, from_ := 17, to := 34, isInner := 1, ithInner := 1, hasInnerPrefix := true,
                       innerPrefixLen := 12, innerPrefix := [98, 96, 240] } := by decide +kernel
example : W.SlimTrie.getNode (absTrie exSlim (varsOf exSlim)) 6 exQr
    = some { exQr with ithInner := 3, ithLeaf := 3, hasLeafPrefix := true, leafPrefix := [99, 100] } := by decide +kernel
example : W.SlimTrie.getNode (absTrie exSlim (varsOf exSlim)) 64 exQr = none := by decide
example : (Slim.getNode exSlim 1).toOption
    = some (.inner { big := false, labels := [4, 5], firstChild := 3, pref := .stored [6, 2, 6] }) := by decide +kernel

example : W.SlimTrie.initVars { inner := some (absSlim exSlim), vars := none } = some (absTrie exSlim (varsOf exSlim)) := by
  decide +kernel

theorem exSlim_innerFits (ith : Nat) (h : ith < 3) : InnerFits exSlim ith := by
  have : ith = 0 ∨ ith = 1 ∨ ith = 2 := by omega
  rcases this with rfl | rfl | rfl
  all_goals exact {
    ith_lt := by decide
    shortSize_le := by decide
    big_fits := by intro h; cases h
    small_fits := by intro sbm k c h1 h2; cases h1; cases h2; decide
    rank_sub := by intro ips pres w n h1 h2 h3 h4; cases h1; cases h2; cases h3; cases h4; decide
    pref_fits := by intro ips pres k c h1 h2 h3; cases h1; cases h2; cases h3; decide
    pos_fits := by intro ips pos h1 h2; cases h1; cases h2; decide }

example : GetNodeFits exSlim 1 where
  wf := exSlim_wf
  id_lt := by decide
  rank_le := by intro nt r b hnt hrk; cases hnt; cases hrk; decide
  leaf := by intro nt r hnt hrk; cases hnt; cases hrk
  inner := by intro nt r hnt hrk; cases hnt; cases hrk; exact exSlim_innerFits 1 (by decide)

end BridgeSem

#print axioms BridgeSem.initVars_sem
#print axioms BridgeSem.getLeafIndexW_sem
#print axioms BridgeSem.getLeafPrefixW_sem
#print axioms BridgeSem.getNode_inner_sem
#print axioms BridgeSem.getNode_sem
#print axioms BridgeSem.sessionOf_decodes
#print axioms BridgeSem.getNode_ok
