import Generated.Funcs
import SlimProps.BridgeSem.Common
import SlimModel.Query
import SlimModel.Slim
import SlimProofs.Order
import SlimProofs.Refine.Prefix
/-
  SlimProps.BridgeSem.StrCmp — tie 1, semantic part: trie/strcmp.go.  `cmpStrBytes(a, b)` (a not longer than b)
  is the lexicographic comparison `lexCmp` of the byte strings, as -1 / 0 / 1; `strCmpUpto(key[i>>3:], prefix)`
  with `prefix = bitstr.New` of the stored half-bytes `p` (`Slim.bitstrOf p`: payload bytes ‖ mask byte
  0xff / 0xf0) is the model's `cmpUpto (nibs a) p` (SlimModel/Query.lean): the comparison of the key's half-bytes
  with the stored inner prefix, up to its length.  Between them stands `strCmpUpto_bytes`, on any payload and mask.

  The loop of `cmpStrBytes` returns from inside the loop: its generated definition yields
  `state × Option result`.  No external calls.  Lengths fit an `int` (explicit hypotheses).
-/

set_option linter.unusedSimpArgs false

open Generated

namespace BridgeSem

/-- a Go `int` comparison result (-1, 0, 1) as a bit pattern / as an integer -/
def ordPat : Ordering → Nat
  | .lt => 18446744073709551615
  | .eq => 0
  | .gt => 1

def ordInt : Ordering → Int
  | .lt => -1
  | .eq => 0
  | .gt => 1

theorem toS_ordPat (o : Ordering) : Go.toS 64 (ordPat o) = ordInt o := by
  cases o <;> decide

theorem ordPat_eq_zero (o : Ordering) : ordPat o = 0 ↔ o = .eq := by
  cases o <;> simp [ordPat]

/-- the loop of `cmpStrBytes` from position `i` on, followed by the length test after it: the order of the
    tails not yet compared -/
theorem cmpLoop_spec (a b : List Nat) (hab : a.length ≤ b.length) (hlb : b.length < 2 ^ 63) :
    ∀ fuel i, i ≤ a.length → a.length ≤ i + fuel →
      (Generated.cmpStrBytes_loop1 a b fuel i).2.getD (if a.length < b.length then ordPat .lt else 0)
        = ordPat (lexCmp (a.drop i) (b.drop i)) := by
  have hla : a.length < 2 ^ 63 := Nat.lt_of_le_of_lt hab hlb
  have hend : (if a.length < b.length then ordPat .lt else 0)
      = ordPat (lexCmp (a.drop a.length) (b.drop a.length)) := by
    rw [List.drop_length]
    by_cases hl : a.length < b.length
    · rw [if_pos hl, List.drop_eq_getElem_cons hl]; rfl
    · rw [if_neg hl, List.drop_of_length_le (Nat.not_lt.mp hl)]; rfl
  intro fuel
  induction fuel with
  | zero =>
    intro i h1 h2
    cases Nat.le_antisymm h1 h2
    exact hend
  | succ fuel ih =>
    intro i h1 h2
    rw [Generated.cmpStrBytes_loop1, ltS_small (Nat.lt_of_le_of_lt h1 hla) hla]
    by_cases hlt : i < a.length
    · have hltb : i < b.length := Nat.lt_of_lt_of_le hlt hab
      rw [List.drop_eq_getElem_cons hlt, List.drop_eq_getElem_cons hltb, lexCmp]
      have hga : a.getD i 0 = a[i] := by rw [List.getD_eq_getElem?_getD, List.getElem?_eq_getElem hlt]; rfl
      have hgb : b.getD i 0 = b[i] := by rw [List.getD_eq_getElem?_getD, List.getElem?_eq_getElem hltb]; rfl
      simp only [hlt, decide_true, if_true, Go.ltU, hga, hgb]
      -- decided along `lexCmp`: whichever of `<`, `>`, `!=`, `==` the Go loop tests, and in whatever order
      rcases Nat.lt_trichotomy a[i] b[i] with hx | hx | hx
      · simp only [hx, Nat.lt_asymm hx, Nat.ne_of_lt hx, bne_iff_ne, beq_iff_eq, ne_eq, not_false_eq_true, decide_true,
          decide_false, Bool.false_eq_true, if_true, if_false]; rfl
      · simp only [hx, Nat.lt_irrefl, bne_self_eq_false, beq_self_eq_true, decide_false, Bool.false_eq_true, if_true,
          if_false]
        rw [add_small (Nat.lt_trans (Nat.lt_of_le_of_lt hlt hla) (by decide))]
        exact ih (i + 1) hlt (Nat.succ_add_eq_add_succ i fuel ▸ h2)
      · simp only [hx, Nat.lt_asymm hx, Nat.ne_of_gt hx, bne_iff_ne, beq_iff_eq, ne_eq, not_false_eq_true, decide_true,
          decide_false, Bool.false_eq_true, if_true, if_false]; rfl
    · cases Nat.le_antisymm h1 (Nat.not_lt.mp hlt)
      simp only [Nat.lt_irrefl, decide_false, Bool.false_eq_true, if_false]
      exact hend

theorem cmpStrBytes_pat_sem (a b : List Nat) (h : a.length ≤ b.length) (hlb : b.length < 2 ^ 63) :
    Generated.cmpStrBytes_pat a b = ordPat (lexCmp a b) := by
  have hl := cmpLoop_spec a b h hlb a.length 0 (Nat.zero_le _) (Nat.le_of_eq (Nat.zero_add _).symm)
  rw [List.drop_zero, List.drop_zero] at hl
  unfold Generated.cmpStrBytes_pat
  simp only
  rw [← hl, ltS_small (Nat.lt_of_le_of_lt h hlb) hlb]
  cases (Generated.cmpStrBytes_loop1 a b a.length 0).2 with
  | some r => rfl
  | none => by_cases hl : a.length < b.length <;> simp [hl, ordPat]

theorem cmpStrBytes_sem (a b : List Nat) (h : a.length ≤ b.length) (hlb : b.length < 2 ^ 63) :
    Generated.cmpStrBytes a b = ordInt (lexCmp a b) := by
  unfold Generated.cmpStrBytes
  simp only
  rw [cmpStrBytes_pat_sem a b h hlb, toS_ordPat]

theorem then_eq_right (o : Ordering) : o.then .eq = o := by cases o <;> rfl

theorem and_240 : ∀ x, x < 256 → x &&& 240 = x / 16 * 16 := by decide +kernel

theorem map_getD (a : Bytes) (i : Nat) (h : i < a.length) : (a.map UInt8.toNat).getD i 0 = a[i].toNat := by
  rw [List.getD_eq_getElem?_getD, List.getElem?_map, List.getElem?_eq_getElem h]; rfl

/-- `strCmpUpto` on plain byte lists, `b` being a payload `B` of `k + 1` bytes followed by a mask byte: a
    key shorter than the payload is compared with it as it is; otherwise all but the last payload byte
    are compared, then the masked key byte with the last payload byte. -/
theorem strCmpUpto_bytes (A B : List Nat) (mask k : Nat) (hB : B.length = k + 1) (hlA : A.length < 2 ^ 62)
    (hlB : k + 1 < 2 ^ 62) :
    Generated.strCmpUpto A (B ++ [mask])
      = ordInt (if A.length < k + 1 then lexCmp A B
          else (lexCmp (A.take k) (B.take k)).then (lexCmp [Go.and (A.getD k 0) mask] [B.getD k 0])) := by
  have hk63 : k + 1 < 2 ^ 63 := Nat.lt_trans hlB (by decide)
  have h64 : k + 1 + 1 < 2 ^ 64 := Nat.lt_trans (Nat.succ_lt_succ hlB) (by decide)
  have e1 : Go.sub 64 (k + 1 + 1) 1 = k + 1 := sub_small (Nat.le_add_left 1 _) h64
  have e2 : Go.sub 64 (k + 1 + 1) 2 = k := sub_small (Nat.le_add_left 2 k) h64
  have e3 : Go.sub 64 (k + 1) 1 = k := sub_small (Nat.le_add_left 1 k) (Nat.lt_of_succ_lt h64)
  have hne : ((k + 1 + 1 == 1) = true) = False := by simp
  unfold Generated.strCmpUpto
  simp only [List.length_append, List.length_cons, List.length_nil, hB, Nat.zero_add, e1, e2, e3, hne, if_false]
  rw [ltS_small (Nat.lt_trans hlA (by decide)) hk63]
  by_cases hlt : A.length < k + 1
  · simp only [hlt, decide_true, if_true]
    rw [List.take_left' hB, cmpStrBytes_pat_sem _ _ (hB ▸ Nat.le_of_lt hlt) (hB ▸ hk63), toS_ordPat]
  · simp only [hlt, decide_false, Bool.false_eq_true, if_false]
    have hgB1 : (B ++ [mask]).getD (k + 1) 0 = mask := by
      rw [List.getD_eq_getElem?_getD, List.getElem?_append_right (Nat.le_of_eq hB), hB]; simp
    have hgB2 : (B ++ [mask]).getD k 0 = B.getD k 0 := by
      rw [List.getD_eq_getElem?_getD, List.getElem?_append_left (hB ▸ Nat.lt_succ_self k),
        ← List.getD_eq_getElem?_getD]
    have hcomm : ∀ x, Go.and mask x = Go.and x mask := fun x => Nat.and_comm mask x
    rw [List.take_append_of_le_length (hB ▸ Nat.le_succ k), hgB1, hgB2,
      cmpStrBytes_pat_sem _ _
        (Nat.le_trans (List.length_take_le k A) (Nat.le_of_eq (List.length_take_of_le (hB ▸ Nat.le_succ k)).symm))
        (Nat.lt_of_le_of_lt (List.length_take_le k B) (Nat.lt_of_succ_lt hk63))]
    try simp only [hcomm]
    -- `rst != 0` exactly when the first comparison decides
    cases lexCmp (A.take k) (B.take k) with
    | lt => rfl
    | gt => rfl
    | eq =>
      simp only [ordPat, bne_self_eq_false, Bool.false_eq_true, if_false, Ordering.then]
      -- the comparison of the masked key byte `z` with the last payload byte `y`, whatever the order of the tests
      generalize Go.and (A.getD k 0) mask = z
      generalize B.getD k 0 = y
      simp only [lexCmp, Go.ltU]
      by_cases h1 : z < y
      · have h2 : ¬ y < z := Nat.lt_asymm h1
        simp only [h1, h2, decide_true, decide_false, Bool.false_eq_true, if_true, if_false]; decide
      · by_cases h2 : y < z
        · simp only [h1, h2, decide_true, decide_false, Bool.false_eq_true, if_true, if_false]; decide
        · simp only [h1, h2, decide_false, Bool.false_eq_true, if_false]; decide

/-- `n` half-bytes stored in `k + 1` payload bytes -/
theorem payload_arith {n k : Nat} (h : k + 1 = (n + 1) / 2) :
    k + 1 ≤ n ∧ 2 * k < n ∧ (n % 2 = 0 → n = 2 * (k + 1)) ∧ (¬ n % 2 = 0 → n = 2 * k + 1) := by
  omega

theorem strCmpUpto_sem (a : Bytes) (p : List Nat) (hp : ∀ x ∈ p, x < 16)
    (hla : a.length < 2 ^ 62) (hlp : p.length < 2 ^ 62) :
    Generated.strCmpUpto (a.map UInt8.toNat) ((Slim.bitstrOf p).map UInt8.toNat)
      = ordInt (cmpUpto (nibs a) p) := by
  have hmlen := Refine.unnibs_length p
  have hnib := nibs_unnibs p hp
  generalize hmask : (if p.length % 2 = 0 then 255 else 240 : Nat) = mask
  have hB : (Slim.bitstrOf p).map UInt8.toNat = (unnibs p).map UInt8.toNat ++ [mask] := by
    unfold Slim.bitstrOf
    rw [List.map_append, List.map_cons, List.map_nil, ← hmask]
    congr 2
    split <;> rfl
  generalize hP : unnibs p = P at hmlen hnib hB
  have hnl := nibs_length a
  rw [hB]
  unfold cmpUpto
  cases hm : P.length with
  | zero =>
    have hp0 : p = [] := List.eq_nil_of_length_eq_zero (by omega)
    have hP0 : P = [] := List.eq_nil_of_length_eq_zero hm
    subst hp0 hP0
    rfl
  | succ k =>
    rw [hm] at hmlen
    obtain ⟨hkp, h2k, hpev, hpodd⟩ := payload_arith hmlen
    rw [strCmpUpto_bytes _ _ mask k (by rw [List.length_map, hm]) (by rw [List.length_map]; exact hla)
      (Nat.lt_of_le_of_lt hkp hlp)]
    simp only [List.length_map]
    congr 1
    by_cases hlt : a.length < k + 1
    · -- the key ends inside the prefix
      have hap : (nibs a).length < p.length :=
        hnl ▸ Nat.lt_of_le_of_lt (Nat.mul_le_mul_left 2 (Nat.le_of_lt_succ hlt)) h2k
      rw [if_pos hlt, ← lexCmp_nibs, hnib, lexCmp_append_right_of_lt _ _ _ hap,
        List.take_of_length_le (Nat.le_of_lt hap)]
    · -- all but the last byte of the prefix, then the masked last byte
      rw [if_neg hlt]
      have hka : k < a.length := Nat.lt_of_succ_le (Nat.not_lt.mp hlt)
      have hkP : k < P.length := hm ▸ Nat.lt_succ_self k
      rw [map_getD a _ hka, map_getD P _ hkP, ← List.map_take, ← List.map_take]
      have hx := byte_lt a[k]
      generalize hxdef : a[k].toNat = x at hx
      have hy : Go.and x mask < 256 := Nat.lt_of_le_of_lt Nat.and_le_left hx
      have hPsplit : P = P.take k ++ [P[k]] := by
        rw [← List.take_succ_eq_append_getElem hkP, List.take_of_length_le (Nat.le_of_eq hm)]
      let am : Bytes := a.take k ++ [UInt8.ofNat (Go.and x mask)]
      have hamn : am.map UInt8.toNat = (a.take k).map UInt8.toNat ++ [Go.and x mask] := by
        simp only [am, List.map_append, List.map_cons, List.map_nil, UInt8.toNat_ofNat']
        rw [Nat.mod_eq_of_lt hy]
      have hcomp : lexCmp (am.map UInt8.toNat) (P.map UInt8.toNat)
          = (lexCmp ((a.take k).map UInt8.toNat) ((P.take k).map UInt8.toNat)).then
              (lexCmp [Go.and x mask] [P[k].toNat]) := by
        rw [hamn]
        conv => lhs; rhs; rw [hPsplit]
        rw [List.map_append, List.map_cons, List.map_nil,
          lexCmp_append _ _ _ _ (by
            rw [List.length_map, List.length_map, List.length_take, List.length_take,
              Nat.min_eq_left (Nat.le_of_lt hka), Nat.min_eq_left (Nat.le_of_lt hkP)])]
      -- the Go result is the byte-level comparison with the masked key
      rw [← hcomp, ← lexCmp_nibs, hnib]
      -- half-bytes of the masked key vs. the key's half-bytes up to the prefix length
      have hnam : nibs am = nibs (a.take k) ++ [Go.and x mask / 16, Go.and x mask % 16] := by
        simp only [am, nibs_append, nibs, UInt8.toNat_ofNat']
        rw [Nat.mod_eq_of_lt hy]
      have hnam' : nibs (a.take (k + 1)) = nibs (a.take k) ++ [x / 16, x % 16] := by
        rw [List.take_succ_eq_append_getElem hka, nibs_append]
        simp only [nibs, hxdef]
      rw [hnam]
      by_cases hev : p.length % 2 = 0
      · have hmk : mask = 255 := by rw [← hmask, if_pos hev]
        have hand : Go.and x mask = x := by
          rw [hmk]; exact Nat.and_two_pow_sub_one_of_lt_two_pow (n := 8) hx
        have hpl := hpev hev
        rw [hand, ← hnam', if_pos hev, List.append_nil, hpl, ← nibs_take]
      · -- odd: mask 0xf0, the padding half-byte is zero on both sides
        have hmk : mask = 240 := by rw [← hmask, if_neg hev]
        have hand : Go.and x mask = x / 16 * 16 := by show x &&& mask = _; rw [hmk, and_240 x hx]
        have hpl := hpodd hev
        have hl : (nibs (a.take k)).length = 2 * k := by
          rw [nibs_length, List.length_take, Nat.min_eq_left (Nat.le_of_lt hka)]
        have htk : (nibs a).take p.length = nibs (a.take k) ++ [x / 16] := by
          have hsplit : nibs a = nibs (a.take k) ++ (x / 16 :: x % 16 :: nibs (a.drop (k + 1))) := by
            conv => lhs; rw [← List.take_append_drop k a, nibs_append, List.drop_eq_getElem_cons hka]
            simp only [nibs, hxdef]
          rw [hsplit, hpl, ← hl, List.take_length_add_append]
          rfl
        rw [hand, if_neg hev, htk, Nat.mul_div_cancel _ (by decide), Nat.mul_mod_left]
        have : nibs (a.take k) ++ [x / 16, 0] = (nibs (a.take k) ++ [x / 16]) ++ [0] := by simp
        rw [this, lexCmp_append _ _ _ _ (by rw [List.length_append, hl, hpl]; rfl)]
        simp [lexCmp]
example : ((Slim.bitstrOf [1, 2, 3]).map UInt8.toNat) = [0x12, 0x30, 0xf0] := by decide
example : Generated.strCmpUpto [0x12, 0x3f] [0x12, 0x30, 0xf0] = 0 := by decide
example : cmpUpto (nibs [0x12, 0x3f]) [1, 2, 3] = .eq := by decide
example : Generated.strCmpUpto [0x12, 0x2f] [0x12, 0x30, 0xf0] = -1 := by decide
example : Generated.cmpStrBytes [1, 2] [1, 3] = -1 := by decide

end BridgeSem

#print axioms BridgeSem.cmpStrBytes_sem
#print axioms BridgeSem.strCmpUpto_sem
