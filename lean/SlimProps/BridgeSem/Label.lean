import Generated.Funcs
import SlimProps.BridgeSem.Common
import SlimProps.BridgeSem.Calc
import SlimModel.Query
/-
  SlimProps.BridgeSem.Label — tie 1, semantic part: `getLabelIdxOfKey` (trie/slimtrie_query.go).
-/

set_option linter.unusedSimpArgs false

open Generated

namespace BridgeSem

/-- `w` is `qr.wordSize`, in bits: 4, or 8 for a big node, which reads the whole byte that contains
    half-byte `i` -/
theorem getLabelIdxOfKey_sem (key : Bytes) (i w : Nat) (hw : w = 4 ∨ w = 8)
    (hlen : 8 * key.length < 2 ^ 31) (hi : 4 * i < 2 ^ 31) :
    Generated.getLabelIdxOfKey (4 * i) (key.map UInt8.toNat) (8 * key.length) w
      = ((labelIdxOfKey (nibs key) i (w == 8) : Nat) : Int) := by
  have hb := getD_map_lt_w key (i / 2)
  obtain ⟨hshift, -, hlt⟩ := keyBit_pos i key.length hlen hi
  unfold Generated.getLabelIdxOfKey
  rw [labelIdxOfKey_nibs]
  simp only [hshift, hlt, high_half_test i, half_shift i]
  generalize (key.map UInt8.toNat).getD (i / 2) 0 = x at hb ⊢
  by_cases hin : i < 2 * key.length
  · simp only [hin, decide_true, if_true]
    rcases hw with rfl | rfl
    · have h48 : ((4 : Nat) == 8) = false := by decide
      simp only [h48, Bool.false_eq_true, if_false]
      by_cases hp : i % 2 = 0
      · simp only [hp, decide_true, if_true, high_half hb, label_of_byte (halves_lt hb).1]
      · simp only [hp, decide_false, Bool.false_eq_true, if_false, and_eq, and_15, shr_eq, Nat.pow_zero, Nat.div_one,
          label_of_byte (halves_lt hb).2]
    · simp only [beq_self_eq_true, if_true, label_of_byte hb]
  · simp only [hin, decide_false, Bool.false_eq_true, if_false]
    rfl

end BridgeSem

#print axioms BridgeSem.getLabelIdxOfKey_sem
