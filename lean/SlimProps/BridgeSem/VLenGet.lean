import Generated.Funcs
import SlimProps.BridgeSem.Common
import SlimProps.BridgeSem.Extern
import SlimProps.BridgeSem.Calc
import SlimModel.Slim

/-
  SlimProps.BridgeSem.VLenGet — tie 1, semantic part: `(*VLenArray).get` (trie/slimtrie_vlen_array.go)
  translated WHOLE (`Generated.W.VLenArray.get`: the bound check and its `panic`, the presence test
  and the early `return []byte{}`, the rank, the nil test of `PositionBM`, both slice expressions,
  the call of the external `bitmap.Select32R64`; every index / slice / nil panic is `none`)
  = the model's `Slim.vlenGet` (SlimModel/Slim.lean), INCLUDING when it panics.
  External semantics assumed: `bitmap.Select32R64`, `bitmap.Bit`, `bitmap.Mask`, `bits.OnesCount64`
  (GoSem.lean; `select32R64_sem`, Extern.lean).
-/

set_option linter.unusedSimpArgs false
set_option linter.unusedVariables false

open Generated Bits

namespace BridgeSem

/-- `get` stays inside `int32`: the ordinal of the element among the present ones is representable
    and, for a fixed-size array, so is the end of its byte range (`ithElt*FixedSize + FixedSize`). -/
def VLenGetFits (va : VLenArrayMsg) (index : Nat) : Prop :=
  ∀ pres w r, va.presenceBM = some pres → pres.words[index / 64]? = some w →
    pres.rankIndex[index / 64]? = some r →
    r + popcount (w % 2 ^ (index % 64)) < 2 ^ 31 ∧
    (va.positionBM = none → (r + popcount (w % 2 ^ (index % 64))) * va.fixedSize + va.fixedSize < 2 ^ 31)

theorem VLenArray_get_sem (va : VLenArrayMsg) (index : Nat) (hwf : va.WF) (hi : index < 2 ^ 31)
    (hfit : VLenGetFits va index)
    (hpos : ∀ pos, va.positionBM = some pos → pos.words.length * 64 < 2 ^ 31) :
    W.VLenArray.get (absVLen va) index = (okOpt (Slim.vlenGet va index)).map natBytes := by
  obtain ⟨hn, _, hfs, hposwf, hpreswf⟩ := hwf
  -- the comparisons and index computations of the Go code, in both polarities / operand orders
  have hcmp1 : Go.leS 32 va.n index = decide (va.n ≤ index) := leS_small hn hi
  have hcmp2 : Go.ltS 32 index va.n = decide (index < va.n) := ltS_small hi hn
  obtain ⟨h1, h2, h3⟩ := bitPos_split hi
  have h1' : Go.divS 32 index 64 = index / 64 := divS_small hi (by decide) (by decide)
  have h2' : Go.and 63 index = index % 64 := and_63' index
  have h2'' : Go.modS 32 index 64 = index % 64 := modS_small hi (by decide) (by decide) (by decide)
  have hj : index % 64 < 64 := Nat.mod_lt _ (by decide)
  unfold W.VLenArray.get Slim.vlenGet
  simp only [absVLen, Go.deref, Go.panic, Option.bind_eq_bind, Option.pure_def, hcmp1, hcmp2, h1, h1', h2, h2',
    h2'', idxS_eq _ _ _ h3, bitAt_lt (index % 64) hj, maskAt_le (index % 64) (Nat.le_of_lt hj)]
  by_cases hge : va.n ≤ index
  · have hlt : ¬ index < va.n := Nat.not_lt.mpr hge
    simp only [hge, hlt, decide_true, decide_false, Bool.false_eq_true, if_true, if_false]
    rfl
  have hlt : index < va.n := Nat.lt_of_not_le hge
  have hge' : ¬ index ≥ va.n := hge
  simp only [hge, hge', hlt, decide_false, decide_true, Bool.not_true, Bool.false_eq_true, if_false, if_true]
  cases hp : va.presenceBM with
  | none => rfl
  | some pres =>
    simp only [Option.map_some, Option.bind_some, absBitmap]
    cases hw : pres.words[index / 64]? with
    | none => rfl
    | some w =>
      simp only [Option.bind_some, and_bit_eq_zero, and_bit_ne_zero, and_bit_eq_zero', and_bit_ne_zero']
      cases hb : w.testBit (index % 64) with
      | false => rfl
      | true =>
        simp only [Bool.not_true, Bool.false_eq_true, if_false, if_true, Bool.not_false]
        cases hr : pres.rankIndex[index / 64]? with
        | none => rfl
        | some r =>
          obtain ⟨hf1, hf2⟩ := hfit pres w r hp hw hr
          simp only [Option.bind_some, mask64_and, mask64_and', conv_popcount]
          generalize popcount (w % 2 ^ (index % 64)) = c at hf1 hf2
          have hadd := add_small_both (w := 32) (Nat.lt_trans hf1 (by decide))
          simp only [hadd]
          cases hps : va.positionBM with
          | none =>
            have hf := hf2 hps
            have hm : (r + c) * va.fixedSize < 2 ^ 31 := Nat.lt_of_le_of_lt (Nat.le_add_right _ _) hf
            have hmul := mul_small_both (w := 32) (Nat.lt_trans hm (by decide))
            have hadd2 := add_small_both (w := 32) (Nat.lt_trans hf (by decide))
            -- `positions == nil` or `positions != nil` with the branches swapped
            simp only [Option.map_none, Option.isNone_none, Option.isSome_none, Bool.false_eq_true, if_true, if_false,
              hmul, hadd2, sliceS_sem _ _ _ hm hf]
          | some pos =>
            have hl := hpos pos hps
            simp only [Option.map_some, Option.isNone_some, Option.isSome_some, Bool.false_eq_true, if_false, if_true,
              Option.bind_some, absBitmap, Bool.not_true, Bool.not_false,
              select32R64_sem pos (r + c) hf1 (Nat.lt_trans hl (by decide)), okOpt_bind, map_bind']
            -- both sides run `Select32R64` and then the slice: step under it (Calc.lean)
            refine Option.bind_congr fun ab hsel => ?_
            obtain ⟨ha, hb'⟩ := select32R64_bounds pos (r + c) ab.1 ab.2 (toOption_eq_some.mp hsel)
            exact sliceS_sem va.bytes ab.1 ab.2 (Nat.lt_trans ha hl) (Nat.lt_of_le_of_lt hb' hl)

/-! non-vacuity: the array of `[[1,2],[],[3]]` (var-length) and of `[[7],[],[9]]` (fixed size) -/

def exVar : VLenArrayMsg :=
  { n := 3, eltCnt := 2, presenceBM := some { words := [0b101], rankIndex := [0] },
    positionBM := some { words := [0b1101], rankIndex := [0, 3], selectIndex := [0] }, bytes := [1, 2, 3] }

def exFixed : VLenArrayMsg :=
  { n := 3, eltCnt := 2, presenceBM := some { words := [0b101], rankIndex := [0] }, fixedSize := 1, bytes := [7, 9] }

example : W.VLenArray.get (absVLen exVar) 2 = some [3] := by decide +kernel
example : W.VLenArray.get (absVLen exVar) 1 = some [] := by decide
example : W.VLenArray.get (absVLen exVar) 3 = none := by decide
example : W.VLenArray.get (absVLen exFixed) 2 = some [9] := by decide +kernel
example : (okOpt (Slim.vlenGet exVar 2)).map natBytes = some [3] := by decide +kernel
example : exVar.WF := by
  refine ⟨by decide, by decide, by decide, ?_, ?_⟩ <;>
  · intro b hb; cases hb; refine ⟨?_, ?_, ?_⟩ <;> decide
example : VLenGetFits exVar 2 := by
  intro pres w r hp hw hr
  cases hp; cases hw; cases hr
  exact ⟨by decide, by intro h; cases h⟩

end BridgeSem

#print axioms BridgeSem.VLenArray_get_sem
