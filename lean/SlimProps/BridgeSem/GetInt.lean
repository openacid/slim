import Generated.Funcs
import SlimProps.BridgeSem.Common
import SlimModel.Slim
/-
  SlimProps.BridgeSem.GetInt — tie 1, semantic part: `GetI8/16/32/64` (trie/slimtrie_getint.go): the value
  `intW(b[0] | b[1]<<8 | …)` is the model's `Slim.leSigned` of the leaf bytes, and the slice start `ith << k` is the
  leaf ordinal times the width.  One fact stands behind every width (`toS_eq_leSigned`); `bytes_simp` brings the Go
  expression and `leVal` to the same `|||` of shifted bytes.
-/

open Generated

namespace BridgeSem

/-- a `w`-bit pattern read as a signed value is `leSigned` of the bytes it is made of -/
theorem toS_eq_leSigned (bs : Bytes) (w p : Nat) (hw : w = 8 * bs.length) (hp : p = leVal bs) :
    Go.toS w p = Slim.leSigned bs := by
  subst hw hp
  rfl

theorem or_shl (a b k : Nat) (h : a < 2 ^ k) : a ||| b <<< k = a + 2 ^ k * b := by
  rw [Nat.or_comm, ← Nat.shiftLeft_add_eq_or_of_lt h, Nat.shiftLeft_eq]
  rw [Nat.mul_comm, Nat.add_comm]

theorem leVal1 (b0 : UInt8) : leVal [b0] = b0.toNat := by simp [leVal]

/-- one more byte below: the bytes above move up by 8 bits and do not overlap it -/
theorem leVal_cons_or (b : UInt8) (bs : Bytes) : leVal (b :: bs) = b.toNat ||| leVal bs <<< 8 := by
  rw [or_shl _ _ _ (byte_lt b)]; rfl

theorem shl_byte (w k : Nat) (b : UInt8) (hk : k + 8 ≤ w) :
    Go.shl w b.toNat k = b.toNat <<< k := by
  unfold Go.shl Go.wrap
  apply Nat.mod_eq_of_lt
  rw [Nat.shiftLeft_eq]
  have := byte_lt b
  calc b.toNat * 2 ^ k < 2 ^ 8 * 2 ^ k := Nat.mul_lt_mul_of_pos_right (by omega) (Nat.two_pow_pos k)
    _ = 2 ^ (k + 8) := by rw [← Nat.pow_add, Nat.add_comm]
    _ ≤ 2 ^ w := Nat.pow_le_pow_right (by omega) hk

/-- `b[0] | b[1]<<8 | …` as Go writes it against `leVal [b0, b1, …]`: conversions of bytes, list accesses and
    in-range shifts are unfolded on the left, `leVal_cons_or` is used at every byte on the right, the shifts are
    distributed over the `|` and added up; both sides become the same `|||` of shifted bytes -/
syntax "bytes_simp" : tactic
macro_rules
  | `(tactic| bytes_simp) => `(tactic|
      simp (disch := decide) only [Go.conv, Go.or, shl_byte, Go.wrap,
        List.getD_cons_zero, List.getD_cons_succ,
        Bool.false_and, Bool.false_eq_true, if_false, Nat.reduceLeDiff, Nat.reducePow,
        leVal_cons_or, show leVal [] = 0 from rfl, Nat.zero_shiftLeft, Nat.or_zero, Nat.shiftLeft_zero,
        Nat.shiftLeft_or_distrib, ← Nat.shiftLeft_add, Nat.reduceAdd, Nat.or_assoc])

theorem getI8_sem (bytes : Bytes) (ith : Nat) (h : ith < bytes.length) :
    Generated.getI8 (bytes.map UInt8.toNat) ith = Slim.leSigned [bytes[ith]] := by
  unfold Generated.getI8
  refine toS_eq_leSigned [bytes[ith]] _ _ (by rfl) ?_
  rw [leVal1, List.getD_eq_getElem?_getD, List.getElem?_map, List.getElem?_eq_getElem h]
  have := byte_lt bytes[ith]
  simp only [Go.conv, Go.wrap, Option.map_some, Option.getD_some, Nat.le_refl, if_true]
  omega

theorem getI16_sem (b0 b1 : UInt8) :
    Generated.getI16 [b0.toNat, b1.toNat] = Slim.leSigned [b0, b1] := by
  unfold Generated.getI16
  refine toS_eq_leSigned [b0, b1] _ _ (by rfl) ?_
  bytes_simp

theorem getI32_sem (b0 b1 b2 b3 : UInt8) :
    Generated.getI32 [b0.toNat, b1.toNat, b2.toNat, b3.toNat] = Slim.leSigned [b0, b1, b2, b3] := by
  unfold Generated.getI32
  refine toS_eq_leSigned [b0, b1, b2, b3] _ _ (by rfl) ?_
  bytes_simp

theorem getI64_sem (b0 b1 b2 b3 b4 b5 b6 b7 : UInt8) :
    Generated.getI64 [b0.toNat, b1.toNat, b2.toNat, b3.toNat, b4.toNat, b5.toNat, b6.toNat, b7.toNat]
      = Slim.leSigned [b0, b1, b2, b3, b4, b5, b6, b7] := by
  unfold Generated.getI64
  refine toS_eq_leSigned [b0, b1, b2, b3, b4, b5, b6, b7] _ _ (by rfl) ?_
  bytes_simp

/-- for any slice of the right length -/
theorem getI16_list (bs : Bytes) (h : bs.length = 2) :
    Generated.getI16 (bs.map UInt8.toNat) = Slim.leSigned bs := by
  match bs, h with
  | [b0, b1], _ => exact getI16_sem b0 b1

theorem getI32_list (bs : Bytes) (h : bs.length = 4) :
    Generated.getI32 (bs.map UInt8.toNat) = Slim.leSigned bs := by
  match bs, h with
  | [b0, b1, b2, b3], _ => exact getI32_sem b0 b1 b2 b3

theorem getI64_list (bs : Bytes) (h : bs.length = 8) :
    Generated.getI64 (bs.map UInt8.toNat) = Slim.leSigned bs := by
  match bs, h with
  | [b0, b1, b2, b3, b4, b5, b6, b7], _ => exact getI64_sem b0 b1 b2 b3 b4 b5 b6 b7

/-- the slice start: leaf ordinal × width in bytes (`ith << k`; ordinals fit an `int32`) -/
theorem shl_index (k ith : Nat) (h : ith * 2 ^ k < 2 ^ 31) :
    Go.toS 32 (Go.shl 32 ith k) = ((ith * 2 ^ k : Nat) : Int) := by
  rw [shl_small (Nat.lt_trans h (by decide)), toS_small h]

theorem getI16Index_sem (ith : Nat) (h : ith < 2 ^ 30) :
    Generated.getI16Index ith = ((ith * 2 : Nat) : Int) := shl_index 1 ith (by omega)

theorem getI32Index_sem (ith : Nat) (h : ith < 2 ^ 29) :
    Generated.getI32Index ith = ((ith * 4 : Nat) : Int) := shl_index 2 ith (by omega)

theorem getI64Index_sem (ith : Nat) (h : ith < 2 ^ 28) :
    Generated.getI64Index ith = ((ith * 8 : Nat) : Int) := shl_index 3 ith (by omega)

end BridgeSem

#print axioms BridgeSem.getI8_sem
#print axioms BridgeSem.getI16_sem
#print axioms BridgeSem.getI32_sem
#print axioms BridgeSem.getI64_sem
#print axioms BridgeSem.getI16_list
#print axioms BridgeSem.getI32_list
#print axioms BridgeSem.getI64_list
#print axioms BridgeSem.getI16Index_sem
#print axioms BridgeSem.getI32Index_sem
#print axioms BridgeSem.getI64Index_sem
