import Generated.Funcs
import SlimProps.BridgeSem.Common
import SlimModel.Slim
/-
  SlimProps.BridgeSem.VLen — tie 1, semantic part: the arithmetic of `(*VLenArray).get`
  (trie/slimtrie_vlen_array.go), statement by statement, against `Slim.vlenGet` (SlimModel/Slim.lean).
  `get` whole, with its external calls (`bitmap.Select32R64`, `bitmap.Bit[k]`) and the slice expression
  `va.Bytes[from:to]`, is in VLenGet.lean.
-/

set_option linter.unusedSimpArgs false
set_option linter.unusedVariables false

open Generated Bits

namespace BridgeSem

/-- `wordI := index >> 6` -/
theorem vlenWordI_sem (index : Nat) (h : index < 2 ^ 31) :
    Generated.vlenWordI index = ((index / 64 : Nat) : Int) := by
  unfold Generated.vlenWordI; go_simp
  all_goals omega

/-- `bitI := index & 63` -/
theorem vlenBitI_sem (index : Nat) (h : index < 2 ^ 31) :
    Generated.vlenBitI index = ((index % 64 : Nat) : Int) := by
  unfold Generated.vlenBitI
  go_simp
  all_goals omega

/-- `ithElt := presence.RankIndex[wordI] + int32(bits.OnesCount64(presence.Words[wordI]&bitmap.Mask[bitI]))`, a
    rank written out in place: the first component of `Bits.rank64` -/
theorem vlenIthElt_sem (rankIndex words : List Nat) (index r w : Nat)
    (hw : words[index / 64]? = some w) (hr : rankIndex[index / 64]? = some r)
    (hfit : r + popcount (w % 2 ^ (index % 64)) < 2 ^ 31) :
    Generated.vlenIthElt rankIndex words (index % 64) (index / 64)
      = ((r + popcount (w % 2 ^ (index % 64)) : Nat) : Int) := by
  unfold Generated.vlenIthElt
  have h1 : words.getD (index / 64) 0 = w := by rw [List.getD_eq_getElem?_getD, hw]; rfl
  have h2 : rankIndex.getD (index / 64) 0 = r := by rw [List.getD_eq_getElem?_getD, hr]; rfl
  have h4 : Go.popcount64 (w % 2 ^ (index % 64)) = popcount (w % 2 ^ (index % 64)) := rfl
  simp only [h1, h2, mask64_and, mask64_and', h4]
  generalize popcount (w % 2 ^ (index % 64)) = c at hfit ⊢
  go_simp
  omega

/-- `from := ithElt * va.FixedSize` -/
theorem vlenFixedFrom_sem (ithElt fixedSize : Nat) (h : ithElt * fixedSize < 2 ^ 31) :
    Generated.vlenFixedFrom fixedSize ithElt = ((ithElt * fixedSize : Nat) : Int) := by
  unfold Generated.vlenFixedFrom; go_simp

example : Generated.vlenIthElt [0, 3] [0, 0b111] 2 1 = 5 := by decide +kernel

end BridgeSem

#print axioms BridgeSem.vlenWordI_sem
#print axioms BridgeSem.vlenBitI_sem
#print axioms BridgeSem.vlenIthElt_sem
#print axioms BridgeSem.vlenFixedFrom_sem
