import Generated.Funcs
import SlimProps.BridgeSem.Common
import SlimModel.Encode
/-
  SlimProps.BridgeSem.EncSizes — tie 1, semantic part: package encode: `GetSize` / `GetEncodedSize` of the fixed-width
  integer encoders are the widths of the model's codecs (SlimModel/Encode.lean).
-/

open Generated

namespace BridgeSem

/-- the size literals of encode/int.go, encode/int8.go -/
theorem encSizes_sem :
    [Generated.encSizeI8, Generated.encEncodedSizeI8, Generated.encSizeI16, Generated.encEncodedSizeI16,
     Generated.encSizeI32, Generated.encEncodedSizeI32, Generated.encSizeI64, Generated.encEncodedSizeI64,
     Generated.encSizeU16, Generated.encEncodedSizeU16, Generated.encSizeU32, Generated.encEncodedSizeU32,
     Generated.encSizeU64, Generated.encEncodedSizeU64]
      = [1, 1, 2, 2, 4, 4, 8, 8, 2, 2, 4, 4, 8, 8] := by decide

/-- … are the sizes of the model's codecs (SlimModel/Encode.lean) -/
theorem encSizes_model (v : Int) (n : Nat) (b : Bytes) :
    Encode.I8.getSize v = .ok Generated.encSizeI8.toNat ∧
    Encode.I8.getEncodedSize b = .ok Generated.encEncodedSizeI8.toNat ∧
    Encode.I16.getSize v = .ok Generated.encSizeI16.toNat ∧
    Encode.I16.getEncodedSize b = .ok Generated.encEncodedSizeI16.toNat ∧
    Encode.I32.getSize v = .ok Generated.encSizeI32.toNat ∧
    Encode.I32.getEncodedSize b = .ok Generated.encEncodedSizeI32.toNat ∧
    Encode.I64.getSize v = .ok Generated.encSizeI64.toNat ∧
    Encode.I64.getEncodedSize b = .ok Generated.encEncodedSizeI64.toNat ∧
    Encode.U16.getSize n = .ok Generated.encSizeU16.toNat ∧
    Encode.U16.getEncodedSize b = .ok Generated.encEncodedSizeU16.toNat ∧
    Encode.U32.getSize n = .ok Generated.encSizeU32.toNat ∧
    Encode.U32.getEncodedSize b = .ok Generated.encEncodedSizeU32.toNat ∧
    Encode.U64.getSize n = .ok Generated.encSizeU64.toNat ∧
    Encode.U64.getEncodedSize b = .ok Generated.encEncodedSizeU64.toNat := by
  have h := encSizes_sem
  simp only [List.cons.injEq, and_true] at h
  obtain ⟨h1, h2, h3, h4, h5, h6, h7, h8, h9, h10, h11, h12, h13, h14⟩ := h
  rw [h1, h2, h3, h4, h5, h6, h7, h8, h9, h10, h11, h12, h13, h14]
  exact ⟨rfl, rfl, rfl, rfl, rfl, rfl, rfl, rfl, rfl, rfl, rfl, rfl, rfl, rfl⟩

end BridgeSem

#print axioms BridgeSem.encSizes_sem
#print axioms BridgeSem.encSizes_model
