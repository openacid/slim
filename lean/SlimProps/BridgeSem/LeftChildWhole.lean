import Generated.Funcs
import SlimProps.BridgeSem.Common
import SlimProps.BridgeSem.Extern
import SlimModel.Query
import SlimModel.Slim
import SlimProofs.BitsLemmas.Rank

/-
  SlimProps.BridgeSem.LeftChildWhole — tie 1, semantic part: `getLabelIdxOfKey` and `getLeftChildID`
  (trie/slimtrie_query.go) translated WHOLE (`Generated.W.SlimTrie.getLabelIdxOfKey`, `getLeftChildID`:
  the session as a record, the guard `keyBitIdx < qr.keyBitLen`, the word-size branch, the index into
  the key with its bound check; the call of `getLabelIdxOfKey`, the test `qr.to-qr.from == ns.ShortSize`,
  both branches with their calls of the external `bitmap.Rank128`, nil dereferences of `st.inner`,
  `ns.Inners`) = `some` of the model's `labelIdxOfKey` and `leftChildID` (SlimModel/Query.lean; pure functions:
  under the hypotheses here the Go code does not panic), on the session of an inner node (`NodeShape`: how
  `getNode` leaves `wordSize`, `to - from`, `bm`), with `Inners` carrying the rank index that
  `bitmap.IndexRank128` computes.  The link with `getNode`
  is `getNode_getLeftChildID` (SlimProps/BridgeSem/DescentStep.lean).
  External semantics assumed: `bitmap.Rank128`, `bitmap.Mask`, `bits.OnesCount64` (GoSem.lean,
  `rank128_mk_sem`, Extern.lean).
-/

set_option linter.unusedSimpArgs false
set_option linter.unusedVariables false

open Generated Bits

namespace BridgeSem

theorem natBytes_getElem? (key : Bytes) (j : Nat) (h : j < key.length) :
    (natBytes key)[j]? = some ((key.map UInt8.toNat).getD j 0) := by
  unfold natBytes
  rw [List.getD_eq_getElem?_getD]
  have : j < (key.map UInt8.toNat).length := by simpa using h
  rw [List.getElem?_eq_getElem this]; rfl

/-- the receiver `st` is not used; the index into the key cannot panic behind the guard
    `keyBitIdx < qr.keyBitLen` -/
theorem getLabelIdxOfKeyW_sem (st : W.SlimTrie) (qr : W.querySession) (key : Bytes) (i : Nat)
    (hkey : qr.key = natBytes key) (hkl : qr.keyBitLen = 8 * key.length)
    (hw : qr.wordSize = 4 ∨ qr.wordSize = 8)
    (hlen : 8 * key.length < 2 ^ 31) (hi : 4 * i < 2 ^ 31) :
    W.SlimTrie.getLabelIdxOfKey st qr (4 * i)
      = some (labelIdxOfKey (nibs key) i (qr.wordSize == 8)) := by
  obtain ⟨hshift, h3, hlt⟩ := keyBit_pos i key.length hlen hi
  unfold W.SlimTrie.getLabelIdxOfKey
  rw [labelIdxOfKey_nibs, hkey, hkl]
  simp only [Option.bind_eq_bind, Option.pure_def, hshift, hlt, idxS_eq _ _ _ h3, high_half_test i, half_shift i]
  by_cases hin : i < 2 * key.length
  · have hb := getD_map_lt_w key (i / 2)
    simp only [hin, decide_true, if_true, natBytes_getElem? key _ (Nat.div_lt_of_lt_mul hin)]
    generalize (key.map UInt8.toNat).getD (i / 2) 0 = x at hb ⊢
    rcases hw with h | h
    · have h48 : ((4 : Nat) == 8) = false := by decide
      simp only [h, h48, Bool.false_eq_true, if_false]
      by_cases hp : i % 2 = 0
      · simp only [hp, decide_true, if_true, Option.bind_some, high_half hb,
          label_of_byte (halves_lt hb).1]
      · simp only [hp, decide_false, Bool.false_eq_true, if_false, Option.bind_some, and_eq, and_15, shr_eq,
          Nat.pow_zero, Nat.div_one, label_of_byte (halves_lt hb).2]
    · simp only [h, beq_self_eq_true, if_true, Option.bind_some, label_of_byte hb]
  · simp only [hin, decide_false, Bool.false_eq_true, if_false, Option.bind_some]

theorem labelsIn_eq_filter (ws : List Nat) (frm size : Nat) :
    Slim.labelsIn ws frm size = (List.range size).filter (fun k => getBit ws (frm + k)) := rfl

theorem rankLabels_labelsIn (ws : List Nat) (frm size ith : Nat) (h : ith ≤ size) :
    rankLabels (Slim.labelsIn ws frm size) ith = cnt (fun k => getBit ws (frm + k)) ith := by
  unfold rankLabels
  rw [labelsIn_eq_filter, List.filter_filter, ← cnt_eq_length_filter]
  have := cnt_and_lt (fun k => getBit ws (frm + k)) ith size
  rw [Nat.min_eq_left h] at this
  rw [← this]

theorem contains_labelsIn (ws : List Nat) (frm size ith : Nat) (h : ith < size) :
    (Slim.labelsIn ws frm size).contains ith = getBit ws (frm + ith) := by
  rw [labelsIn_eq_filter, Bool.eq_iff_iff]
  simp [h]

theorem labelIdxOfKey_le (key : Bytes) (i : Nat) (big : Bool) :
    labelIdxOfKey (nibs key) i big ≤ if big then 256 else 16 := by
  rw [labelIdxOfKey_nibs]
  have hb := getD_map_lt_w key (i / 2)
  cases big <;> simp only [Bool.false_eq_true, if_false, if_true] <;> repeat' split
  all_goals omega

/-- the session of an inner node with `size` label bits: a short node (`short = some bm`) has word
    size 4, `ShortSize` bits and its 17-bit bitmap cached in `qr.bm`; any other node has 17 bits (word
    size 4) or 257 bits (word size 8), and `getLeftChildID` tells it from a short node by its size -/
def NodeShape (s : SlimMsg) (qr : W.querySession) (size : Nat) (short : Option Nat) : Prop :=
  match short with
  | some bm => qr.wordSize = 4 ∧ size = s.shortSize ∧ qr.bm = bm
  | none => (qr.wordSize = 4 ∧ size = 17 ∨ qr.wordSize = 8 ∧ size = 257) ∧ size ≠ s.shortSize

theorem getLeftChildID_sem (s : SlimMsg) (v : Option W.slimVars) (ws : List Nat) (qr : W.querySession)
    (key : Bytes) (i frm size : Nat) (short : Option Nat)
    (hinn : s.inners = some (mk ws "r128"))
    (hkey : qr.key = natBytes key) (hkl : qr.keyBitLen = 8 * key.length)
    (hlen : 8 * key.length < 2 ^ 31) (hi : 4 * i < 2 ^ 31)
    (hfrom : qr.from_ = frm) (hto : qr.to = frm + size)
    (hshape : NodeShape s qr size short)
    (hsz : 0 < size) (hrange : frm + size ≤ 64 * ws.length) (hfit : 64 * ws.length + 64 < 2 ^ 31)
    (hss : s.shortSize < 2 ^ 31) :
    W.SlimTrie.getLeftChildID { inner := some (absSlim s), vars := v } qr (4 * i)
      = some (cnt (getBit ws) frm
                + rankLabels (nodeLabels ws frm size short) (labelIdxOfKey (nibs key) i (qr.wordSize == 8)),
              b2n ((nodeLabels ws frm size short).contains (labelIdxOfKey (nibs key) i (qr.wordSize == 8)))) := by
  unfold NodeShape at hshape
  have hws : qr.wordSize = 4 ∨ qr.wordSize = 8 := by
    cases short with
    | some bm => exact Or.inl hshape.1
    | none => rcases hshape.1 with h | h; exact Or.inl h.1; exact Or.inr h.1
  have hith := labelIdxOfKey_le key i (qr.wordSize == 8)
  have hsub : Go.sub 32 (frm + size) frm = size :=
    (sub_small (Nat.le_add_right frm size) (add_lt_u32 (b := 0) hrange (Nat.zero_le _) hfit)).trans (Nat.add_sub_cancel_left ..)
  unfold W.SlimTrie.getLeftChildID
  simp only [getLabelIdxOfKeyW_sem _ qr key i hkey hkl hws hlen hi, Go.deref, Option.bind_eq_bind,
    Option.pure_def, Option.bind_some, absSlim, hinn, Option.map_some, absBitmap, mk_r128, hfrom, hto, hsub]
  generalize labelIdxOfKey (nibs key) i (qr.wordSize == 8) = ith at hith ⊢
  cases short with
  | some bm =>
    obtain ⟨hw4, hsize, hbm⟩ := hshape
    have hi16 : ith ≤ 16 := by simpa [hw4] using hith
    -- the facts the short branch needs, whatever the order of its statements
    obtain ⟨hrank, hle⟩ := shortRank_pat bm ith (Nat.le_succ_of_le hi16)
    have hbit := shortBit_pat bm ith (Nat.lt_succ_of_le hi16)
    unfold labelsOfBm at hrank hle hbit
    simp only [nodeLabels]
    have hcf := cnt_le (getBit ws) frm
    generalize rankLabels ((List.range Slim.innerSize).filter fun k => bm.testBit k) ith = rk at hrank hle ⊢
    have hfl : frm < 64 * ws.length := Nat.lt_of_lt_of_le (Nat.lt_add_of_pos_right hsz) hrange
    have e1 := add_small_both
      (add_lt_u32 (Nat.le_trans hcf (Nat.le_of_lt hfl)) (Nat.le_trans hle (Nat.le_trans hi16 (by decide))) hfit)
    have hne : (s.shortSize != s.shortSize) = false := by simp
    simp only [hsize, beq_self_eq_true, hne, Bool.false_eq_true, if_true, if_false,
      rank128_mk_sem ws frm hfl hfit, maskAt_le ith (Nat.le_trans hi16 (by decide)), Option.bind_some, mask64_and,
      mask64_and',
      hbm, hrank, hbit, e1]
  | none =>
    obtain ⟨hcase, hne⟩ := hshape
    have hlt : ith < size := by
      rcases hcase with ⟨h4, hs⟩ | ⟨h8, hs⟩
      · have : ith ≤ 16 := by simpa [h4] using hith
        rw [hs]; exact Nat.lt_succ_of_le this
      · have : ith ≤ 256 := by simpa [h8] using hith
        rw [hs]; exact Nat.lt_succ_of_le this
    have hneq : (size == s.shortSize) = false := by simpa using hne
    have hneq' : (size != s.shortSize) = true := by simpa using hne
    have hfi : frm + ith < 64 * ws.length := Nat.lt_of_lt_of_le (Nat.add_lt_add_left hlt frm) hrange
    have hadd := add_small_both (a := frm) (b := ith) (add_lt_u32 (b := 0) (Nat.le_of_lt hfi) (Nat.zero_le _) hfit)
    simp only [hneq, hneq', Bool.false_eq_true, if_false, if_true, nodeLabels, hadd,
      rank128_mk_sem ws (frm + ith) hfi hfit, Option.bind_some,
      cnt_add, rankLabels_labelsIn ws frm size ith (Nat.le_of_lt hlt), contains_labelsIn ws frm size ith hlt]

/-- the right side is what `getLeftChildID_sem` returns -/
theorem getLeftChildID_model (r : InnerRec) (ws : List Nat) (frm size : Nat) (short : Option Nat) (ith : Nat)
    (hl : r.labels = nodeLabels ws frm size short) (hfc : r.firstChild = cnt (getBit ws) frm + 1) :
    leftChildID r ith
      = (((cnt (getBit ws) frm + rankLabels (nodeLabels ws frm size short) ith : Nat) : Int),
         (nodeLabels ws frm size short).contains ith) := by
  unfold leftChildID
  rw [hl, hfc]
  congr 1
  omega

/-! non-vacuity: node 1 of `exSlim` (labels 4, 5 at bits [17, 34) of `Inners`), key "abd" at bit 20 -/

def exQr1 : W.querySession :=
  { exQr with wordSize := 4, from_ := 17, to := 34, isInner := 1, ithInner := 1, hasInnerPrefix := true,
              innerPrefixLen := 12, innerPrefix := [98, 96, 240] }

example : W.SlimTrie.getLabelIdxOfKey { inner := none, vars := none } exQr1 20 = some 5 := by decide
example : W.SlimTrie.getLeftChildID { inner := some (absSlim exSlim), vars := none } exQr1 20 = some (3, 1) := by decide +kernel
example : W.SlimTrie.getLeftChildID { inner := some (absSlim exSlim), vars := none } exQr1 24 = some (2, 0) := by decide +kernel
example : W.SlimTrie.getLeftChildID { inner := none, vars := none } exQr1 20 = none := by decide
example : exSlim.inners = some (mk [2216209416204] "r128") := by decide
example : NodeShape exSlim exQr1 17 none := by unfold NodeShape; decide
example : leftChildID { big := false, labels := [4, 5], firstChild := 3, pref := .none } 5 = (3, true) := by decide

end BridgeSem

#print axioms BridgeSem.getLabelIdxOfKeyW_sem
#print axioms BridgeSem.getLeftChildID_sem
#print axioms BridgeSem.getLeftChildID_model
