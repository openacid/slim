import Generated.Funcs
import SlimProps.BridgeSem.Common
import SlimModel.Slim
/-
  SlimProps.BridgeSem.StepToPos — tie 1, semantic part: `stepToPos` (trie/slimtrie_create.go).
-/

open Generated

namespace BridgeSem

def prePos : List Nat → Nat → List Nat
  | [], _ => []
  | s :: ss, p => p :: prePos ss (p + s)

theorem stepToPos_go_eq (ss : List Nat) (p : Nat) :
    Slim.stepToPos.go ss p = prePos ss p ++ [p + ss.sum] := by
  induction ss generalizing p with
  | nil => simp [Slim.stepToPos.go, prePos]
  | cons s ss ih =>
    simp only [Slim.stepToPos.go, prePos, ih, List.sum_cons, List.cons_append]
    rw [Nat.add_assoc]

theorem prePos_length (ss : List Nat) (p : Nat) : (prePos ss p).length = ss.length := by
  induction ss generalizing p with
  | nil => rfl
  | cons s ss ih => simp [prePos, ih]

theorem stepLoop_spec (steps : List Nat) (hlen : steps.length + 1 < 2 ^ 31) (hsum : steps.sum < 2 ^ 31) :
    ∀ fuel i p (ps : List Nat), i ≤ steps.length → steps.length - i ≤ fuel →
      ps.length = steps.length + 1 → p + (steps.drop i).sum ≤ steps.sum →
      Generated.stepToPos_loop1 steps.length 0 steps fuel (i, p, ps)
        = (steps.length, p + (steps.drop i).sum,
            ps.take i ++ prePos (steps.drop i) p ++ ps.drop steps.length) := by
  intro fuel
  induction fuel with
  | zero =>
    intro i p ps h1 h2 h3 _
    obtain rfl : i = steps.length := Nat.le_antisymm h1 (Nat.sub_eq_zero_iff_le.mp (Nat.le_zero.mp h2))
    simp [Generated.stepToPos_loop1, prePos]
  | succ fuel ih =>
    intro i p ps h1 h2 h3 h4
    have hl31 : steps.length < 2 ^ (32 - 1) := Nat.lt_of_succ_lt hlen
    rw [Generated.stepToPos_loop1, ltS_small (Nat.lt_of_le_of_lt h1 hl31) hl31]
    by_cases hlt : i < steps.length
    · have hdrop : steps.drop i = steps[i] :: steps.drop (i + 1) := List.drop_eq_getElem_cons hlt
      have hget : steps.getD i 0 = steps[i] := by
        rw [List.getD_eq_getElem?_getD, List.getElem?_eq_getElem hlt]; rfl
      rw [hdrop, List.sum_cons] at h4
      -- the running position and the step fit: `p + steps[i] ≤ steps.sum`
      have hp : p + steps[i] < 2 ^ 31 := by omega
      have hsar : Go.sar 32 steps[i] (Go.conv 32 true 64 0) = steps[i] := by
        rw [conv_widen_small _ _ _ (by decide) (Nat.two_pow_pos _), sar_small 0 (Nat.lt_of_le_of_lt (Nat.le_add_left _ p) hp)]
        exact Nat.div_one _
      have hi1 : i + 1 < 2 ^ 32 := Nat.lt_trans (Nat.lt_of_le_of_lt hlt hl31) (by decide)
      simp only [hlt, decide_true, if_true, hget, hsar, add_small (w := 32) (Nat.lt_trans hp (by decide)), add_small hi1]
      rw [ih (i + 1) _ _ hlt (by omega) (by simp [h3]) (by omega), hdrop]
      simp only [List.sum_cons, prePos, Prod.mk.injEq, true_and]
      refine ⟨by omega, ?_⟩
      rw [take_succ_set _ _ _ (h3 ▸ Nat.lt_succ_of_lt hlt), List.drop_set_of_lt hlt]
      simp
    · obtain rfl : i = steps.length := Nat.le_antisymm h1 (Nat.not_lt.mp hlt)
      simp [prePos]

/-- `shift = 0` is the only call shape in the Go source, and the model's `Slim.stepToPos` has no shift -/
theorem stepToPos_sem (steps : List Nat) (hlen : steps.length + 1 < 2 ^ 31) (hsum : steps.sum < 2 ^ 31) :
    Generated.stepToPos steps 0 = Slim.stepToPos steps := by
  unfold Generated.stepToPos Slim.stepToPos
  go_simp
  have hn : steps.length % 2 ^ 32 = steps.length := by omega
  simp only [hn]
  rw [stepLoop_spec steps hlen hsum steps.length 0 0 _ (by omega) (by omega) (by simp) (by simp)]
  simp only [List.drop_zero, List.take_zero, List.nil_append, Nat.zero_add]
  rw [stepToPos_go_eq, Nat.zero_add]
  have hl := prePos_length steps 0
  rw [List.set_eq_take_append_cons_drop]
  simp [hl]

end BridgeSem

#print axioms BridgeSem.stepToPos_sem
