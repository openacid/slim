import Generated.GoSem
/-
  SlimProps.BridgeSem.Common — tie 1, semantic part: what every bridge module shares.  On operands that fit their type
  the `Go.*` operations are plain arithmetic (`*_small`, `go_simp`); `+`, `*`, `&` commute, so that a proof need not
  follow the operand order of the source (`go_add_comm`, `mul_swap`, `go_and_comm`, `*_both`); values whose intermediate
  results may wrap around are carried as residues (`Go.ofS`, `add_ofS`, `mul_ofS`, `sub_ofS`, `toS_ofS`,
  `smallOffset_pat`).  Nothing here mentions a generated definition.
-/

open Generated

namespace BridgeSem

theorem and_255 (x : Nat) : x &&& 255 = x % 256 := Nat.and_two_pow_sub_one_eq_mod x 8
theorem and_15 (x : Nat) : x &&& 15 = x % 16 := Nat.and_two_pow_sub_one_eq_mod x 4
theorem and_7 (x : Nat) : x &&& 7 = x % 8 := Nat.and_two_pow_sub_one_eq_mod x 3
theorem and_63 (x : Nat) : x &&& 63 = x % 64 := Nat.and_two_pow_sub_one_eq_mod x 6
theorem and_63' (x : Nat) : 63 &&& x = x % 64 := by rw [Nat.and_comm]; exact and_63 x
theorem and_255' (x : Nat) : 255 &&& x = x % 256 := by rw [Nat.and_comm]; exact and_255 x
theorem and_15' (x : Nat) : 15 &&& x = x % 16 := by rw [Nat.and_comm]; exact and_15 x
theorem and_7' (x : Nat) : 7 &&& x = x % 8 := by rw [Nat.and_comm]; exact and_7 x

theorem and_4 (x : Nat) : x &&& 4 = x / 4 % 2 * 4 := by
  have hsmall : ∀ r, r < 8 → r &&& 4 = r / 4 % 2 * 4 := by decide
  -- only the low three bits of `x` matter
  rw [show x &&& 4 = (x % 8) &&& 4 by rw [← and_7, Nat.and_assoc]; rfl, hsmall _ (Nat.mod_lt _ (by decide)),
    show (8 : Nat) = 4 * 2 from rfl, Nat.mod_mul_right_div_self, Nat.mod_mod]
theorem and_4' (x : Nat) : 4 &&& x = x / 4 % 2 * 4 := by rw [Nat.and_comm]; exact and_4 x

theorem byte_lt (b : UInt8) : b.toNat < 256 := UInt8.toNat_lt_size b

theorem toS_small {w p : Nat} (h : p < 2 ^ (w - 1)) : Go.toS w p = (p : Int) := by
  unfold Go.toS; rw [if_pos h]

theorem sar_small {w a : Nat} (k : Nat) (h : a < 2 ^ (w - 1)) : Go.sar w a k = a / 2 ^ k := by
  unfold Go.sar; rw [if_pos h, Nat.shiftRight_eq_div_pow]

theorem shr_eq (a k : Nat) : Go.shr a k = a / 2 ^ k := Nat.shiftRight_eq_div_pow a k

theorem ltS_small {w a b : Nat} (ha : a < 2 ^ (w - 1)) (hb : b < 2 ^ (w - 1)) :
    Go.ltS w a b = decide (a < b) := by
  unfold Go.ltS; rw [toS_small ha, toS_small hb]; simp

theorem leS_small {w a b : Nat} (ha : a < 2 ^ (w - 1)) (hb : b < 2 ^ (w - 1)) :
    Go.leS w a b = decide (a ≤ b) := by
  unfold Go.leS; rw [toS_small ha, toS_small hb]; simp

theorem conv_narrow (fw : Nat) (fs : Bool) (tw x : Nat) (h : tw ≤ fw) :
    Go.conv fw fs tw x = x % 2 ^ tw := by
  unfold Go.conv Go.wrap; rw [if_pos h]

theorem conv_narrow_small (fw : Nat) (fs : Bool) (tw x : Nat) (h : tw ≤ fw) (hx : x < 2 ^ tw) :
    Go.conv fw fs tw x = x := (conv_narrow fw fs tw x h).trans (Nat.mod_eq_of_lt hx)

theorem conv_widen_u (fw tw x : Nat) (h : fw < tw) : Go.conv fw false tw x = x := by
  unfold Go.conv; rw [if_neg (by omega)]; simp

theorem conv_widen_small (fw tw x : Nat) (h : fw < tw) (hx : x < 2 ^ (fw - 1)) :
    Go.conv fw true tw x = x := by
  unfold Go.conv
  rw [if_neg (Nat.not_le.mpr h), decide_eq_false (Nat.not_le.mpr hx), Bool.and_false]
  rfl

theorem add_small {w a b : Nat} (h : a + b < 2 ^ w) : Go.add w a b = a + b := by
  unfold Go.add Go.wrap; exact Nat.mod_eq_of_lt h

theorem mul_small {w a b : Nat} (h : a * b < 2 ^ w) : Go.mul w a b = a * b := by
  unfold Go.mul Go.wrap; exact Nat.mod_eq_of_lt h

/-- `+`, `*`, `&` commute: the operand order in the Go source does not matter (`simp only [go_add_comm, mul_swap,
    go_and_comm]` orders the operands in the goal and in the facts about it the same way) -/
theorem go_add_comm (w a b : Nat) : Go.add w a b = Go.add w b a := congrArg (Go.wrap w) (Nat.add_comm a b)
theorem mul_swap (w a b : Nat) : Go.mul w a b = Go.mul w b a := congrArg (Go.wrap w) (Nat.mul_comm a b)
theorem go_and_comm (a b : Nat) : Go.and a b = Go.and b a := Nat.and_comm a b

/-- on operands that fit, `+` and `*` in either operand order -/
theorem add_small_both {w a b : Nat} (h : a + b < 2 ^ w) : Go.add w a b = a + b ∧ Go.add w b a = a + b :=
  ⟨add_small h, (go_add_comm w b a).trans (add_small h)⟩
theorem mul_small_both {w a b : Nat} (h : a * b < 2 ^ w) : Go.mul w a b = a * b ∧ Go.mul w b a = a * b :=
  ⟨mul_small h, (mul_swap w b a).trans (mul_small h)⟩

theorem shl_small {w a k : Nat} (h : a * 2 ^ k < 2 ^ w) : Go.shl w a k = a * 2 ^ k := by
  unfold Go.shl Go.wrap; rw [Nat.shiftLeft_eq]; exact Nat.mod_eq_of_lt h

theorem ofS_lt (w : Nat) (x : Int) : Go.ofS w x < 2 ^ w := by
  unfold Go.ofS
  have hpos : (0 : Int) < (2 : Int) ^ w := Int.pow_pos (by decide)
  have h1 := Int.emod_lt_of_pos x hpos
  have h0 := Int.emod_nonneg x (Int.ne_of_gt hpos)
  have : ((x % (2 : Int) ^ w).toNat : Int) < ((2 ^ w : Nat) : Int) := by
    rw [Int.toNat_of_nonneg h0]; simpa using h1
  exact Int.ofNat_lt.mp this

theorem ofS_cast (w : Nat) (x : Int) : ((Go.ofS w x : Nat) : Int) = x % (2 : Int) ^ w := by
  unfold Go.ofS
  have hpos : (0 : Int) < (2 : Int) ^ w := Int.pow_pos (by decide)
  exact Int.toNat_of_nonneg (Int.emod_nonneg x (Int.ne_of_gt hpos))

theorem eq_ofS {w p : Nat} {x : Int} (hp : p < 2 ^ w) (h : (p : Int) % (2 : Int) ^ w = x % (2 : Int) ^ w) :
    p = Go.ofS w x := by
  have h1 : ((p : Nat) : Int) = ((Go.ofS w x : Nat) : Int) := by
    rw [ofS_cast, ← h]
    symm
    apply Int.emod_eq_of_lt (by omega)
    exact_mod_cast hp
  exact_mod_cast h1

theorem ofS_natCast {w n : Nat} (h : n < 2 ^ w) : Go.ofS w (n : Int) = n := (eq_ofS h rfl).symm

/-- a pattern read as a signed value and converted back is the pattern -/
theorem ofS_toS {w p : Nat} (hp : p < 2 ^ w) : Go.ofS w (Go.toS w p) = p := by
  refine (eq_ofS hp ?_).symm
  unfold Go.toS
  split
  · rfl
  · rw [Int.sub_emod_right]

/-- wrap-around addition and multiplication compute in the ring of residues: intermediate
    overflow is harmless -/
theorem add_ofS (w : Nat) (a b : Int) : Go.add w (Go.ofS w a) (Go.ofS w b) = Go.ofS w (a + b) := by
  apply eq_ofS
  · exact Nat.mod_lt _ (Nat.two_pow_pos w)
  · unfold Go.add Go.wrap
    rw [Int.natCast_emod, Int.natCast_add, ofS_cast, ofS_cast]
    simp only [Int.natCast_pow, Int.cast_ofNat_Int]
    rw [Int.emod_emod_of_dvd _ (Int.dvd_refl _), ← Int.add_emod]

theorem mul_ofS (w : Nat) (a b : Int) : Go.mul w (Go.ofS w a) (Go.ofS w b) = Go.ofS w (a * b) := by
  apply eq_ofS
  · exact Nat.mod_lt _ (Nat.two_pow_pos w)
  · unfold Go.mul Go.wrap
    rw [Int.natCast_emod, Int.natCast_mul, ofS_cast, ofS_cast]
    simp only [Int.natCast_pow, Int.cast_ofNat_Int]
    rw [Int.emod_emod_of_dvd _ (Int.dvd_refl _), ← Int.mul_emod]

theorem sub_ofS (w : Nat) (a b : Int) : Go.sub w (Go.ofS w a) (Go.ofS w b) = Go.ofS w (a - b) := by
  apply eq_ofS
  · exact Nat.mod_lt _ (Nat.two_pow_pos w)
  · unfold Go.sub Go.wrap
    have hb := ofS_lt w b
    rw [Nat.mod_eq_of_lt hb, Int.natCast_emod, Int.natCast_add, Int.natCast_sub (Nat.le_of_lt hb),
      ofS_cast, ofS_cast]
    simp only [Int.natCast_pow, Int.cast_ofNat_Int]
    rw [Int.emod_emod_of_dvd _ (Int.dvd_refl _)]
    have : a % 2 ^ w + (2 ^ w - b % 2 ^ w) = (a % 2 ^ w - b % 2 ^ w) + 2 ^ w := by omega
    rw [this, Int.add_emod_right, ← Int.sub_emod]

/-- on patterns of non-negative values: the pattern of the integer product / difference -/
theorem mul_natCast {w a b : Nat} (ha : a < 2 ^ w) (hb : b < 2 ^ w) :
    Go.mul w a b = Go.ofS w ((a : Int) * b) := by
  rw [← mul_ofS, ofS_natCast ha, ofS_natCast hb]

theorem sub_natCast {w a b : Nat} (ha : a < 2 ^ w) (hb : b < 2 ^ w) :
    Go.sub w a b = Go.ofS w ((a : Int) - b) := by
  rw [← sub_ofS, ofS_natCast ha, ofS_natCast hb]

/-- `BigInnerOffset + innerSize*ithInner + ShortMinusInner*ithShort` on int32 values `bo`, `sm` given by
    their patterns: the pattern of the integer sum — intermediate wrap-around does not matter -/
theorem smallOffset_pat (ith ithShort : Nat) (bo sm : Int) (hi : ith < 2 ^ 32) (hs : ithShort < 2 ^ 32) :
    Go.add 32 (Go.add 32 (Go.ofS 32 bo) (Go.mul 32 17 ith)) (Go.mul 32 (Go.ofS 32 sm) ithShort)
      = Go.ofS 32 (bo + 17 * ith + sm * ithShort) := by
  conv => lhs; rw [← ofS_natCast (w := 32) (n := ith) hi, ← ofS_natCast (w := 32) (n := ithShort) hs,
    ← ofS_natCast (w := 32) (n := 17) (by decide)]
  simp only [mul_ofS, add_ofS]
  rfl

/-- a value in the signed range is read back from its pattern -/
theorem toS_ofS {w : Nat} (hw : 0 < w) {x : Int} (hlo : -(2 : Int) ^ (w - 1) ≤ x)
    (hhi : x < (2 : Int) ^ (w - 1)) : Go.toS w (Go.ofS w x) = x := by
  have hM : (2 : Int) ^ w = 2 * (2 : Int) ^ (w - 1) := by
    rw [← Int.pow_succ', Nat.sub_add_cancel hw]
  have hc := ofS_cast w x
  have hH : ((2 ^ (w - 1) : Nat) : Int) = (2 : Int) ^ (w - 1) := Int.natCast_pow 2 _
  unfold Go.toS
  -- the residue of `x` is `x` itself or `x + 2^w`, and the sign test of `toS` tells which
  by_cases h0 : 0 ≤ x
  · rw [Int.emod_eq_of_lt h0 (by omega)] at hc
    rw [if_pos (by omega), hc]
  · rw [← Int.add_emod_right, Int.emod_eq_of_lt (by omega) (by omega)] at hc
    rw [if_neg (by omega), hc]
    omega

theorem ofS_eq_natCast {w n : Nat} (h : n < 2 ^ w) : n = Go.ofS w (n : Int) := (ofS_natCast h).symm

theorem sub_small {w a b : Nat} (hb : b ≤ a) (ha : a < 2 ^ w) : Go.sub w a b = a - b := by
  rw [sub_natCast ha (Nat.lt_of_le_of_lt hb ha), ← Int.ofNat_sub hb]
  exact ofS_natCast (Nat.lt_of_le_of_lt (Nat.sub_le a b) ha)

theorem lt_of_lt_half {w n : Nat} (hw : 0 < w) (h : n < 2 ^ (w - 1)) : n < 2 ^ w :=
  Nat.lt_trans h (Nat.pow_lt_pow_right (by decide) (Nat.sub_lt hw (by decide)))

theorem divS_small {w a b : Nat} (ha : a < 2 ^ (w - 1)) (hb : b < 2 ^ (w - 1)) (hw : 0 < w) :
    Go.divS w a b = a / b := by
  unfold Go.divS
  rw [toS_small ha, toS_small hb, ← Int.ofNat_tdiv,
    ofS_natCast (lt_of_lt_half hw (Nat.lt_of_le_of_lt (Nat.div_le_self a b) ha))]

theorem modS_small {w a b : Nat} (ha : a < 2 ^ (w - 1)) (hb : b < 2 ^ (w - 1)) (hb0 : 0 < b) (hw : 0 < w) :
    Go.modS w a b = a % b := by
  unfold Go.modS
  rw [toS_small ha, toS_small hb, ← Int.ofNat_tmod,
    ofS_natCast (lt_of_lt_half hw (Nat.lt_trans (Nat.mod_lt a hb0) hb))]

theorem mask64_and (x k : Nat) : Go.and x (Go.mask64 k) = x % 2 ^ k := by
  unfold Go.and Go.mask64; exact Nat.and_two_pow_sub_one_eq_mod x k
theorem mask64_and' (x k : Nat) : Go.and (Go.mask64 k) x = x % 2 ^ k := by
  unfold Go.and; rw [Nat.and_comm]; exact mask64_and x k

theorem and_eq (a b : Nat) : Go.and a b = a &&& b := rfl

/-- `hi<<k | lo` with `lo` below `2^k`: the two parts do not overlap -/
theorem or_mul (a b k : Nat) (h : b < 2 ^ k) : a * 2 ^ k ||| b = a * 2 ^ k + b := by
  have := Nat.shiftLeft_add_eq_or_of_lt h a
  rw [Nat.shiftLeft_eq] at this
  exact this.symm

/-! a Go `bool`-like 1 in a test `x == 0` / `x != 0` -/
theorem one_beq_zero : ((1 : Nat) == 0) = false := rfl
theorem one_bne_zero : ((1 : Nat) != 0) = true := rfl

/-- rewrite the `Go.*` operations on operands that fit their type into plain arithmetic;
    side conditions are discharged by `omega` from the hypotheses in scope -/
syntax "go_simp" : tactic
macro_rules
  | `(tactic| go_simp) => `(tactic|
      simp (disch := omega) only [sar_small, shr_eq, ltS_small, leS_small, conv_narrow, conv_widen_u,
        conv_widen_small, add_small, sub_small, mul_small, shl_small, divS_small, modS_small, toS_small,
        mask64_and, mask64_and', and_eq,
        and_255, and_63, and_15, and_7, and_4, and_255', and_63', and_15', and_7', and_4',
        List.getD_cons_zero, List.getD_cons_succ, List.getD_nil,
        decide_eq_true_eq, beq_iff_eq, bne_iff_ne, ne_eq])

/-- word index and bit index of a bit position: `i >> 6`, `i & 63`, and the word index is a valid
    operand of a signed index expression -/
theorem bitPos_split {i : Nat} (h : i < 2 ^ 31) :
    Go.sar 32 i 6 = i / 64 ∧ Go.and i 63 = i % 64 ∧ i / 64 < 2 ^ (32 - 1) := by
  refine ⟨?_, and_63 i, by omega⟩
  rw [sar_small 6 (by omega)]

/-- a position in a bitmap of `n` bits, `n + 64` an `int32`, plus a count of at most 64 fits a `uint32` -/
theorem add_lt_u32 {a b n : Nat} (ha : a ≤ n) (hb : b ≤ 64) (hn : n + 64 < 2 ^ 31) : a + b < 2 ^ 32 :=
  Nat.lt_trans (Nat.lt_of_le_of_lt (Nat.add_le_add ha hb) hn) (by decide)

theorem take_succ_set {α : Type} (l : List α) (i : Nat) (a : α) (h : i < l.length) :
    (l.set i a).take (i + 1) = l.take i ++ [a] := by
  rw [List.take_add_one, List.take_set_of_le (Nat.le_refl i), List.getElem?_set_self h]
  rfl

end BridgeSem
