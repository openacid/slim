import Generated.Funcs
import SlimProps.BridgeSem.Common
import SlimModel.Slim
/-
  SlimProps.BridgeSem.Step — tie 1, semantic part: `encStep` / `decStep` (trie/slimtrie_create.go).
  The Go functions count bits, the model half-bytes.
-/

open Generated

namespace BridgeSem

/-- both sides wrap at 2^16 half-bytes: the only bound is that of `int32` -/
theorem encStep_sem (n : Nat) (h : n < 2 ^ 29) :
    Generated.encStep (4 * n) = (Slim.encStep n).map UInt8.toNat := by
  have h4 : 4 * n < 2 ^ (32 - 1) := Nat.lt_of_lt_of_le ((Nat.mul_lt_mul_left (a := 4) (by decide)).mpr h) (by decide)
  have e1 : Go.sar 32 (4 * n) 2 = n := by rw [sar_small 2 h4]; exact Nat.mul_div_cancel_left n (by decide)
  unfold Generated.encStep Slim.encStep
  have e2 : Go.sar 32 n 8 = n / 2 ^ 8 := sar_small 8 (Nat.lt_trans h (by decide))
  -- `Nat.mod_mod`: the low byte is written `byte(step & 0xff)` or `byte(step)`
  simp only [e1, e2, conv_narrow _ _ _ _ (show 8 ≤ 32 by decide), and_eq, and_255,
    List.map_cons, List.map_nil, UInt8.toNat_ofNat', Nat.reducePow, Nat.mod_mod]

theorem or_mul' (a b k : Nat) (h : b < 2 ^ k) : b ||| a * 2 ^ k = a * 2 ^ k + b := by
  rw [Nat.or_comm]; exact or_mul a b k h

set_option linter.unusedSimpArgs false in
theorem decStep_sem (b0 b1 : UInt8) :
    Generated.decStep [b0.toNat, b1.toNat] = ((4 * Slim.decStep b0 b1 : Nat) : Int) := by
  have h0 := byte_lt b0
  have h1 := byte_lt b1
  unfold Generated.decStep Slim.decStep
  go_simp
  simp (disch := omega) only [Go.or, or_mul, or_mul']
  go_simp
  all_goals omega

theorem decStep_encStep_iff (s : Nat) (h4 : s % 4 = 0) (hs : s < 2 ^ 31) :
    Generated.decStep (Generated.encStep s) = (s : Int) ↔ s / 4 < 2 ^ 16 := by
  obtain ⟨n, rfl⟩ : ∃ n, s = 4 * n := ⟨s / 4, (Nat.mul_div_cancel' (Nat.dvd_of_mod_eq_zero h4)).symm⟩
  rw [encStep_sem n (by omega), Slim.encStep, List.map_cons, List.map_cons, List.map_nil, decStep_sem, Slim.decStep,
    UInt8.toNat_ofNat', UInt8.toNat_ofNat', Int.natCast_inj]
  -- the two bytes hold `n` modulo 2^16
  have hb : n / 256 % 2 ^ 8 * 256 + n % 256 % 2 ^ 8 = n % 65536 := by omega
  rw [hb, Nat.mul_div_cancel_left n (by decide), Nat.mul_left_cancel_iff (by decide), Nat.mod_eq_iff_lt (by decide)]

end BridgeSem

#print axioms BridgeSem.encStep_sem
#print axioms BridgeSem.decStep_sem
#print axioms BridgeSem.decStep_encStep_iff
