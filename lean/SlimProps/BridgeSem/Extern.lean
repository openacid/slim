import Generated.Funcs
import SlimProps.BridgeSem.Common
import SlimProps.BridgeSem.Calc
import SlimModel.Slim
import SlimModel.Query
import SlimProofs.BitsLemmas.Select
import SlimProofs.Order

/-
  SlimProps.BridgeSem.Extern — tie 1, semantic part, WHOLE functions (`namespace Generated.W` of
  Generated/Funcs.lean): what the whole-function bridges share and what mentions a generated structure.

  * EXTERNAL semantics.  The Go functions of github.com/openacid/low (outside /repo) that the query
    path calls are not translated; `Generated/GoSem.lean` gives them hand-written specification functions
    (`Go.rank64`, `Go.rank128`, `Go.select32R64`, `Go.bitstrLen`, `Go.maskAt`, `Go.bitAt`) — ASSUMED.
    Here they are related to the model's `Bits.rank64 / rank128 / select32R64` (SlimModel/Bits.lean) and
    `Slim.sliceBytes`, for the non-negative positions and `int32` index entries on which the `int32`
    arithmetic of the Go code is exact.
  * ABSTRACTION functions `absBitmap`, `absVLen`, `absSlim`, `absTrie`, `absInst`: the model's messages as values
    of the generated structures (same fields; bytes as `Nat`); `nodeLabels` (the labels `Slim.getNode` decodes).
    `absTrie s v` is the `*SlimTrie` of the query path (its `vars` cached), `absInst s v` the one the loader works on
    (`vars` whatever it is): `absTrie_eq`.
  * a concrete trie for the non-vacuity examples: `exSlim`, `exQr`.

  What needs no generated definition — `okOpt`, `natBytes`, `b2n`, and what the fragment bridges Label, LeftChild share
  with LeftChildWhole — is in Calc.lean, which the fragment bridges import instead of this module: a source on which
  the structures of `Generated.W` cannot be translated does not take the fragments with it.
-/

set_option linter.unusedSimpArgs false
set_option linter.unusedVariables false

open Generated Bits

namespace BridgeSem

theorem idxS_eq {α : Type} (w : Nat) (a : List α) (i : Nat) (h : i < 2 ^ (w - 1)) :
    Go.idxS w a i = a[i]? := by unfold Go.idxS; rw [if_pos h]

theorem setS_eq {α : Type} (w : Nat) (a : List α) (i : Nat) (v : α) (h : i < 2 ^ (w - 1)) (hl : i < a.length) :
    Go.setS w a i v = some (a.set i v) := by unfold Go.setS; rw [if_pos ⟨h, hl⟩]

theorem makeS_eq (w n : Nat) (h : n < 2 ^ (w - 1)) : Go.makeS w n = some (List.replicate n 0) := by
  unfold Go.makeS; rw [if_pos h]

theorem maskAt_le (k : Nat) (h : k ≤ 64) : Go.maskAt k = some (Go.mask64 k) := by
  unfold Go.maskAt Go.mask64; rw [if_pos h]

theorem bitAt_lt (k : Nat) (h : k < 64) : Go.bitAt k = some (2 ^ k) := by
  unfold Go.bitAt; rw [if_pos h]

theorem and_two_pow_eq (w k : Nat) : w &&& 2 ^ k = if w.testBit k then 2 ^ k else 0 := by
  apply Nat.eq_of_testBit_eq
  intro j
  rw [Nat.testBit_and, Nat.testBit_two_pow]
  by_cases h : k = j
  · subst h; cases hb : w.testBit k <;> simp [hb]
  · cases hb : w.testBit k <;> simp [hb, h]

/-- `w & bitmap.Bit[k] == 0` -/
theorem and_bit_eq_zero (w k : Nat) : (Go.and w (2 ^ k) == 0) = !w.testBit k := by
  rw [and_eq, and_two_pow_eq]
  cases w.testBit k <;> simp

theorem and_bit_ne_zero (w k : Nat) : (Go.and w (2 ^ k) != 0) = w.testBit k := by
  rw [and_eq, and_two_pow_eq]
  cases w.testBit k <;> simp

/-- the same tests with the operands in the other order, `bitmap.Bit[k] & w` -/
theorem and_bit_eq_zero' (w k : Nat) : (Go.and (2 ^ k) w == 0) = !w.testBit k := by
  rw [and_eq, Nat.and_comm]; exact and_bit_eq_zero w k
theorem and_bit_ne_zero' (w k : Nat) : (Go.and (2 ^ k) w != 0) = w.testBit k := by
  rw [and_eq, Nat.and_comm]; exact and_bit_ne_zero w k

/-- the bit `Rank64` / `Rank128` return beside the count: `int32(w>>uint(j)) & 1` -/
theorem rank_bit (w j : Nat) : Go.and (Go.conv 64 false 32 (Go.shr w j)) 1 = b2n (w.testBit j) := by
  rw [conv_narrow _ _ _ _ (by decide), and_eq, shr_eq, Nat.and_one_is_mod, Nat.mod_mod_of_dvd _ (by decide),
    div_pow_mod_two]

/-- the count of `Rank128`: the index entry, minus the count of the word itself when the word is the right
    one of its pair (`a = 1`), plus the count below the position — no `int32` overflow -/
theorem rank128_count (n a d c : Nat) (hn : n < 2 ^ 31) (ha : a < 2) (hd : d ≤ 64) (hc : c ≤ 64)
    (hs : a * d ≤ n) :
    Go.add 32 (Go.sub 32 n (Go.mul 32 a (Go.conv 64 true 32 d))) (Go.conv 64 true 32 c) = n - a * d + c := by
  have had : a * d ≤ 64 := Nat.le_trans (Nat.mul_le_mul_right d (Nat.le_of_lt_succ ha)) (by rw [Nat.one_mul]; exact hd)
  rw [conv_count hd, conv_count hc, mul_small (Nat.lt_of_le_of_lt had (by decide)),
    sub_small hs (Nat.lt_trans hn (by decide))]
  exact add_small (Nat.lt_of_le_of_lt (Nat.add_le_add (Nat.sub_le _ _) hc)
    (Nat.lt_of_lt_of_le (Nat.add_lt_add_right hn 64) (by decide)))

theorem rank64_sem (b : BitmapMsg) (i : Nat) (hri : ∀ r ∈ b.rankIndex, r < 2 ^ 31) (hi : i < 2 ^ 31) :
    Go.rank64 b.words b.rankIndex i = (okOpt (Bits.rank64 b i)).map (fun p => (p.1, b2n p.2)) := by
  unfold Go.rank64 Bits.rank64
  obtain ⟨h1, h2, h3⟩ := bitPos_split hi
  simp only [h1, h2, idxS_eq _ _ _ h3, maskAt_le (i % 64) (Nat.le_of_lt (Nat.mod_lt _ (by decide))), Option.bind_eq_bind, Option.pure_def]
  cases hr : b.rankIndex[i / 64]? with
  | none => cases hw : b.words[i / 64]? <;> simp
  | some n =>
    cases hw : b.words[i / 64]? with
    | none => simp
    | some w =>
      have hn : n < 2 ^ 31 := hri n (List.mem_of_getElem? hr)
      simp only [Option.bind_some, mask64_and, conv_popcount, okOpt_ok, Option.map_some]
      rw [add_small (Nat.lt_of_lt_of_le (Nat.add_lt_add_of_lt_of_le hn (popcount_le _)) (by decide)), rank_bit]

/-- the count `Rank64` returns is an index entry plus at most 64 -/
theorem rank64_ok_lt (b : BitmapMsg) (i k : Nat) (c : Bool) (hri : ∀ r ∈ b.rankIndex, r < 2 ^ 31)
    (h : Bits.rank64 b i = .ok (k, c)) : k < 2 ^ 31 + 64 := by
  obtain ⟨w, n, -, hn, rfl, -⟩ := rank64_ok_inv b i k c h
  exact Nat.add_lt_add_of_lt_of_le (hri n (List.mem_of_getElem? hn)) (popcount_le _)

/-- `hsub`: the index entry is at least the count it is corrected by — `Bits.rank128` subtracts in `Nat`,
    the Go code in `int32`.  `hi`: `Rank128` computes `i + 64`. -/
theorem rank128_sem (b : BitmapMsg) (i : Nat) (hri : ∀ r ∈ b.rankIndex, r < 2 ^ 31) (hi : i + 64 < 2 ^ 31)
    (hsub : ∀ w n, b.words[i / 64]? = some w → b.rankIndex[(i + 64) / 128]? = some n →
      i / 64 % 2 * popcount w ≤ n) :
    Go.rank128 b.words b.rankIndex i = (okOpt (Bits.rank128 b i)).map (fun p => (p.1, b2n p.2)) := by
  unfold Go.rank128 Bits.rank128
  obtain ⟨h1, h2, h3⟩ := bitPos_split (Nat.lt_of_le_of_lt (Nat.le_add_right i 64) hi)
  have h4 : Go.sar 32 (Go.add 32 i 64) 7 = (i + 64) / 128 := by
    rw [add_small (Nat.lt_trans hi (by decide)), sar_small 7 hi]
  have h5 : (i + 64) / 128 < 2 ^ (32 - 1) := Nat.lt_of_le_of_lt (Nat.div_le_self _ _) hi
  have h6 : Go.and (i / 64) 1 = i / 64 % 2 := by rw [and_eq, Nat.and_one_is_mod]
  simp only [h1, h2, h4, h6, idxS_eq _ _ _ h3, idxS_eq _ _ _ h5, maskAt_le (i % 64) (Nat.le_of_lt (Nat.mod_lt _ (by decide))),
    Option.bind_eq_bind, Option.pure_def]
  cases hr : b.rankIndex[(i + 64) / 128]? with
  | none => cases hw : b.words[i / 64]? <;> simp
  | some n =>
    cases hw : b.words[i / 64]? with
    | none => simp
    | some w =>
      have hn : n < 2 ^ 31 := hri n (List.mem_of_getElem? hr)
      have hs := hsub w n hw hr
      have hpc := popcount_le (w % 2 ^ (i % 64))
      have hpw := popcount_le w
      simp only [Option.bind_some, mask64_and, popcount64_eq, okOpt_ok, Option.map_some]
      generalize popcount (w % 2 ^ (i % 64)) = c at hpc
      generalize popcount w = d at hpw hs
      have hr2 : i / 64 % 2 < 2 := Nat.mod_lt _ (by decide)
      rw [rank128_count n _ d c hn hr2 hpw hpc hs, rank_bit]

theorem indexRank128_lt (ws : List Nat) (h : 64 * ws.length < 2 ^ 31) :
    ∀ r ∈ indexRank128 ws, r < 2 ^ 31 :=
  fun r hr => Nat.lt_of_le_of_lt (indexRank128_le ws r hr) h

/-- on a bitmap whose rank index is the one `bitmap.IndexRank128` computes (`Bits.mk ws "r128"`) `Rank128` is
    plain counting: `hsub` of `rank128_sem` holds by construction -/
theorem rank128_mk_sem (ws : List Nat) (i : Nat) (hi : i < 64 * ws.length)
    (hfit : 64 * ws.length + 64 < 2 ^ 31) :
    Go.rank128 ws (indexRank128 ws) i = some (cnt (getBit ws) i, b2n (getBit ws i)) := by
  have h := rank128_sem (mk ws "r128") i (indexRank128_lt ws (Nat.lt_of_add_right_lt hfit))
    (Nat.lt_trans (Nat.add_lt_add_right hi 64) hfit) (by
    intro w n hw hn
    rw [mk_r128] at hw hn
    simp only at hw hn
    -- the entry read is the count up to word `i / 64` plus, for a right word, the word's own count
    rw [show (i + 64) / 128 = (i / 64 + 1) / 2 by rw [← Nat.add_div_right i (by decide : 0 < 64), Nat.div_div_eq_div_mul],
      indexRank128_near ws _ (Nat.div_lt_of_lt_mul hi), List.getD_eq_getElem?_getD, hw] at hn
    cases hn
    exact Nat.le_add_left _ _)
  rw [rank128_mk_cnt ws i hi] at h
  simpa [mk_r128] using h

theorem selectInWord_eq (w k : Nat) : Go.selectInWord w k = Bits.selectInWord w k := rfl
theorem nextOne_eq (ws : List Nat) (p : Nat) : Go.nextOne ws p = Bits.nextOne ws p := rfl

theorem select_walk_eq (b : BitmapMsg) (i fuel wordI : Nat) :
    Go.select32R64Walk b.rankIndex i fuel wordI = okOpt (Bits.select32R64.walk b i fuel wordI) := by
  induction fuel generalizing wordI with
  | zero => rfl
  | succ fuel ih =>
    unfold Go.select32R64Walk Bits.select32R64.walk
    cases b.rankIndex[wordI + 1]? with
    | none => rfl
    | some r =>
      simp only
      by_cases h : r ≤ i
      · rw [if_pos h, if_pos h]; exact ih (wordI + 1)
      · rw [if_neg h, if_neg h]; rfl

theorem select_pos_lt {ws : List Nat} {wordI w k off : Nat} (hw : ws[wordI]? = some w)
    (ho : Bits.selectInWord w k = some off) : wordI * 64 + off < ws.length * 64 := by
  have hoff : off < 64 := ((selectInWord_eq_some w k off).mp ho).1
  have hwl : wordI < ws.length := (List.getElem?_eq_some_iff.mp hw).1
  omega

theorem nextOne_le (ws : List Nat) (p : Nat) : Bits.nextOne ws p ≤ ws.length * 64 := by
  unfold Bits.nextOne
  simp only
  split
  · rename_i i hf
    have hm := List.mem_of_find?_eq_some hf
    rw [List.mem_range'_1] at hm
    omega
  · omega

theorem select32R64_sem (b : BitmapMsg) (i : Nat) (hi : i < 2 ^ 31) (hlen : b.words.length * 64 < 2 ^ 32) :
    Go.select32R64 b.words b.selectIndex b.rankIndex i = okOpt (Bits.select32R64 b i) := by
  unfold Go.select32R64 Bits.select32R64
  rw [if_neg (Nat.not_le.mpr hi)]
  simp only [Option.bind_eq_bind, Option.pure_def, select_walk_eq, selectInWord_eq, nextOne_eq]
  cases hs : b.selectIndex[i / 32]? with
  | none => rfl
  | some s0 =>
    simp only [Option.bind_some]
    show _ = okOpt (Bits.select32R64.walk b i (b.rankIndex.length + 1) (s0 / 64) >>= _)
    rw [okOpt_bind]
    cases hwk : okOpt (Bits.select32R64.walk b i (b.rankIndex.length + 1) (s0 / 64)) with
    | none => rfl
    | some wordI =>
      simp only [Option.bind_some]
      cases hw : b.words[wordI]? with
      | none => rfl
      | some w =>
        cases hb : b.rankIndex[wordI]? with
        | none => rfl
        | some base =>
          cases ho : Bits.selectInWord w (i - base) with
          | none => simp [ho]
          | some off =>
            simp only [Option.bind_some, ho, okOpt_pure, okOpt_ok, Go.wrap]
            rw [Nat.mod_eq_of_lt (Nat.lt_trans (select_pos_lt hw ho) hlen),
              Nat.mod_eq_of_lt (Nat.lt_of_le_of_lt (nextOne_le b.words _) hlen)]

/-! ### the messages as the translated functions see them (abstraction functions)

  The generated structures `Generated.W.Bitmap`, `VLenArray`, `Slim` have the fields of the Go
  structs (without the `XXX_…` bookkeeping fields of the protobuf runtime); the model's
  `BitmapMsg`, `VLenArrayMsg`, `SlimMsg` (SlimModel/SlimMsg.lean) have the same fields with `Nat`
  values; bytes are `UInt8` in the model and `Nat` in the translation. -/

def absBitmap (b : BitmapMsg) : W.Bitmap :=
  { Words := b.words, RankIndex := b.rankIndex, SelectIndex := b.selectIndex }

def absVLen (v : VLenArrayMsg) : W.VLenArray :=
  { N := v.n, EltCnt := v.eltCnt, PresenceBM := v.presenceBM.map absBitmap,
    PositionBM := v.positionBM.map absBitmap, FixedSize := v.fixedSize, Bytes := natBytes v.bytes }

def absSlim (s : SlimMsg) : W.Slim :=
  { BigInnerCnt := s.bigInnerCnt, ShortSize := s.shortSize, NodeTypeBM := s.nodeTypeBM.map absBitmap,
    Inners := s.inners.map absBitmap, ShortBM := s.shortBM.map absBitmap, ShortTable := s.shortTable,
    InnerPrefixes := s.innerPrefixes.map absVLen, LeafPrefixes := s.leafPrefixes.map absVLen,
    Leaves := s.leaves.map absVLen }

/-- the labels of an inner node as `Slim.getNode` decodes them: the set bits of the short-table
    entry, or the set bits of the words in `[frm, frm + size)` -/
def nodeLabels (ws : List Nat) (frm size : Nat) (short : Option Nat) : List Nat :=
  match short with
  | some bm => (List.range Slim.innerSize).filter (fun k => bm.testBit k)
  | none => Slim.labelsIn ws frm size

/-- the `*SlimTrie` the translated methods receive: the message and the cached `vars` -/
def absTrie (s : SlimMsg) (v : W.slimVars) : W.SlimTrie := { inner := some (absSlim s), vars := some v }

/-- the `*SlimTrie` the loader works on: the message, and whatever `vars` holds -/
def absInst (s : SlimMsg) (v : Option W.slimVars) : W.SlimTrie := { inner := some (absSlim s), vars := v }

theorem absTrie_eq (s : SlimMsg) (v : W.slimVars) : absTrie s v = absInst s (some v) := rfl

/-- the fields `initVars` caches (`initVars_sem`, SlimProps/BridgeSem/GetNode.lean) -/
def varsOf (s : SlimMsg) : W.slimVars :=
  { BigInnerOffset := Go.ofS 32 (240 * (s.bigInnerCnt : Int)),
    ShortMinusInner := Go.ofS 32 ((s.shortSize : Int) - 17),
    ShortMask := 2 ^ s.shortSize - 1 }

/-- `int32(len(b))` -/
theorem conv_len (bs : Bytes) (h : bs.length < 2 ^ 31) : Go.conv 64 true 32 (natBytes bs).length = bs.length := by
  rw [natBytes_length]
  exact conv_narrow_small _ _ _ _ (by decide) (Nat.lt_trans h (by decide))

/-- `a[lo:hi]` on a byte string -/
theorem sliceS_sem (bs : Bytes) (a b : Nat) (ha : a < 2 ^ 31) (hb : b < 2 ^ 31) :
    Go.sliceS 32 (natBytes bs) a b = (okOpt (Slim.sliceBytes bs a b)).map natBytes := by
  unfold Go.sliceS Slim.sliceBytes
  rw [natBytes_length]
  by_cases h : a ≤ b ∧ b ≤ bs.length
  · rw [if_pos h, if_pos ⟨by omega, by omega, h.1, h.2⟩]
    simp [natBytes, List.map_take, List.map_drop]
  · rw [if_neg h, if_neg (fun h' => h ⟨h'.2.2.1, h'.2.2.2⟩)]; rfl

theorem select32R64_bounds (b : BitmapMsg) (i a c : Nat) (h : Bits.select32R64 b i = .ok (a, c)) :
    a < b.words.length * 64 ∧ c ≤ b.words.length * 64 := by
  unfold Bits.select32R64 at h
  cases hs : b.selectIndex[i / 32]? with
  | none => simp [hs] at h
  | some s0 =>
    simp only [hs] at h
    cases hwk : Bits.select32R64.walk b i (b.rankIndex.length + 1) (s0 / 64) with
    | error e => simp [hwk, bind, Except.bind] at h
    | ok wordI =>
      simp only [hwk, bind, Except.bind] at h
      cases hw : b.words[wordI]? with
      | none => simp [hw] at h
      | some w =>
        cases hb : b.rankIndex[wordI]? with
        | none => simp [hw, hb] at h
        | some base =>
          cases ho : Bits.selectInWord w (i - base) with
          | none => simp [hw, hb, ho] at h
          | some off =>
            simp only [hw, hb, ho, pure, Except.pure, Except.ok.injEq, Prod.mk.injEq] at h
            exact ⟨h.1 ▸ select_pos_lt hw ho, h.2 ▸ nextOne_le b.words _⟩

/-! ### `Option.bind_some` as a PROPOSITIONAL rewrite rule

  `Option.bind_some` is proved by `rfl`, so `simp` uses it definitionally and the kernel has to
  re-check `(some a).bind f ≡ f a`; when `f a` starts with a call such as `Go.rank128 … (Go.sub 32 x 1)`
  the kernel compares `some a` with that call by evaluating it, and `Go.sub w x c` with a literal `c`
  is `(x + (2^w - c)) % 2^w`, whose evaluation on a symbolic `x` peels the literal one successor at a
  time.  The twin below has a proof that is not `rfl`: `simp` then builds an explicit congruence proof. -/
theorem bind_some_nr {α β : Type} (a : α) (f : α → Option β) : (some a).bind f = f a := by
  cases h : f a <;> simp [h]

/-- a hand-written message shaped like `Slim.encode` of the complete trie (`Opt{Complete}`) of "abc", "abd",
    "b", "bcd" with values 1 2 3 4 (that it is that encoding is not proved; `exSlim_wf` and, in MostLoops.lean,
    `exSlim_trieFits` are): inner nodes 0, 1, 2 (17-bit bitmaps, stored prefixes), leaves 3 … 6 -/
def exSlim : SlimMsg :=
  { bigInnerCnt := 0, shortSize := 0,
    nodeTypeBM := some { words := [7], rankIndex := [0] },
    inners := some { words := [2216209416204], rankIndex := [0] },
    shortBM := some { words := [0], rankIndex := [0] },
    shortTable := [0],
    innerPrefixes := some { eltCnt := 2, positionBM := some { words := [37], rankIndex := [0, 3], selectIndex := [0] }, bytes := [96, 240, 98, 96, 240], presenceBM := some { words := [3], rankIndex := [0] } },
    leafPrefixes := some { positionBM := some { words := [5], rankIndex := [0, 2], selectIndex := [0] }, bytes := [99, 100], presenceBM := some { words := [8], rankIndex := [0] } },
    leaves := some { n := 4, eltCnt := 4, fixedSize := 1, bytes := [1, 2, 3, 4], presenceBM := some { words := [15], rankIndex := [0] } } }

/-- a fresh session for the key "abd" -/
def exQr : W.querySession :=
  { keyBitLen := 24, key := [97, 98, 100], wordSize := 0, from_ := 0, to := 0, bm := 0, isInner := 0, ithInner := 0,
    hasInnerPrefix := false, innerPrefixLen := 0, innerPrefix := [], ithLeaf := 0, hasLeafPrefix := false, leafPrefix := [] }

theorem exSlim_wf : exSlim.WF := by
  unfold SlimMsg.WF
  refine ⟨by decide, by decide, by decide, ?_, ?_, ?_, ?_, ?_, ?_⟩
  all_goals
    intro b hb
    cases hb
    first
    | (unfold BitmapMsg.WF; decide)
    | (unfold VLenArrayMsg.WF
       refine ⟨by decide, by decide, by decide, ?_, ?_⟩ <;>
       (intro b hb; cases hb <;> (unfold BitmapMsg.WF; decide)))

example : Go.rank64 [7] [0] 2 = some (2, 1) := by decide
example : Go.rank128 [2216209416204] [0] 17 = some (2, 0) := by decide
example : Go.select32R64 [37] [0] [0, 3] 1 = some (2, 5) := by decide
example : (okOpt (Bits.select32R64 { words := [37], rankIndex := [0, 3], selectIndex := [0] } 1)) = some (2, 5) := by decide
example : Go.bitstrLen [98, 96, 240] = some 12 := by decide

end BridgeSem

#print axioms BridgeSem.rank64_sem
#print axioms BridgeSem.rank128_sem
#print axioms BridgeSem.rank128_mk_sem
#print axioms BridgeSem.select32R64_sem
#print axioms BridgeSem.select32R64_bounds
#print axioms BridgeSem.sliceS_sem
#print axioms BridgeSem.exSlim_wf
