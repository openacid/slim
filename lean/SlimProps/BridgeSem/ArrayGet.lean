import Generated.Funcs
import SlimProps.BridgeSem.Calc
import SlimModel.ArrayPkg
import SlimModel.Bits
import SlimProofs.BitsLemmas.Words
/-
  SlimProps.BridgeSem.ArrayGet — tie 1, semantic part: the arithmetic of the lookups of package
  array (array/base.go `bmBit`, `(*Base).GetBytes`; array/int.go `(*U16).Get` as the representative
  of the generated typed getters), statement by statement, against `ArrayPkg.Base.typedGetBytes`
  (SlimModel/ArrayPkg.lean).  The model computes the start index with `wrap32`, so these equalities hold
  with wrap-around and for a negative `idx` (an int32 is given by its pattern `Go.ofS 32 idx`).

  The other typed getters are instances of the same template with 4 / 8 in place of 2
  (array/int.go is generated from one template; `C16` ties them by correspondence).
  The external calls `bitmap.Rank64` (GetBytes) and `endian.Uint16` (`(*U16).Get`) are outside these fragments.
-/

set_option linter.unusedSimpArgs false
set_option linter.unusedVariables false

open Generated

namespace BridgeSem

/-- the model's `wrap32` is reading a pattern back as an int32 -/
theorem toS_ofS_wrap32 (x : Int) : Go.toS 32 (Go.ofS 32 x) = ArrayPkg.wrap32 x := by
  have hc := ofS_cast 32 x
  have hlt := ofS_lt 32 x
  unfold Go.toS ArrayPkg.wrap32
  split <;> omega

theorem wrap32_add (a b : Int) :
    ArrayPkg.wrap32 (ArrayPkg.wrap32 a + ArrayPkg.wrap32 b) = ArrayPkg.wrap32 (a + b) := by
  unfold ArrayPkg.wrap32; omega

theorem ofS_natCast_mod (n : Nat) : Go.ofS 32 (n : Int) = n % 2 ^ 32 := by
  have hc := ofS_cast 32 (n : Int)
  have : ((n % 2 ^ 32 : Nat) : Int) = (n : Int) % (2 : Int) ^ 32 := by simp
  omega

/-- `int32(x)` of an `int`: the pattern of the integer -/
theorem conv_int32 (x : Nat) : Go.conv 64 true 32 x = Go.ofS 32 (x : Int) := by
  rw [conv_narrow _ _ _ _ (by decide), ofS_natCast_mod]

/-- `c := idx >> bmShift` of `bmBit` -/
theorem arrayBmWord_sem (idx : Int) (hlo : -(2 : Int) ^ 31 ≤ idx) (hhi : idx < (2 : Int) ^ 31) :
    Generated.arrayBmWord (Go.ofS 32 idx) = idx / 64 := by
  unfold Generated.arrayBmWord
  have hc := ofS_cast 32 idx
  have hlt := ofS_lt 32 idx
  generalize Go.ofS 32 idx = p at hc hlt ⊢
  have hmin : min 6 32 = 6 := rfl
  unfold Go.sar Go.toS Go.wrap
  simp only [Nat.shiftRight_eq_div_pow, hmin, Nat.reduceSub, Nat.reducePow]
  split <;> split <;> omega

/-- `r := idx & bmMask` of `bmBit` -/
theorem arrayBmBit_sem (idx : Int) (hlo : -(2 : Int) ^ 31 ≤ idx) (hhi : idx < (2 : Int) ^ 31) :
    Generated.arrayBmBit (Go.ofS 32 idx) = idx % 64 := by
  unfold Generated.arrayBmBit
  rw [and_eq, and_63, toS_small (Nat.lt_trans (Nat.mod_lt _ (by decide)) (by decide)), Int.natCast_emod, ofS_cast]
  -- 64 divides 2^32: the low six bits of the pattern are those of `idx`
  exact Int.emod_emod_of_dvd idx (by decide)

/-- `cnt1 := bits.OnesCount64(n & ((uint64(1) << uint(iBit)) - 1))` -/
theorem arrayU16Cnt1_sem (n iBit : Nat) (h : iBit < 64) :
    Generated.arrayU16Cnt1 iBit n = ((Bits.popcount (n % 2 ^ iBit) : Nat) : Int) := by
  unfold Generated.arrayU16Cnt1
  have hle : Go.popcount64 (n % 2 ^ iBit) ≤ 64 := Bits.popcount_le _
  rw [conv_widen_small _ _ _ (by decide) (Nat.lt_trans h (by decide))]
  -- the mask as the left operand; on the present source the line finds nothing and is passed over (so is the `try` of
  -- `arrayU16StIdx_sem`), and no rewrite under harmless/ touches array/int.go
  try rw [go_and_comm (Go.sub 64 _ 1) n]
  rw [and_shl_sub_one n iBit h, toS_small (Nat.lt_of_le_of_lt hle (by decide))]
  rfl

/-- `stIdx := a.Offsets[iBm]*2 + int32(cnt1)*2` (the proof does not use the bound `hc`) -/
theorem arrayU16StIdx_sem (offsets : List Nat) (iBm cnt1 : Nat) (off : Int)
    (hoff : offsets.getD iBm 0 = Go.ofS 32 off) (hc : cnt1 < 2 ^ 63) :
    Generated.arrayU16StIdx offsets cnt1 iBm
      = ArrayPkg.wrap32 (ArrayPkg.wrap32 (off * 2) + ArrayPkg.wrap32 ((cnt1 : Int) * 2)) := by
  unfold Generated.arrayU16StIdx
  try simp only [mul_swap 32 2]               -- `2*x` for `x*2`
  rw [hoff, conv_int32]
  conv => lhs; rw [ofS_eq_natCast (w := 32) (n := 2) (by decide)]
  simp only [mul_ofS, add_ofS]
  have h2 : ((2 : Nat) : Int) = 2 := rfl
  rw [toS_ofS_wrap32, wrap32_add]
  all_goals simp only [h2]
  all_goals (rw [Int.add_comm])

/-- `stIdx := int32(eltsize) * r` of `GetBytes` -/
theorem arrayGetBytesStIdx_sem (eltsize r : Nat) (he : eltsize < 2 ^ 63) (hr : r < 2 ^ 32) :
    Generated.arrayGetBytesStIdx eltsize r = ArrayPkg.wrap32 ((eltsize : Int) * r) := by
  unfold Generated.arrayGetBytesStIdx
  rw [conv_int32]
  conv => lhs; rw [ofS_eq_natCast (w := 32) (n := r) hr]
  rw [mul_ofS, toS_ofS_wrap32]
  all_goals rw [Int.mul_comm]

example : Generated.arrayU16StIdx [0, 10] 3 1 = 26 := by decide

end BridgeSem

#print axioms BridgeSem.arrayBmWord_sem
#print axioms BridgeSem.arrayBmBit_sem
#print axioms BridgeSem.arrayU16Cnt1_sem
#print axioms BridgeSem.arrayU16StIdx_sem
#print axioms BridgeSem.arrayGetBytesStIdx_sem
