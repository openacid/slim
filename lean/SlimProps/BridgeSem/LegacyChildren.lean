import Generated.Funcs
import SlimProps.BridgeSem.PrintAxioms
import SlimProps.BridgeSem.Calc
import SlimProps.BridgeSem.Extern
import SlimModel.Legacy

/-
  SlimProps.BridgeSem.LegacyChildren — tie 1, semantic part, the LEGACY LOADER (trie/slimtrie_marshal.go,
  data written by ≤ 0.5.9): the accessors `before000510ToNewChildrenArray` reads the three old arrays
  with — `bmhas`, `getStepBefore000510`, `getBM16Child` — translated WHOLE into `namespace Generated.WL`
  (package trie type-checked against the SOURCE of package array: `*array.Array32`, `*array.U16` =
  `U16{Base{Array32, EltEncoder}}` with promoted fields; the callees `(*U16).Get` and `bmBit` of array/int.go,
  array/base.go are translated with them) = the model's `Legacy.bmhas`, `u16Get`, `getStep`, `getBM16Child`
  (SlimModel/Legacy.lean), INCLUDING the panics (index / slice bounds, nil `BMElts`, `endian.UintNN` on a short
  slice), under range hypotheses: positions `< 2^31`, fewer than 2^31 bitmap words, `U16GetFits`, `BM16Fits`.

  `getStepBefore000510` decrements in `uint16` (a stored 0 wraps to 65535) and rebases the step from half-bytes
  INCLUDING the label to bits EXCLUDING it: the Go function returns bits, the model half-bytes; the model's `none`
  branch after a positive `bmhas` is shown unreachable.  `getBM16Child` is bridged for BOTH children encodings
  (`Flags & ArrayFlagIsBitmap == 0`: the low 16 bits of the little-endian uint32 element `Elts[eltIdx*4:]`;
  otherwise `bitmap.Getw(BMElts.Words, eltIdx, 16)`; then `<< 1`).

  The proofs order the operands of `+`, `*`, `&` in the goal and in each fact about it the same way
  (`try simp only [go_add_comm, mul_swap, go_and_comm]`) and decide literal tests in both polarities (`lit_tests`),
  so that they do not follow the operand or branch order of the Go source.  These lines are no alternatives: on the
  present source each of them rewrites (all but the one on the goal of `getBM16Child_sem`), since `simp` brings
  commutative operands to its own order; no rewrite under harmless/ touches the three functions or array/int.go.

  External semantics ASSUMED (Generated/GoSem.lean): `bitmap.SafeGet1`, `bitmap.Getw` (transcribed from
  openacid/low bitmap/get.go), `bitmap.Rank64` (`rank64_sem`, Extern.lean), `binary.LittleEndian.Uint16/32`
  with the library's bounds check (`Go.uintLEChk`), `bits.OnesCount64`; `must.Be.*` are debug assertions
  (no effect without the build tag).  The queue / creator loop of `before000510ToNewChildrenArray` itself
  (slice of pointers to a local struct type, closures, `range`, the creator) is NOT translated: the
  model's `Legacy.convert` calls the functions bridged here (`bmhas`, `getStep`, `getBM16Child`) and `Legacy.getBytes`
  (`(*Base).GetBytes` on the leaves array), of which only the start index is bridged, as the fragment
  `arrayGetBytesStIdx_sem` (ArrayGet.lean); its call of `bitmap.Rank64` is `rank64_sem`.
-/

set_option linter.unusedSimpArgs false
set_option linter.unusedVariables false

open Generated Bits

namespace BridgeSem

def absBits (b : BitsMsg) : WL.Bits :=
  { Flags := b.flags, N := b.n, Words := b.words, RankIndex := b.rankIndex }

def absArr (a : Array32Msg) : WL.Array32 :=
  { Cnt := a.cnt, Bitmaps := a.bitmaps, Offsets := a.offsets, Elts := natBytes a.elts, Flags := a.flags,
    EltWidth := a.eltWidth, BMElts := a.bmElts.map absBits }

/-- a `*array.U16` (`U16{Base{Array32, EltEncoder}}`; the encoder is not represented) -/
def absU16 (a : Array32Msg) : WL.U16 := { Base := { Array32 := absArr a } }

/-- `(w >> j) & 1` -/
theorem shr_and_one (w j : Nat) : Go.and (Go.shr w j) 1 = b2n (w.testBit j) := by
  rw [and_eq, shr_eq, Nat.and_one_is_mod, div_pow_mod_two]

theorem b2n_eq_one (b : Bool) : (b2n b == 1) = b := by cases b <;> rfl
theorem b2n_eq_zero (b : Bool) : (b2n b == 0) = !b := by cases b <;> rfl
theorem b2n_one_eq (b : Bool) : (1 == b2n b) = b := by cases b <;> rfl
theorem b2n_ne_zero (b : Bool) : (b2n b != 0) = b := by cases b <;> rfl
theorem b2n_ne_one (b : Bool) : (b2n b != 1) = !b := by cases b <;> rfl
theorem b2n_zero_eq (b : Bool) : (0 == b2n b) = !b := by cases b <;> rfl

/-- comparisons of the literals 0, 1, 2 (both polarities of a test) -/
theorem lit_tests :
    ((0 : Nat) == 0) = true ∧ ((0 : Nat) != 0) = false ∧ ((1 : Nat) == 0) = false ∧ ((1 : Nat) != 0) = true ∧
    ((2 : Nat) == 0) = false ∧ ((2 : Nat) != 0) = true ∧ ((0 : Nat) == 1) = false ∧ ((1 : Nat) == 1) = true ∧
    ((0 : Nat) != 1) = true ∧ ((1 : Nat) != 1) = false ∧ ((0 : Nat) == 2) = false ∧ ((2 : Nat) == 2) = true :=
  ⟨rfl, rfl, rfl, rfl, rfl, rfl, rfl, rfl, rfl, rfl, rfl, rfl⟩

/-- `bitmap.SafeGet1(bm, i) == 1` -/
theorem bmhas_sem (bm : List Nat) (i : Nat) (hi : i < 2 ^ 31) (hlen : bm.length < 2 ^ 31) :
    Generated.WL.bmhas bm i = some (Legacy.bmhas bm i) := by
  unfold Generated.WL.bmhas Go.safeGet1 Legacy.bmhas
  obtain ⟨h1, h2, h3⟩ := bitPos_split hi
  have h4 : Go.conv 64 true 32 bm.length = bm.length :=
    conv_narrow_small _ _ _ _ (by decide) (Nat.lt_trans hlen (by decide))
  have h6 : Go.ltS 32 (i / 64) 0 = false := by rw [ltS_small h3 (Nat.two_pow_pos _)]; simp
  have h7 : Go.leS 32 bm.length (i / 64) = decide (bm.length ≤ i / 64) := leS_small hlen h3
  simp only [h1, h2, h4, conv_bitIdx, h6, h7, Bool.false_or, idxS_eq _ _ _ h3]
  by_cases hle : bm.length ≤ i / 64
  · simp [hle, List.getElem?_eq_none hle]
  · have hlt : i / 64 < bm.length := by omega
    simp [hle, List.getElem?_eq_getElem hlt, shr_and_one, b2n_eq_one, b2n_one_eq]

/-- the result `(uint16, bool)` of `U16.Get` for the model's `Option Nat` -/
def getRes (r : Option Nat) : Nat × Bool := match r with | some v => (v, true) | none => (0, false)

/-- `Get` stays inside `int32`: the offset entry is an `int32` and `offset*2 + rank*2` does not overflow -/
def U16GetFits (a : Array32Msg) (idx : Nat) : Prop :=
  ∀ n off, a.bitmaps[idx / 64]? = some n → a.offsets[idx / 64]? = some off →
    off * 2 + popcount (n % 2 ^ (idx % 64)) * 2 < 2 ^ 31

theorem natBytes_drop_cons (bs : Bytes) (st : Nat) (h : st < bs.length) :
    (natBytes bs).drop st = bs[st].toNat :: (natBytes bs).drop (st + 1) := by
  unfold natBytes
  rw [List.drop_eq_getElem_cons (by simpa using h), List.getElem_map]

theorem uintLEChk2 (bs : Bytes) (st : Nat) (hst : st ≤ bs.length) :
    Go.uintLEChk 2 ((natBytes bs).drop st)
      = match bs[st]?, bs[st + 1]? with
        | some b0, some b1 => some (b0.toNat + 256 * b1.toNat)
        | _, _ => none := by
  unfold Go.uintLEChk Go.uintLittleEndian
  rw [List.length_drop, natBytes_length]
  by_cases h2 : st + 2 ≤ bs.length
  · have h1 : st + 1 < bs.length := h2
    have h0 : st < bs.length := Nat.lt_of_succ_lt h1
    rw [if_pos (Nat.le_sub_of_add_le' h2), List.getElem?_eq_getElem h0, List.getElem?_eq_getElem h1,
      natBytes_drop_cons _ _ h0, natBytes_drop_cons _ _ h1]
    simp [Go.leValNat]
  · rw [if_neg (by omega)]
    by_cases h1 : st + 1 ≤ bs.length
    · rw [List.getElem?_eq_none (by omega : bs.length ≤ st + 1)]; cases bs[st]? <;> rfl
    · rw [List.getElem?_eq_none (by omega : bs.length ≤ st)]

/-- `stIdx := a.Offsets[iBm]*2 + int32(cnt1)*2` -/
theorem u16_start (off c : Nat) (h : off * 2 + c * 2 < 2 ^ 31) :
    Go.add 32 (Go.mul 32 off 2) (Go.mul 32 (Go.conv 64 true 32 c) 2) = off * 2 + c * 2 := by
  have hc2 : c * 2 < 2 ^ 32 := Nat.lt_trans (Nat.lt_of_le_of_lt (Nat.le_add_left _ _) h) (by decide)
  have ho2 : off * 2 < 2 ^ 32 := Nat.lt_trans (Nat.lt_of_le_of_lt (Nat.le_add_right _ _) h) (by decide)
  rw [conv_narrow_small _ _ _ _ (by decide) (Nat.lt_of_le_of_lt (Nat.le_mul_of_pos_right c (by decide)) hc2),
    mul_small ho2, mul_small hc2, add_small (Nat.lt_trans h (by decide))]

theorem U16_Get_sem (a : Array32Msg) (idx : Nat) (hidx : idx < 2 ^ 31) (hfit : U16GetFits a idx) :
    Generated.WL.U16.Get (absU16 a) idx = (okOpt (Legacy.u16Get a idx)).map getRes := by
  unfold Generated.WL.U16.Get Generated.WL.bmBit Legacy.u16Get
  obtain ⟨h1, h2, h3⟩ := bitPos_split hidx
  simp only [absU16, absArr, h1, h2, conv_bitIdx, Option.bind_eq_bind, Option.pure_def, Option.bind_some,
    idxS_eq _ _ _ h3]
  try simp only [go_add_comm, mul_swap, go_and_comm]
  cases hn : a.bitmaps[idx / 64]? with
  | none => rfl
  | some n =>
    have hbit : Go.and (Go.shr n (idx % 64)) 1 = b2n (n.testBit (idx % 64)) := shr_and_one _ _
    try simp only [go_add_comm, mul_swap, go_and_comm] at hbit
    simp only [Option.bind_some, hbit]
    by_cases hb : n.testBit (idx % 64)
    · cases ho : a.offsets[idx / 64]? with
      | none => simp [hb, b2n, okOpt, Except.toOption]
      | some off =>
        have hf := hfit n off hn ho
        have hmask := and_shl_sub_one n (idx % 64) (Nat.mod_lt _ (by decide))
        have hst := u16_start off (popcount (n % 2 ^ (idx % 64))) hf
        try simp only [go_add_comm, mul_swap, go_and_comm] at hmask hst
        simp only [hb, b2n, lit_tests, Bool.not_true, Bool.false_eq_true, if_false, if_true, ↓reduceIte, hmask,
          popcount64_eq, hst, Option.bind_some]
        generalize off * 2 + popcount (n % 2 ^ (idx % 64)) * 2 = st at *
        unfold Go.sliceFromS
        rw [natBytes_length]
        by_cases hle : st ≤ a.elts.length
        · rw [if_pos ⟨hf, hle⟩]
          simp only [Option.bind_some]
          rw [uintLEChk2 _ _ hle]
          cases a.elts[st]? <;> cases a.elts[st + 1]? <;> simp [okOpt, getRes, Except.toOption, pure, Except.pure]
        · rw [if_neg (fun h => hle h.2)]
          have e0 : a.elts[st]? = none := List.getElem?_eq_none (Nat.le_of_lt (Nat.lt_of_not_le hle))
          simp [e0, okOpt, Except.toOption]
    · simp [hb, b2n, okOpt, getRes, Except.toOption, pure, Except.pure]

/-- `Legacy.u16Get` finds an element wherever `Legacy.bmhas` finds the bit set: both read bit `idx % 64` of
    `Bitmaps[idx / 64]` -/
theorem u16Get_none (a : Array32Msg) (idx : Nat) (h : Legacy.u16Get a idx = .ok none) :
    Legacy.bmhas a.bitmaps idx = false := by
  unfold Legacy.u16Get at h
  unfold Legacy.bmhas
  cases hn : a.bitmaps[idx / 64]? with
  | none => rfl
  | some n =>
    simp only [hn] at h ⊢
    by_cases hb : n.testBit (idx % 64)
    · cases ho : a.offsets[idx / 64]? with
      | none => simp [hb, ho] at h
      | some off =>
        simp only [hb, ho, Bool.not_true, Bool.false_eq_true, if_false, ↓reduceIte] at h
        split at h <;> cases h
    · simpa using hb

theorem getStepBefore000510_sem (steps : Array32Msg) (nid : Nat) (hnid : nid < 2 ^ 31)
    (hlen : steps.bitmaps.length < 2 ^ 31) (hfit : U16GetFits steps nid) :
    Generated.WL.getStepBefore000510 (absU16 steps) nid = (okOpt (Legacy.getStep steps nid)).map (fun h => 4 * h) := by
  unfold Generated.WL.getStepBefore000510 Legacy.getStep
  have hb : Generated.WL.bmhas (absU16 steps).Base.Array32.Bitmaps nid = some (Legacy.bmhas steps.bitmaps nid) :=
    bmhas_sem steps.bitmaps nid hnid hlen
  rw [hb, U16_Get_sem steps nid hnid hfit]
  simp only [Option.bind_eq_bind, Option.bind_some, Option.pure_def]
  -- the presence test is decided on both sides at once, whichever polarity the Go code tests
  by_cases hh : Legacy.bmhas steps.bitmaps nid = true
  · simp only [hh, if_true, Bool.not_true, Bool.false_eq_true, if_false, ↓reduceIte]
    rw [okOpt_bind, map_bind', bind_map']
    refine Option.bind_congr fun r hr => ?_
    cases r with
    | none => rw [u16Get_none steps nid (toOption_eq_some.mp hr)] at hh; cases hh   -- unreachable
    | some v =>
      have h2 : Go.mul 32 (Go.conv 16 false 32 (Go.sub 16 v 1)) 4 = 4 * ((v + 65535) % 65536) := by
        rw [conv_widen_u _ _ _ (by decide), Nat.mul_comm 4]
        exact mul_small (Nat.lt_of_lt_of_le (Nat.mul_lt_mul_of_pos_right (Nat.mod_lt _ (by decide)) (by decide))
          (by decide))
      simp only [getRes, h2, (mul_swap _ _ _).trans h2]
      rfl
  · rw [Bool.not_eq_true] at hh
    simp only [hh, Bool.false_eq_true, if_false, Bool.not_false, if_true, ↓reduceIte]
    rfl

/-- `getBM16Child` stays inside `int32`: the offsets are `int32`s and the element position
    (`eltIdx*4` bytes resp. `eltIdx*16` bits) does not overflow -/
def BM16Fits (ch : Array32Msg) (idx : Nat) : Prop :=
  (∀ r ∈ ch.offsets, r < 2 ^ 31) ∧ ∀ e b, Legacy.arrRank ch idx = .ok (e, b) → e * 16 < 2 ^ 31

theorem and_2 (x : Nat) : Go.and x 2 = if x / 2 % 2 = 0 then 0 else 2 := by
  have h := div_pow_mod_two x 1
  have h2 := and_two_pow_eq x 1
  rw [Nat.pow_one] at h h2
  rw [and_eq, h2, h]
  cases x.testBit 1 <;> rfl

theorem uintLEChk4_some (bs : Bytes) (st : Nat) (h4 : st + 4 ≤ bs.length) :
    ∃ v, Go.uintLEChk 4 ((natBytes bs).drop st) = some v ∧
      ∀ b0 b1, bs[st]? = some b0 → bs[st + 1]? = some b1 → Go.and v 65535 = b0.toNat + 256 * b1.toNat := by
  have h0 : st < bs.length := Nat.lt_of_lt_of_le (Nat.lt_add_of_pos_right (by decide)) h4
  have h1 : st + 1 < bs.length := Nat.lt_of_lt_of_le (Nat.add_lt_add_left (by decide) st) h4
  unfold Go.uintLEChk Go.uintLittleEndian
  rw [List.length_drop, natBytes_length, if_pos (Nat.le_sub_of_add_le' h4)]
  refine ⟨_, rfl, ?_⟩
  intro b0 b1 e0 e1
  rw [List.getElem?_eq_getElem h0] at e0
  rw [List.getElem?_eq_getElem h1] at e1
  cases e0; cases e1
  -- the two low bytes decide the low 16 bits
  rw [natBytes_drop_cons _ _ h0, natBytes_drop_cons _ _ h1]
  simp only [List.take_succ_cons, Go.leValNat, and_eq]
  have := byte_lt bs[st]; have := byte_lt bs[st + 1]
  rw [show (65535 : Nat) = 2 ^ 16 - 1 by rfl, Nat.and_two_pow_sub_one_eq_mod]
  omega

/-- `endian.Uint32(a.Elts[st:])` on fewer than four bytes from `st` on: the slice expression or the
    library's bounds check panics -/
theorem elts_uint32_none {β : Type} (bs : Bytes) (st : Nat) (h4 : ¬ st + 4 ≤ bs.length) (f : Nat → Option β) :
    ((Go.sliceFromS 32 (natBytes bs) st).bind fun s => (Go.uintLEChk 4 s).bind f) = none := by
  unfold Go.sliceFromS Go.uintLEChk
  split
  · rw [Option.bind_some, List.length_drop, natBytes_length, if_neg (by omega)]; rfl
  · rfl

theorem getBM16Child_sem (ch : Array32Msg) (idx : Nat) (hidx : idx < 2 ^ 31) (hfit : BM16Fits ch idx) :
    Generated.WL.getBM16Child (absArr ch) idx = okOpt (Legacy.getBM16Child ch idx) := by
  unfold Generated.WL.getBM16Child Legacy.getBM16Child
  have hr := rank64_sem { words := ch.bitmaps, rankIndex := ch.offsets } idx hfit.1 hidx
  simp only at hr
  have hf2 := hfit.2
  unfold Legacy.arrRank at hf2 ⊢
  simp only [absArr, hr, Option.bind_eq_bind, Option.pure_def]
  cases hk : rank64 { words := ch.bitmaps, rankIndex := ch.offsets } idx with
  | error e => rfl
  | ok p =>
    obtain ⟨e, b⟩ := p
    have he := hf2 e b hk
    simp only [okOpt_ok, Option.map_some, Option.bind_some, bind, Except.bind]
    try simp only [go_add_comm, mul_swap, go_and_comm]
    have hfv := and_2 ch.flags
    try simp only [go_add_comm, mul_swap, go_and_comm] at hfv
    by_cases hfl : ch.flags / 2 % 2 = 0
    · have h4 : Go.mul 32 e 4 = e * 4 :=
        mul_small (Nat.lt_trans (Nat.lt_of_le_of_lt (Nat.mul_le_mul_left e (by decide)) he) (by decide))
      try simp only [go_add_comm, mul_swap, go_and_comm] at h4
      simp only [hfl, if_true, ↓reduceIte] at hfv
      simp only [hfv, lit_tests, hfl, decide_true, if_true, h4, Bool.false_eq_true, if_false, ↓reduceIte]
      by_cases h4' : e * 4 + 4 ≤ ch.elts.length
      · unfold Go.sliceFromS
        rw [natBytes_length, if_pos ⟨Nat.lt_of_le_of_lt (Nat.mul_le_mul_left e (by decide)) he,
          Nat.le_trans (Nat.le_add_right _ 4) h4'⟩]
        simp only [Option.bind_some]
        obtain ⟨v, hv, hand⟩ := uintLEChk4_some ch.elts (e * 4) h4'
        rw [hv]
        simp only [Option.bind_some]
        split
        · next b0 b1 _ _ e0 e1 _ _ =>
          have := hand b0 b1 e0 e1
          have := byte_lt b0; have := byte_lt b1
          simp only [okOpt, Except.toOption, pure, Except.pure]
          rw [‹Go.and v 65535 = _›, conv_widen_u _ _ _ (by decide), shl_small (by omega)]
        · next hne =>
          exfalso
          have h3 : e * 4 + 3 < ch.elts.length := h4'
          exact hne _ _ _ _ (List.getElem?_eq_getElem (Nat.lt_of_add_right_lt h3))
            (List.getElem?_eq_getElem (Nat.lt_of_succ_lt (Nat.lt_of_succ_lt h3)))
            (List.getElem?_eq_getElem (Nat.lt_of_succ_lt h3)) (List.getElem?_eq_getElem h3)
      · rw [elts_uint32_none ch.elts (e * 4) h4']
        split
        · next b3 _ _ _ _ e3 => exact absurd (List.getElem?_eq_some_iff.mp e3).1 h4'
        · rfl
    · have hfl' : ¬ (ch.flags / 2 % 2 = 0) := hfl
      simp only [hfl, if_false, ↓reduceIte] at hfv
      simp only [hfv, lit_tests, hfl, decide_false, Bool.false_eq_true, if_false, if_true, ↓reduceIte]
      cases hbm : ch.bmElts with
      | none => rfl
      | some bme =>
        have h16 : Go.mul 32 e 16 = e * 16 := mul_small (Nat.lt_trans he (by decide))
        have h16' : Go.mul 32 16 e = e * 16 := by rw [mul_swap]; exact h16
        obtain ⟨hsar, hand, h3⟩ := bitPos_split he
        simp only [Go.deref, Option.map_some, Option.bind_some, absBits, Go.getw, h16, h16', hsar, hand, conv_bitIdx,
          idxS_eq _ _ _ h3, maskAt_le 16 (by decide), Option.bind_eq_bind, Option.pure_def]
        cases hw : bme.words[e * 16 / 64]? with
        | none => rfl
        | some w =>
          simp only [Option.bind_some, mask64_and, shr_eq]
          rw [shl_small (Nat.lt_of_lt_of_le (Nat.mul_lt_mul_of_pos_right (Nat.mod_lt _ (Nat.two_pow_pos 16))
            (Nat.two_pow_pos 1)) (by decide))]
          simp [okOpt, Except.toOption, bind, Except.bind, pure, Except.pure, Nat.shiftRight_eq_div_pow]

/-- node 0 with the stored step 3 -/
def exSteps : Array32Msg := { cnt := 1, bitmaps := [1], offsets := [0], elts := [3, 0] }
/-- node 0 with the children bitmap 0x0005 in a uint32 element (before 0.5.4) -/
def exChOld : Array32Msg := { cnt := 1, bitmaps := [1], offsets := [0], elts := [5, 0, 1, 0] }
/-- the same as a 16-bit bitmap element (since 0.5.4) -/
def exChNew : Array32Msg := { cnt := 1, bitmaps := [1], offsets := [0], flags := 2, bmElts := some { words := [5] } }

example : U16GetFits exSteps 0 := by
  intro n off h1 h2
  cases h1; cases h2; decide
example : BM16Fits exChOld 0 := by
  refine ⟨by decide, ?_⟩
  intro e b h
  have h' : okOpt (Legacy.arrRank exChOld 0) = some (e, b) := by rw [h]; rfl
  have h2 : okOpt (Legacy.arrRank exChOld 0) = some (0, true) := by decide
  rw [h2] at h'; cases h'; decide
example : BM16Fits exChNew 0 := by
  refine ⟨by decide, ?_⟩
  intro e b h
  have h' : okOpt (Legacy.arrRank exChNew 0) = some (e, b) := by rw [h]; rfl
  have h2 : okOpt (Legacy.arrRank exChNew 0) = some (0, true) := by decide
  rw [h2] at h'; cases h'; decide
example : Generated.WL.getStepBefore000510 (absU16 exSteps) 0 = some 8 := by decide
example : okOpt (Legacy.getStep exSteps 0) = some 2 := by decide
example : Generated.WL.getStepBefore000510 (absU16 exSteps) 1 = some 0 := by decide
example : Generated.WL.getBM16Child (absArr exChOld) 0 = some 10 := by decide
example : Generated.WL.getBM16Child (absArr exChNew) 0 = some 10 := by decide
example : okOpt (Legacy.getBM16Child exChNew 0) = some 10 := by decide
/-- a panic: the element lies beyond `Elts` -/
example : Generated.WL.getBM16Child (absArr { exChOld with elts := [5, 0] }) 0 = none := by decide
example : Generated.WL.bmhas [5] 2 = some true ∧ Generated.WL.bmhas [5] 1 = some false ∧ Generated.WL.bmhas [5] 64 = some false := by decide

end BridgeSem

#print_axioms? BridgeSem.bmhas_sem
#print_axioms? BridgeSem.U16_Get_sem
#print_axioms? BridgeSem.getStepBefore000510_sem
#print_axioms? BridgeSem.getBM16Child_sem
