import Generated.Funcs
import SlimProps.BridgeSem.Common
import SlimModel.Slim
import SlimModel.Bits
import SlimProofs.BitsLemmas.Words
import SlimProofs.Refine.ShortTable
/-
  SlimProps.BridgeSem.ShortSize — tie 1, semantic part: `memIncrOfShortSize` / `findMinShortSize`
  (trie/slimtrie_create.go), the choice of `ShortSize`, = the model's `Slim.memIncr` / `Slim.findMinShortSize`
  (first results).  The Go code computes the memory delta in `int32`, the model in `Int`: the delta is carried through
  the loop as a residue (`Go.ofS 32 mem`), so intermediate wrap-around is harmless and only the RESULT has to fit an
  `int32` (`InI32`); counts and list lengths are non-negative `int32`s (`SortedOK`).  Both translated loops are followed
  in lock step with the model's accumulator-passing loops (`memLoop_spec`, `findLoop_spec`).
-/

open Generated

namespace BridgeSem

/-- the counter table as the translator sees it -/
def natSorted (sorted : Array (List (Nat × Nat))) : List (List (Nat × Nat)) := sorted.toList

/-- the counts and list lengths are non-negative int32 values -/
def SortedOK (sorted : Array (List (Nat × Nat))) : Prop :=
  ∀ l ∈ sorted.toList, l.length < 2 ^ 31 ∧ ∀ e ∈ l, e.2 < 2 ^ 31

theorem array_getD_toList {α : Type} (a : Array α) (i : Nat) (d : α) :
    a.toList.getD i d = a.getD i d := by
  rw [List.getD_eq_getElem?_getD, Array.getD_eq_getD_getElem?, Array.getElem?_toList]


theorem shl_one (ss : Nat) (hss : ss ≤ 30) : Go.shl 32 1 (Go.conv 32 true 64 ss) = 2 ^ ss := by
  have h2 : 2 ^ ss ≤ 2 ^ 30 := Nat.pow_le_pow_right (by omega) hss
  rw [conv_widen_small _ _ _ (by decide) (by omega), shl_small (by omega), Nat.one_mul]

/-- `int32(bits.OnesCount64(uint64(short)))` -/
theorem nbit_eq (short : Nat) (h : short < 2 ^ 31) :
    Go.conv 64 true 32 (Go.popcount64 (Go.conv 32 true 64 short)) = Bits.popcount short := by
  rw [conv_widen_small 32 64 short (by decide) (by omega)]
  exact conv_narrow_small _ _ _ _ (by decide) (Nat.lt_of_le_of_lt (Bits.popcount_le short) (by decide))

/-- the memory update `mem -= (17 - shortSize) * cnt`, in the ring of residues -/
theorem mem_update (mem : Int) (ss cnt : Nat) (hss : ss ≤ 30) (hcnt : cnt < 2 ^ 31) :
    Go.sub 32 (Go.ofS 32 mem) (Go.mul 32 (Go.sub 32 17 ss) cnt)
      = Go.ofS 32 (mem - ((Slim.innerSize : Int) - ss) * cnt) := by
  conv => lhs; rw [ofS_eq_natCast (w := 32) (n := 17) (by omega), ofS_eq_natCast (w := 32) (n := ss) (by omega),
    ofS_eq_natCast (w := 32) (n := cnt) (by omega), sub_ofS, mul_ofS, sub_ofS]
  rfl

theorem set_modify (ith : Array Nat) (nbit : Nat) :
    ith.toList.set nbit (ith.getD nbit 0 + 1) = (ith.modify nbit (· + 1)).toList := by
  rw [Array.toList_modify, List.modify_eq_set, Array.getElem?_toList, ← Array.getD_eq_getD_getElem?]
  rfl

theorem modify_le (ith : Array Nat) (nbit short : Nat) (hith : ∀ j, ith.getD j 0 ≤ short) (j : Nat) :
    (ith.modify nbit (· + 1)).getD j 0 ≤ short + 1 := by
  rw [Refine.getD_modify]
  split
  · exact Nat.succ_le_succ (hith j)
  · exact Nat.le_succ_of_le (hith j)

theorem memLoop_spec (sorted : Array (List (Nat × Nat))) (hok : SortedOK sorted) (ss : Nat) (hss : ss ≤ 30) :
    ∀ fuel k short (ith : Array Nat) (mem : Int) (sc : Nat),
      short + k = 2 ^ ss → k ≤ fuel → (∀ j, ith.getD j 0 ≤ short) →
      (Generated.memIncrOfShortSize_loop1 ss (natSorted sorted) fuel
          (Go.ofS 32 mem, ith.toList, short, sc)).1
        = Go.ofS 32 (Slim.memIncr.go sorted ss k short ith mem) := by
  have h2 : 2 ^ ss ≤ 2 ^ 30 := Nat.pow_le_pow_right (by omega) hss
  intro fuel
  induction fuel with
  | zero =>
    intro k short ith mem sc h1 hk _
    obtain rfl : k = 0 := Nat.le_zero.mp hk
    rfl
  | succ fuel ih =>
    intro k short ith mem sc h1 hk hith
    have hp31 : 2 ^ ss < 2 ^ (32 - 1) := Nat.lt_of_le_of_lt h2 (by decide)
    have hs31 : short < 2 ^ (32 - 1) := Nat.lt_of_le_of_lt (h1 ▸ Nat.le_add_right short k) hp31
    rw [Generated.memIncrOfShortSize_loop1, shl_one ss hss, ltS_small hs31 hp31]
    cases k with
    | zero =>
      have : ¬ short < 2 ^ ss := Nat.not_lt.mpr (Nat.le_of_eq h1.symm)
      simp [this, Slim.memIncr.go]
    | succ k =>
      have hlt : short < 2 ^ ss := by omega
      simp only [hlt, decide_true, if_true, nbit_eq short hs31]
      rw [Slim.memIncr.go]
      generalize Bits.popcount short = nbit
      have hub := hith nbit
      rw [array_getD_toList, show (natSorted sorted).getD nbit [] = sorted.getD nbit [] from array_getD_toList _ _ _]
      generalize hu : ith.getD nbit 0 = used at hub
      generalize hr : sorted.getD nbit [] = row
      have hrowok : row.length < 2 ^ 31 ∧ ∀ e ∈ row, e.2 < 2 ^ 31 := by
        rw [← hr, Array.getD_eq_getD_getElem?]
        cases hg : sorted[nbit]? with
        | none => simp
        | some l => exact hok l (by rw [Array.mem_toList_iff]; exact Array.mem_of_getElem? hg)
      have hu31 : used < 2 ^ (32 - 1) := Nat.lt_of_le_of_lt hub hs31
      rw [conv_narrow_small _ _ _ _ (by decide) (Nat.lt_trans hrowok.1 (by decide)), ltS_small hu31 hrowok.1,
        add_small (Nat.lt_trans (Nat.succ_lt_succ hs31) (by decide))]
      cases hg : row[used]? with
      | none =>
        have : ¬ used < row.length := fun h => by rw [List.getElem?_eq_getElem h] at hg; cases hg
        simp only [this, decide_false, Bool.false_eq_true, if_false]
        exact ih k (short + 1) ith mem sc (by omega) (Nat.le_of_succ_le_succ hk) (fun j => Nat.le_succ_of_le (hith j))
      | some e =>
        obtain ⟨bm, cnt⟩ := e
        have hul : used < row.length := (List.getElem?_eq_some_iff.mp hg).1
        have hcnt : cnt < 2 ^ 31 := hrowok.2 (bm, cnt) (List.mem_of_getElem? hg)
        have hgd : row.getD used (0, 0) = (bm, cnt) := by
          rw [List.getD_eq_getElem?_getD, hg]; rfl
        simp only [hul, decide_true, if_true, hgd]
        -- `(17 - shortSize) * cnt` in either operand order
        have hmu := mem_update mem ss cnt hss hcnt
        try simp only [mul_swap] at hmu
        try simp only [mul_swap]
        rw [add_small (Nat.lt_trans (Nat.succ_lt_succ hu31) (by decide)), hmu, ← hu, set_modify]
        exact ih k (short + 1) _ _ _ (by omega) (Nat.le_of_succ_le_succ hk) (modify_le ith nbit short hith)

theorem memIncr_pat (sorted : Array (List (Nat × Nat))) (hok : SortedOK sorted) (ss : Nat) (hss : ss ≤ 30) :
    (Generated.memIncrOfShortSize_pat (natSorted sorted) ss).1 = Go.ofS 32 (Slim.memIncr sorted ss) := by
  have h2 : 2 ^ ss ≤ 2 ^ 30 := Nat.pow_le_pow_right (by omega) hss
  unfold Generated.memIncrOfShortSize_pat Slim.memIncr
  have hmem : Go.mul 32 (2 ^ ss) 64 = Go.ofS 32 (((2 ^ ss : Nat) : Int) * 64) := by
    conv => lhs; rw [ofS_eq_natCast (w := 32) (n := 2 ^ ss) (by omega),
      ofS_eq_natCast (w := 32) (n := 64) (by omega)]
    rw [mul_ofS]
    rfl
  have hadd := add_small_both (w := 32) (a := ss) (b := 1) (by omega)
  simp only [shl_one ss hss, hmem, (mul_swap _ _ _).trans hmem, hadd.1, hadd.2, ← Array.toList_replicate]
  exact memLoop_spec sorted hok ss hss (2 ^ ss) (2 ^ ss) 0 _ _ 0 (by omega) (Nat.le_refl _)
    (by intro j; simp [Array.getD_eq_getD_getElem?, Array.getElem?_replicate]; split <;> simp)

def InI32 (x : Int) : Prop := -(2 : Int) ^ 31 ≤ x ∧ x < (2 : Int) ^ 31

theorem memIncrOfShortSize_sem (sorted : Array (List (Nat × Nat))) (hok : SortedOK sorted) (ss : Nat)
    (hss : ss ≤ 30) (hr : InI32 (Slim.memIncr sorted ss)) :
    (Generated.memIncrOfShortSize (natSorted sorted) ss).1 = Slim.memIncr sorted ss := by
  unfold Generated.memIncrOfShortSize
  simp only
  rw [memIncr_pat sorted hok ss hss, toS_ofS (by omega) (by simpa using hr.1) (by simpa using hr.2)]

theorem findLoop_spec (sorted : Array (List (Nat × Nat))) (hok : SortedOK sorted)
    (hr : ∀ ss, ss ≤ 10 → InI32 (Slim.memIncr sorted ss)) :
    ∀ fuel k ss sz (minCost : Int) (sc : Nat), ss + k = 11 → k ≤ fuel → sz < ss → InI32 minCost →
      (Generated.findMinShortSize_loop1 (natSorted sorted) fuel (Go.ofS 32 minCost, sc, ss, sz)).2.2.2
        = Slim.findMinShortSize.go sorted k ss sz minCost := by
  intro fuel
  induction fuel with
  | zero =>
    intro k ss sz minCost sc h1 hk hsz _
    obtain rfl : k = 0 := Nat.le_zero.mp hk
    rfl
  | succ fuel ih =>
    intro k ss sz minCost sc h1 hk hsz hmc
    have hs : ss ≤ 11 := h1 ▸ Nat.le_add_right ss k
    have hs31 : ss < 2 ^ (32 - 1) := Nat.lt_of_le_of_lt hs (by decide)
    rw [Generated.findMinShortSize_loop1]
    -- the loop test, written `shortSize < maxShortSize+1` or `shortSize <= maxShortSize`
    simp only [ltS_small hs31 (show 11 < 2 ^ (32 - 1) by decide), leS_small hs31 (show 10 < 2 ^ (32 - 1) by decide)]
    cases k with
    | zero =>
      have : ¬ ss < 11 := Nat.not_lt.mpr (Nat.le_of_eq h1.symm)
      simp only [this, mt Nat.lt_succ_of_le this, decide_false, Bool.false_eq_true, if_false,
        Slim.findMinShortSize.go]
    | succ k =>
      have hlt : ss < 11 := by omega
      have hinc := hr ss (Nat.le_of_lt_succ hlt)
      simp only [hlt, Nat.le_of_lt_succ hlt, decide_true, if_true]
      rw [memIncr_pat sorted hok ss (Nat.le_trans hs (by decide)), add_small (Nat.lt_trans (Nat.succ_lt_succ hs31) (by decide)),
        Slim.findMinShortSize.go]
      have hcmp : Go.ltS 32 (Go.ofS 32 (Slim.memIncr sorted ss)) (Go.ofS 32 minCost)
          = decide (Slim.memIncr sorted ss < minCost) := by
        unfold Go.ltS
        rw [toS_ofS (by omega) (by simpa using hinc.1) (by simpa using hinc.2),
          toS_ofS (by omega) (by simpa using hmc.1) (by simpa using hmc.2)]
      rw [hcmp]
      by_cases hc : Slim.memIncr sorted ss < minCost
      · simp only [hc, decide_true, if_true]
        exact ih k (ss + 1) ss _ _ (by omega) (by omega) (by omega) hinc
      · simp only [hc, decide_false, Bool.false_eq_true, if_false]
        exact ih k (ss + 1) sz _ _ (by omega) (by omega) (by omega) hmc

/-- `hr`: every candidate's memory delta fits an `int32` -/
theorem findMinShortSize_sem (sorted : Array (List (Nat × Nat))) (hok : SortedOK sorted)
    (hr : ∀ ss, ss ≤ 10 → InI32 (Slim.memIncr sorted ss)) :
    (Generated.findMinShortSize (natSorted sorted)).1 = ((Slim.findMinShortSize sorted : Nat) : Int) := by
  rw [Generated.findMinShortSize, Slim.findMinShortSize]
  have hm := memIncr_pat sorted hok 0 (by omega)
  have hl := fun sc => findLoop_spec sorted hok hr 11 10 1 0 (Slim.memIncr sorted 0) sc rfl (by omega)
    (by omega) (hr 0 (by omega))
  -- the loop as an opaque function: to resolve the tuple patterns around the call the kernel evaluates the
  -- matched term, and on `…_loop1 _ 11 _` that is a symbolic run of the translated loops
  obtain ⟨L, hL⟩ : ∃ L, Generated.findMinShortSize_loop1 (natSorted sorted) 11 = L := ⟨_, rfl⟩
  try rw [show (10 : Nat) + 1 = 11 from rfl]     -- the fuel, `maxShortSize + 1` as the translator prints it
  rw [hL] at hl ⊢
  generalize Generated.memIncrOfShortSize_pat (natSorted sorted) 0 = m at hm ⊢
  obtain ⟨mc, sc⟩ := m
  obtain rfl : mc = Go.ofS 32 (Slim.memIncr sorted 0) := hm
  have h1 := hl sc
  simp only []
  generalize L _ = res at h1 ⊢
  obtain ⟨a, b, c, d⟩ := res
  obtain rfl : d = _ := h1
  exact toS_small (Nat.lt_of_le_of_lt (Refine.findMinShortSize_le sorted) (by omega))

end BridgeSem

#print axioms BridgeSem.memIncrOfShortSize_sem
#print axioms BridgeSem.findMinShortSize_sem
