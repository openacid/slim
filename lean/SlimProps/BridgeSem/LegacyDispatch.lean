import Generated.Funcs
import SlimProps.BridgeSem.PrintAxioms
import SlimModel.Legacy
import SlimProofs.WireMarshal

/-
  SlimProps.BridgeSem.LegacyDispatch — tie 1, semantic part, the LEGACY LOADER: the VERSION DISPATCH of
  `(*SlimTrie).Unmarshal` and of `before000510` (trie/slimtrie_marshal.go) as a decision table.

  `Unmarshal` mostly calls into libraries (readers, pbcmpl, error wrapping), so only its DECISION SKELETON is
  translated (`namespace Generated.WP`, P-mode of translate.go): `Unmarshal_plan compat chk` is the list of
  loader steps on the error-free path as a function of the two version predicates the code branches on —
  `chk specs = vers.Check(ver, specs…)`, `compat = vers.IsCompatible(ver, st.compatibleVersions())` — with
  the `if`s, the negations, the `return`s and the ORDER of the calls taken from the source.

  Whenever the model's byte-level `unmarshalDispatch buf` succeeds with `l`, the Go code — instantiated with the
  model's `Version.isCompatible` / `Version.check` — runs exactly the steps `planOf l`; on an incompatible version the
  model answers `Err.incompatible` and the Go code returns after `compatibleVersions`; `before000510` converts iff
  `Version.before000510 ver`.  The `unmarshalMsg_*` theorems say that the model's `Legacy.unmarshalMsg` does the same
  steps in the same order with each `Loaded` value (`innerPrefixTobitstr` THEN `fixLeafSize`; `convert`).

  This is not a textual fingerprint (that is `SlimProps.Bridge.Versions`): the theorems quantify over every
  buffer, and a changed specification string, a dropped `!`, a reordered or removed loader call changes the
  generated function and breaks a proof.  ASSUMED: `vers.Check` / `vers.IsCompatible` are the model's
  `Version.check` / `Version.isCompatible` (SlimModel/Version.lean; they are parameters of the skeleton).
-/

set_option linter.unusedSimpArgs false
set_option linter.unusedVariables false

open Generated Version Frame Wire

namespace BridgeSem

/-- the loader steps that belong to what the byte level has in hand -/
def planOf : Loaded → List String
  | .current _ => ["pbcmpl.Unmarshal st.inner", "init"]
  | .v0510 _ _ => ["pbcmpl.Unmarshal st.inner", "before000512InnerPrefixTobitstr", "before000512FixLeafSize", "init"]
  | .legacy3 _ _ _ _ => ["pbcmpl.Unmarshal children", "pbcmpl.Unmarshal steps", "pbcmpl.Unmarshal leaves", "before000510"]

theorem currentLayout_eq (ver : String) : check ver ["0.5.12", "==0.5.10", "==0.5.11"] = isCurrentLayout ver := rfl
theorem before000512_eq (ver : String) : check ver ["<0.5.12"] = before000512 ver := rfl
theorem before000510_eq (ver : String) : check ver ["==1.0.0", "<0.5.10"] = before000510 ver := rfl

theorem Unmarshal_plan_sem (buf : Bytes) (h : Header) (r : Bytes) (l : Loaded)
    (hh : readHeader buf = .ok (h, r)) (hd : unmarshalDispatch buf = .ok l) :
    Generated.WP.Unmarshal_plan (isCompatible h.version) (check h.version)
      = "pbcmpl.ReadHeader" :: "compatibleVersions" :: planOf l := by
  unfold unmarshalDispatch at hd
  rw [hh] at hd
  simp only at hd
  unfold Generated.WP.Unmarshal_plan
  rw [currentLayout_eq, before000512_eq]
  by_cases hc : isCompatible h.version = false
  · rw [if_pos hc] at hd; cases hd
  · rw [if_neg hc] at hd
    have hc' : isCompatible h.version = true := by simpa using hc
    simp only [hc', Bool.not_true, Bool.false_eq_true, if_false]
    by_cases hcur : isCurrentLayout h.version = true
    · rw [if_pos hcur] at hd
      simp only [hcur, if_true]
      cases hm : readMsg decodeSlim buf with
      | error e => rw [hm] at hd; cases hd
      | ok p =>
        rw [hm] at hd
        simp only at hd
        by_cases hb : before000512 h.version = true
        · rw [if_pos hb] at hd; cases hd; simp [hb, planOf]
        · rw [if_neg hb] at hd; cases hd; simp [hb, planOf]
    · rw [if_neg hcur] at hd
      simp only [hcur, if_false]
      cases h1 : readMsg decodeArray32 buf with
      | error e => rw [h1] at hd; cases hd
      | ok p1 =>
        rw [h1] at hd; simp only at hd
        cases h2 : readMsg decodeArray32 p1.2 with
        | error e => rw [h2] at hd; cases hd
        | ok p2 =>
          rw [h2] at hd; simp only at hd
          cases h3 : readMsg decodeArray32 p2.2 with
          | error e => rw [h3] at hd; cases hd
          | ok p3 => rw [h3] at hd; cases hd; simp [planOf]

theorem Unmarshal_plan_incompatible (buf : Bytes) (h : Header) (r : Bytes)
    (hh : readHeader buf = .ok (h, r)) (hc : isCompatible h.version = false) :
    unmarshalDispatch buf = .error .incompatible
      ∧ Generated.WP.Unmarshal_plan (isCompatible h.version) (check h.version)
          = ["pbcmpl.ReadHeader", "compatibleVersions"] := by
  constructor
  · exact unmarshalDispatch_incompatible hh hc
  · unfold Generated.WP.Unmarshal_plan; simp [hc]

theorem before000510_plan_sem (compat : Bool) (ver : String) :
    Generated.WP.before000510_plan compat (check ver)
      = if before000510 ver then ["before000510ToNewChildrenArray"] else [] := by
  unfold Generated.WP.before000510_plan
  have h := before000510_eq ver
  cases hb : before000510 ver <;> rw [hb] at h <;> simp [h]

theorem unmarshalMsg_current (enc : Option Nat) (buf : Bytes) (m : SlimMsg)
    (hd : unmarshalDispatch buf = .ok (.current m)) : Legacy.unmarshalMsg enc buf = .ok m := by
  unfold Legacy.unmarshalMsg; rw [hd]; rfl

theorem unmarshalMsg_v0510 (enc : Option Nat) (buf : Bytes) (ver : String) (m : SlimMsg)
    (hd : unmarshalDispatch buf = .ok (.v0510 ver m)) :
    Legacy.unmarshalMsg enc buf = (Legacy.innerPrefixTobitstr m >>= fun m' => Legacy.fixLeafSize m' enc) := by
  unfold Legacy.unmarshalMsg; rw [hd]; rfl

theorem unmarshalMsg_legacy3 (enc : Option Nat) (buf : Bytes) (ver : String) (ch steps lvs : Array32Msg)
    (hd : unmarshalDispatch buf = .ok (.legacy3 ver ch steps lvs)) :
    Legacy.unmarshalMsg enc buf = (Legacy.convert ch steps lvs enc >>= fun t => pure (Slim.encodeCreator t)) := by
  unfold Legacy.unmarshalMsg; rw [hd]; rfl

/-- the decision table on the six compatible versions and two others -/
example : (["1.0.0", "0.5.8", "0.5.9", "0.5.10", "0.5.11", "0.5.12", "0.5.7", "0.6.0"].map fun ver =>
    (Generated.WP.Unmarshal_plan (isCompatible ver) (check ver)).drop 2)
    = [planOf (.legacy3 "" {} {} {}), planOf (.legacy3 "" {} {} {}), planOf (.legacy3 "" {} {} {}),
       planOf (.v0510 "" {}), planOf (.v0510 "" {}), planOf (.current {}), [], []] := by
  -- with versions and specs parsed (`Version.parsed`, `parseSpecs_*`) no string is left to evaluate, and the plans agree
  -- as written: `rfl` compares their strings syntactically, deciding their equality in the kernel is the dear part
  simp only [List.map, Generated.WP.Unmarshal_plan, isCompatible_eq, currentLayout_eq, before000512_eq, isCurrentLayout,
    before000512, check_parsed parseSpecs_currentLayout, check_parsed parseSpecs_before000512, parsed]
  rfl

example : (["1.0.0", "0.5.8", "0.5.9"].map fun ver => Generated.WP.before000510_plan true (check ver))
    = [["before000510ToNewChildrenArray"], ["before000510ToNewChildrenArray"], ["before000510ToNewChildrenArray"]] := by
  simp only [List.map, Generated.WP.before000510_plan, before000510_eq, before000510,
    check_parsed parseSpecs_before000510, parsed]
  rfl

/-- the hypotheses of `Unmarshal_plan_sem` are satisfiable: what `Marshal` writes for a well-formed message
    (`Wire.unmarshal_marshal`, SlimProofs/WireMarshal.lean) -/
example (m : SlimMsg) (hwf : m.WF) (hnf : m.NF) (hb : BodyOK (encodeSlim m)) :
    ∃ h r l, readHeader (marshalSlim m) = .ok (h, r) ∧ unmarshalDispatch (marshalSlim m) = .ok l := by
  have hu := unmarshal_marshal m hwf hnf hb
  cases hr : readHeader (marshalSlim m) with
  | error e => unfold unmarshalDispatch at hu; rw [hr] at hu; cases hu
  | ok p => exact ⟨p.1, p.2, _, rfl, hu⟩

end BridgeSem

#print_axioms? BridgeSem.Unmarshal_plan_sem
#print_axioms? BridgeSem.Unmarshal_plan_incompatible
#print_axioms? BridgeSem.before000510_plan_sem
#print_axioms? BridgeSem.unmarshalMsg_v0510
#print_axioms? BridgeSem.unmarshalMsg_legacy3
