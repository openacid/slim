import Generated.GoSem
import SlimProps.BridgeSem.Common
import SlimModel.Slim
import SlimModel.Query
import SlimProofs.BitsLemmas.Words
import SlimProofs.Order
/-
  SlimProps.BridgeSem.Calc — tie 1, semantic part: what several bridge modules share beyond the arithmetic of
  Common.lean and can be said without a definition of Generated/Funcs.lean (the `Go.*` operations of GoSem.lean apart).
  Fragment bridges import this module and not Extern.lean, so that they do not depend on the translation of the
  structures of `Generated.W`.

  * `forLoop`: a translated counting loop reaches the end of its trajectory.
  * `set_take_drop`, `take_drop_end`: the trajectory of a loop that fills a slice position by position.
  * `okOpt` (a model panic is `none`), `natBytes`, `b2n` (a Go 0/1 `int32`): the model's values as the translator
    represents them.
  * `okOpt_bind`, `map_bind'`, `bind_map'`, `toOption_eq_some`: a bridge of a whole function is
    `go (abs x) = (okOpt (model x)).map abs'`, and so is every callee's.  With the callees rewritten and `okOpt` pushed
    through the model's binds both sides begin with the same `(okOpt m).bind`;
    `Option.bind_congr` steps under it with `okOpt m = some a` in hand, and no error branch is ever stated.
    Where the Go code tests before it calls, decide the MODEL's condition (`by_cases`) and rewrite it into both sides;
    a `split` would follow the branch order of the translated term.
  * `and_shl_sub_one`, `conv_bitIdx`, `conv_popcount`, `div_pow_mod_two`: Go idioms on a bit index and on a count of ones.
  * what the fragment bridge and the whole-function bridge of one Go function share, so that neither module imports
    the other (a fragment that a rewrite of the source makes untranslatable must not take the whole-function bridge
    with it): `labelIdxOfKey_nibs`, `keyBit_pos`, `high_half_test`, `half_shift`, `label_of_byte` (getLabelIdxOfKey);
    `labelsOfBm`, `shortRank_pat`, `shortBit_pat` (the short branch of getLeftChildID).
-/

open Generated Bits

namespace BridgeSem

/-- `for i := a; i < n; i++ { … }`.  The translator renders the loop as a fuel-recursive `L` on the tuple of the
    variables the loop assigns (the counter among them, wherever the translator puts it).  `F i` is that tuple when the
    counter is `i`; the one obligation says what a single pass through loop head and body does to `F i`. -/
theorem forLoop {S : Type} {L : Nat → S → S} {F : Nat → S} {a n : Nat}
    (h0 : ∀ s, L 0 s = s)
    (hs : ∀ fuel i, a ≤ i → i ≤ n → L (fuel + 1) (F i) = if i < n then L fuel (F (i + 1)) else F i) :
    ∀ fuel i, a ≤ i → i ≤ n → n - i ≤ fuel → L fuel (F i) = F n := by
  intro fuel
  induction fuel with
  | zero =>
    intro i _ h1 h2
    obtain rfl : i = n := Nat.le_antisymm h1 (Nat.sub_eq_zero_iff_le.mp (Nat.le_zero.mp h2))
    exact h0 _
  | succ fuel ih =>
    intro i ha h1 h2
    rw [hs fuel i ha h1]
    by_cases hlt : i < n
    · rw [if_pos hlt]
      exact ih (i + 1) (Nat.le_succ_of_le ha) hlt (Nat.sub_le_of_le_add (by omega))
    · rw [if_neg hlt, Nat.le_antisymm h1 (Nat.not_lt.mp hlt)]

/-- a loop that stores `K[i]` at position `i`: when the counter is `i` the slice is `K` up to `i` and still `T` from
    `i` on -/
theorem set_take_drop {α : Type} (K T : List α) (i : Nat) (x : α) (hK : K[i]? = some x) (hT : T.length = K.length) :
    (K.take i ++ T.drop i).set i x = K.take (i + 1) ++ T.drop (i + 1) := by
  have hi : i < K.length := (List.getElem?_eq_some_iff.mp hK).1
  rw [List.set_append_right _ _ (by simp [Nat.le_of_lt hi]), List.length_take_of_le (Nat.le_of_lt hi), Nat.sub_self,
    List.drop_eq_getElem_cons (hT ▸ hi), List.set_cons_zero, List.take_add_one, hK]
  simp

theorem take_drop_end {α : Type} (K T : List α) (hT : T.length = K.length) :
    K.take K.length ++ T.drop K.length = K := by
  rw [List.take_length, List.drop_of_length_le (Nat.le_of_eq hT), List.append_nil]

/-! core's `Option.map_bind` / `Option.bind_map` are stated with `∘`, which leaves goals that are not beta reduced -/

theorem map_bind' {α β γ : Type} (x : Option α) (f : α → Option β) (g : β → γ) :
    (x.bind f).map g = x.bind fun a => (f a).map g := by
  cases x <;> rfl

theorem bind_map' {α β γ : Type} (x : Option α) (f : α → β) (g : β → Option γ) :
    (x.map f).bind g = x.bind fun a => g (f a) := by
  cases x <;> rfl

theorem toOption_eq_some {ε α : Type} {x : Except ε α} {a : α} : x.toOption = some a ↔ x = .ok a := by
  cases x <;> simp [Except.toOption]

/-- `uint(i & 63)`: a bit index survives the conversion from `int32` -/
theorem conv_bitIdx (i : Nat) : Go.conv 32 true 64 (i % 64) = i % 64 :=
  conv_widen_small _ _ _ (by decide) (Nat.lt_trans (Nat.mod_lt _ (by decide)) (by decide))

/-- `n & (1<<k - 1)`: the low `k` bits -/
theorem and_shl_sub_one (n k : Nat) (hk : k < 64) : Go.and n (Go.sub 64 (Go.shl 64 1 k) 1) = n % 2 ^ k := by
  have hlt : 2 ^ k < 2 ^ 64 := Nat.pow_lt_pow_right (by omega) hk
  have hp : 0 < 2 ^ k := Nat.two_pow_pos _
  rw [shl_small (by omega), Nat.one_mul, sub_small (by omega) hlt, and_eq]
  exact Nat.and_two_pow_sub_one_eq_mod n k

/-- a Go `bool`-like `int32` (0 / 1) -/
def b2n (b : Bool) : Nat := if b then 1 else 0

/-- a byte string as the translator represents it -/
def natBytes (bs : Bytes) : List Nat := bs.map UInt8.toNat

theorem natBytes_length (bs : Bytes) : (natBytes bs).length = bs.length := by simp [natBytes]

/-- the result of a model function as the translator represents it: a panic is `none` -/
def okOpt {α : Type} (r : Except Err α) : Option α := r.toOption

@[simp] theorem okOpt_ok {α : Type} (a : α) : okOpt (Except.ok a : Except Err α) = some a := rfl
@[simp] theorem okOpt_error {α : Type} (e : Err) : okOpt (Except.error e : Except Err α) = none := rfl
@[simp] theorem okOpt_pure {α : Type} (a : α) : okOpt (pure a : Except Err α) = some a := rfl

theorem okOpt_bind {α β : Type} (x : Except Err α) (f : α → Except Err β) :
    okOpt (x >>= f) = (okOpt x).bind (fun a => okOpt (f a)) := by
  cases x <;> rfl

/-- bit `j` of `w` read by shifting: `(w >> j) & 1` -/
theorem div_pow_mod_two (w j : Nat) : w / 2 ^ j % 2 = b2n (w.testBit j) := by
  rw [Nat.testBit_eq_decide_div_mod_eq]; unfold b2n
  rcases Nat.mod_two_eq_zero_or_one (w / 2 ^ j) with h | h <;> simp [h]

theorem popcount64_eq (x : Nat) : Go.popcount64 x = popcount x := rfl

theorem conv_count {c : Nat} (h : c ≤ 64) : Go.conv 64 true 32 c = c :=
  conv_narrow_small _ _ _ _ (by decide) (Nat.lt_of_le_of_lt h (by decide))

/-- `int32(bits.OnesCount64(x))` needs no side condition: the count is at most 64 -/
theorem conv_popcount (x : Nat) : Go.conv 64 true 32 (Go.popcount64 x) = popcount x :=
  conv_count (popcount_le x)

/-! what the fragment bridge and the whole-function bridge of `getLabelIdxOfKey` and of the short branch of
    `getLeftChildID` share -/

theorem nibs_getD_w (key : Bytes) (i : Nat) :
    (nibs key).getD i 0 =
      if i % 2 = 0 then (key.map UInt8.toNat).getD (i / 2) 0 / 16
      else (key.map UInt8.toNat).getD (i / 2) 0 % 16 := by
  induction key generalizing i with
  | nil => simp [nibs]
  | cons b bs ih =>
    match i with
    | 0 => simp [nibs]
    | 1 => simp [nibs]
    | i + 2 =>
      simp only [nibs, List.getD_cons_succ, List.map_cons, Nat.add_div_right i (Nat.zero_lt_succ 1),
        Nat.add_mod_right i 2]
      exact ih i

theorem nibs_length_w (key : Bytes) : (nibs key).length = 2 * key.length := nibs_length key

theorem getD_map_lt_w (key : Bytes) (j : Nat) : (key.map UInt8.toNat).getD j 0 < 256 := by
  rw [List.getD_eq_getElem?_getD, List.getElem?_map]
  cases key[j]? with
  | none => simp
  | some b => simpa using byte_lt b

theorem rankLabels_bm17 (bm ith : Nat) (h : ith ≤ 17) :
    rankLabels ((List.range Slim.innerSize).filter (fun k => bm.testBit k)) ith
      = ((List.range ith).filter bm.testBit).length := by
  unfold rankLabels
  rw [List.filter_filter, ← cnt_eq_length_filter, ← cnt_eq_length_filter]
  have := cnt_and_lt bm.testBit ith Slim.innerSize
  rw [Nat.min_eq_left (by simp [Slim.innerSize]; omega)] at this
  rw [← this]
  all_goals (apply cnt_congr; intro j _; simp [Bool.and_comm])

theorem labelIdxOfKey_nibs (key : Bytes) (i : Nat) (big : Bool) :
    labelIdxOfKey (nibs key) i big
      = if i < 2 * key.length then
          if big then 1 + (key.map UInt8.toNat).getD (i / 2) 0
          else 1 + (if i % 2 = 0 then (key.map UInt8.toNat).getD (i / 2) 0 / 16
                    else (key.map UInt8.toNat).getD (i / 2) 0 % 16)
        else 0 := by
  -- `i - i % 2` is the even position `2 * (i / 2)`: both half-bytes lie in byte `i / 2`
  have hev : i - i % 2 = 2 * (i / 2) := Nat.sub_eq_of_eq_add (Nat.div_add_mod i 2).symm
  have e1 : 2 * (i / 2) / 2 = i / 2 := Nat.mul_div_cancel_left _ (by decide)
  have e2 : (2 * (i / 2) + 1) / 2 = i / 2 := by rw [Nat.mul_add_div (by decide)]; rfl
  have e3 : 2 * (i / 2) % 2 = 0 := Nat.mul_mod_right 2 _
  have e4 : ¬ (2 * (i / 2) + 1) % 2 = 0 := by rw [Nat.mul_add_mod]; decide
  unfold labelIdxOfKey
  rw [nibs_length_w, hev]
  simp only [nibs_getD_w, e1, e2, e3, e4, if_true, if_false, Nat.div_add_mod']

/-- `ithBit = 1 + int32(b)`, a non-negative `int32` -/
theorem label_of_byte {b : Nat} (hb : b < 256) :
    Go.add 32 1 (Go.conv 8 false 32 b) = 1 + b ∧ Go.toS 32 (1 + b) = ((1 + b : Nat) : Int) := by
  have h : 1 + b < 257 := Nat.add_lt_add_left hb 1
  rw [conv_widen_u _ _ _ (by decide), add_small (Nat.lt_trans h (by decide))]
  exact ⟨rfl, toS_small (Nat.lt_trans h (by decide))⟩

theorem halves_lt {x : Nat} (hx : x < 256) : x / 16 < 256 ∧ x % 16 < 256 :=
  ⟨Nat.lt_of_le_of_lt (Nat.div_le_self x 16) hx, Nat.lt_trans (Nat.mod_lt x (by decide)) (by decide)⟩

/-- `keyBitIdx&7 < 4`: the half-byte at bit position `4 i` is the high one -/
theorem high_half_test (i : Nat) :
    Go.ltS 32 (Go.and (4 * i) 7) 4 = decide (i % 2 = 0) := by
  rw [and_eq, and_7, ltS_small (Nat.lt_trans (Nat.mod_lt _ (by decide)) (by decide)) (by decide)]
  exact decide_eq_decide.mpr (by omega)

/-- bit position `4 i` in a key of `n` bytes: the index `keyBitIdx >> 3` of its byte (a valid operand
    of a signed index expression), and the guard `keyBitIdx < keyBitLen` -/
theorem keyBit_pos (i n : Nat) (hlen : 8 * n < 2 ^ 31) (hi : 4 * i < 2 ^ 31) :
    Go.sar 32 (4 * i) 3 = i / 2 ∧ i / 2 < 2 ^ (32 - 1) ∧ Go.ltS 32 (4 * i) (8 * n) = decide (i < 2 * n) := by
  refine ⟨(sar_small 3 hi).trans (Nat.mul_div_mul_left i 2 (by decide : 0 < 4)),
    Nat.lt_of_le_of_lt (Nat.le_trans (Nat.div_le_self i 2) (Nat.le_mul_of_pos_left i (by decide))) hi, ?_⟩
  rw [ltS_small hi hlen]
  exact decide_eq_decide.mpr (by omega)

/-- `b >> uint(4 - keyBitIdx&4)`, the branch-free spelling of the same choice: the shift amount -/
theorem half_shift (i : Nat) :
    Go.conv 32 true 64 (Go.sub 32 4 (Go.and (4 * i) 4)) = if i % 2 = 0 then 4 else 0 := by
  rw [and_eq, and_4, Nat.mul_div_cancel_left i (by decide : 0 < 4)]
  rcases Nat.mod_two_eq_zero_or_one i with h | h <;> rw [h] <;> rfl

/-- `(b >> 4) & 15` -/
theorem high_half {x : Nat} (hx : x < 256) : Go.and (Go.shr x 4) 15 = x / 16 := by
  rw [and_eq, and_15, shr_eq]
  exact Nat.mod_eq_of_lt (Nat.div_lt_of_lt_mul hx)

/-- the labels a 17-bit bitmap stands for (`Slim.labelsOf (some bm) …`) -/
def labelsOfBm (bm : Nat) : List Nat := (List.range Slim.innerSize).filter (fun k => bm.testBit k)

/-- `int32(bits.OnesCount64(bm & bitmap.Mask[ith]))` (the mask already applied): the number of labels
    of `bm` below `ith`, at most `ith` -/
theorem shortRank_pat (bm ith : Nat) (h : ith ≤ 17) :
    Go.conv 64 true 32 (Go.popcount64 (bm % 2 ^ ith)) = rankLabels (labelsOfBm bm) ith ∧
      rankLabels (labelsOfBm bm) ith ≤ ith := by
  have hle : ((List.range ith).filter bm.testBit).length ≤ ith := by
    have := List.length_filter_le bm.testBit (List.range ith); simpa using this
  rw [conv_popcount, popcount_spec bm ith (Nat.le_trans h (by decide)),
    show rankLabels (labelsOfBm bm) ith = _ from rankLabels_bm17 bm ith h]
  exact ⟨rfl, hle⟩

/-- `int32(bm >> uint(ith) & 1)`: whether `ith` is a label of `bm` -/
theorem shortBit_pat (bm ith : Nat) (h : ith < 17) :
    Go.conv 64 false 32 (Go.and (Go.shr bm (Go.conv 32 true 64 ith)) 1) = b2n ((labelsOfBm bm).contains ith) := by
  have hc : (labelsOfBm bm).contains ith = bm.testBit ith := by
    unfold labelsOfBm
    rw [Bool.eq_iff_iff]
    simp [Slim.innerSize]
    omega
  rw [conv_widen_small _ _ _ (by decide) (Nat.lt_trans h (by decide)), hc, and_eq, Go.shr, Nat.and_one_is_mod,
    Nat.testBit_eq_decide_div_mod_eq, Nat.shiftRight_eq_div_pow, conv_narrow _ _ _ _ (by decide)]
  unfold b2n
  by_cases hb : bm / 2 ^ ith % 2 = 1 <;> simp [hb] <;> omega

end BridgeSem
