import Lean
/-
  SlimProps.BridgeSem.PrintAxioms — `#print_axioms? thm`: `#print axioms thm` when `thm` exists.

  When a Go function cannot be translated on the current tree, the statement of its bridge theorem does not
  elaborate (error: unknown identifier `Generated.W.…`, the class `check` recognises as "the subject of the bridge
  is not translatable").  A plain `#print axioms` of the missing theorem then adds an error `unknown constant
  BridgeSem.…`, which `check` (`classify_tie1_failure`) counts as a consequence of the missing subject too, so either
  spelling ends in the same skip; with this command, which the four loader modules use, the errors of such a module are
  those of the missing subject alone and the missing theorem is reported as a message.  It adds nothing to any proof.
-/
open Lean Elab Command in
elab "#print_axioms? " id:ident : command => do
  let env ← getEnv
  -- the name must be fully qualified
  let n := id.getId
  if env.contains n then
    elabCommand (← `(#print axioms $id))
  else
    logInfo m!"'{n}' is not present on this tree (its statement did not elaborate)"
