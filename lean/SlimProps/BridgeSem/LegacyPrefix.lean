import Generated.Funcs
import SlimProps.BridgeSem.PrintAxioms
import SlimProps.BridgeSem.Calc
import SlimProps.BridgeSem.Extern
import SlimModel.Legacy
import SlimProofs.LegacyPrefix

/-
  SlimProps.BridgeSem.LegacyPrefix — tie 1, semantic part, the LEGACY LOADER (trie/slimtrie_marshal.go):
  `before000512InnerPrefixTobitstr` translated WHOLE (`Generated.W.before000512InnerPrefixTobitstr` and its
  loop `…_loop1`: the three-part guard `ips != nil && ips.PositionBM != nil && len(ips.Bytes) > 0`, the
  loop `for i := int32(0); ; i++` with `bitmap.Select32R64`, the slice `old := ips.Bytes[from:to]` — a VIEW
  of the stored bytes —, the per-prefix arithmetic (`pl`, the control bit `old[0]&1`, the bit length `pl<<3`
  resp. `pl<<3 - TrailingZeros8(old[pl]) - 1` in `int32`), `bitstr.New(string(old[1:]), 0, bitLen)`,
  `copy(old, newPref)` as an update IN PLACE of `st.inner.InnerPrefixes.Bytes`, the end test and `break`)
  = the model's `Legacy.innerPrefixTobitstr` (SlimModel/Legacy.lean), INCLUDING when it panics, under
  `PrefixFits s`: `8 * len(InnerPrefixes.Bytes) + 8 < 2^31`, position bitmap of fewer than 2^32 bits.
  Fuel: the model's own (`len + 1`); running out of it is `none` on both sides.

  The per-prefix step goes through `Legacy.convertOne` (SlimProofs/LegacyPrefix.lean: bit length from the control
  byte and the trailing zeros, then `bitstrNew0`): `convertOne_go` ties each sub-expression of the loop body on
  `old = c0 :: rest` to it — a negative bit length (`int32` pattern ≥ 2^31) panics in `bitstr.New` as the model
  says —, `go_step` writes the model's loop body in terms of it, `loop_sem` is the induction over the fuel.

  External semantics ASSUMED (Generated/GoSem.lean) and related to the model here: `bitstr.New` (transcribed from
  openacid/low bitstr/bitstr.go) = `Legacy.bitstrNew0`, a negative `int32` bit length panics (`bitstrNew_sem`,
  `bitstrNew_negLen`, `bitstrNew_ofS`); `bits.TrailingZeros8` = `Legacy.trailingZeros8`; `copy(view, src)` =
  `Legacy.copyInto`; and `bitmap.Select32R64` (`select32R64_sem`, Extern.lean).
-/

set_option linter.unusedSimpArgs false
set_option linter.unusedVariables false

open Generated Bits

namespace BridgeSem

theorem trailingZeros8_sem (b : UInt8) : Go.trailingZeros8 b.toNat = Legacy.trailingZeros8 b := by
  unfold Go.trailingZeros8 Legacy.trailingZeros8
  cases (List.range 8).find? (fun k => b.toNat.testBit k) <;> rfl

theorem trailingZeros8_le (b : UInt8) : Legacy.trailingZeros8 b ≤ 8 := by
  unfold Legacy.trailingZeros8
  cases h : (List.range 8).find? (fun k => b.toNat.testBit k) with
  | none => simp
  | some k =>
    have := List.mem_of_find?_eq_some h
    simp at this ⊢; omega

theorem maskNat_lt (r : Nat) : Legacy.maskNat r < 256 := by
  unfold Legacy.maskNat; split
  · omega
  · exact Nat.mod_lt _ (by omega)

/-- the mask byte `byte(bitmap.RMask[(8-toBit)&7])` -/
theorem rmask_byte (n : Nat) :
    Go.conv 64 false 8 (2 ^ 64 - 2 ^ (Go.and (Go.sub 32 8 n) 7)) = Legacy.maskNat (n % 8) := by
  have hk : Go.and (Go.sub 32 8 n) 7 = (8 - n % 8) % 8 := by
    rw [and_eq, and_7]; unfold Go.sub Go.wrap; omega
  have hfin : ∀ r : Fin 8, (2 ^ 64 - 2 ^ ((8 - r.val) % 8)) % 2 ^ 8 = Legacy.maskNat r.val := by decide
  rw [hk, conv_narrow _ _ _ _ (by decide)]
  exact hfin ⟨n % 8, Nat.mod_lt _ (by decide)⟩

/-- what `bitstr.New` does once its bounds are checked: the payload `B ++ [x]` is copied into
    `len + 1` zero bytes, its last byte is masked and the mask byte is stored after it -/
theorem bitstrNew_fill (B : List Nat) (x mask : Nat) (hB : B.length + 2 < 2 ^ 31) :
    ((Go.idxS 32 (Go.copyPrefix (List.replicate (B.length + 2) 0) (B ++ [x])) B.length).bind fun y =>
      (Go.setS 32 (Go.copyPrefix (List.replicate (B.length + 2) 0) (B ++ [x])) B.length (Go.and y mask)).bind
        fun b => Go.setS 32 b (B.length + 1) mask) = some (B ++ [x &&& mask, mask]) := by
  have hcp : Go.copyPrefix (List.replicate (B.length + 2) 0) (B ++ [x]) = B ++ [x, 0] := by
    have hm : min (List.replicate (B.length + 2) 0).length (B ++ [x]).length = (B ++ [x]).length := by
      simp
    simp only [Go.copyPrefix, hm]
    rw [List.take_of_length_le (Nat.le_refl _), List.drop_replicate]
    simp
  rw [hcp, idxS_eq _ _ _ (by omega), List.getElem?_append_right (Nat.le_refl _), Nat.sub_self]
  rw [List.getElem?_cons_zero, Option.bind_some, setS_eq _ _ _ _ (by omega) (by simp), Option.bind_some,
    setS_eq _ _ _ _ (by omega) (by simp)]
  simp [and_eq]

/-- `bitstr.New(s, 0, n)` (GoSem transcription), panics included -/
theorem bitstrNew_sem (bs : Bytes) (n : Nat) (hn : n + 7 < 2 ^ 31) :
    Go.bitstrNew (natBytes bs) 0 n = (okOpt (Legacy.bitstrNew0 bs n)).map natBytes := by
  unfold Go.bitstrNew Legacy.bitstrNew0
  by_cases h0 : n = 0
  · subst h0; rfl
  · rw [if_neg (fun h => h0 h.1.symm), if_neg h0]
    have htb : 1 ≤ (n + 7) / 8 ∧ (n + 7) / 8 < 2 ^ 28 := by omega
    have e0 : Go.sar 32 0 3 = 0 := sar_small 3 (Nat.two_pow_pos _)
    have e1 : Go.sar 32 (Go.add 32 n 7) 3 = (n + 7) / 8 := by
      rw [add_small (Nat.lt_trans hn (by decide)), sar_small 3 hn]
    have hmk : (if n % 8 = 0 then 0xff else (0xff <<< (8 - n % 8)) % 256) = Legacy.maskNat (n % 8) := rfl
    simp only [e0, e1, rmask_byte, hmk]
    generalize (n + 7) / 8 = tb at htb
    have ht31 : tb + 1 < 2 ^ (32 - 1) := Nat.lt_of_lt_of_le (Nat.succ_lt_succ htb.2) (by decide)
    have ht32 : tb + 1 < 2 ^ 32 := Nat.lt_trans ht31 (by decide)
    have e2 : Go.sub 32 tb 0 = tb := sub_small (Nat.zero_le _) (Nat.lt_of_succ_lt ht32)
    have e3 : Go.add 32 tb 1 = tb + 1 := add_small ht32
    have e4 : Go.sub 32 tb 1 = tb - 1 := sub_small htb.1 (Nat.lt_of_succ_lt ht32)
    simp only [e2, e3, e4, makeS_eq 32 (tb + 1) ht31, Option.bind_eq_bind, Option.bind_some]
    unfold Go.sliceS
    rw [natBytes_length]
    by_cases hle : tb ≤ bs.length
    · rw [if_pos ⟨Nat.two_pow_pos _, Nat.lt_of_succ_lt ht31, Nat.zero_le _, hle⟩, if_neg (Nat.not_lt.mpr hle)]
      -- the payload `bs[:tb]` is not empty: `B ++ [c]`
      have hbl : (bs.take tb).length = tb := List.length_take_of_le hle
      have hne : bs.take tb ≠ [] := fun h => by rw [h] at hbl; exact absurd hbl.symm (Nat.ne_of_gt htb.1)
      obtain ⟨B, c, hBc⟩ : ∃ B c, bs.take tb = B ++ [c] := ⟨_, _, (List.dropLast_concat_getLast hne).symm⟩
      have htb' : tb = (natBytes B).length + 1 := by rw [← hbl, hBc, natBytes_length]; simp
      have hsrc : ((natBytes bs).drop 0).take (tb - 0) = natBytes B ++ [c.toNat] := by
        rw [List.drop_zero, Nat.sub_zero, natBytes, ← List.map_take, hBc]; simp [natBytes]
      simp only [Option.bind_some, hsrc, hBc]
      rw [htb', Nat.add_sub_cancel, bitstrNew_fill _ _ _ (by omega)]
      simp [natBytes, UInt8.toNat_ofNat', Nat.mod_eq_of_lt (maskNat_lt (n % 8))]
    · rw [if_neg (fun h => hle h.2.2.2), if_pos (Nat.lt_of_not_le hle)]; rfl

theorem bitstrNew_negLen (s : List Nat) (n : Nat) (hlo : 2 ^ 31 ≤ n) (hhi : n < 2 ^ 32) :
    Go.bitstrNew s 0 n = none := by
  unfold Go.bitstrNew
  rw [if_neg (fun h => absurd (h.1 ▸ hlo) (by decide))]
  have e0 : Go.sar 32 0 3 = 0 := sar_small 3 (Nat.two_pow_pos _)
  by_cases hw : n + 7 < 2 ^ 32
  · -- `toBit + 7` is still negative, so is `toByte`: the slice expression panics
    have e1 : 2 ^ 31 ≤ Go.sar 32 (Go.add 32 n 7) 3 := by
      rw [add_small hw]; unfold Go.sar Go.wrap
      rw [if_neg (by omega), Nat.shiftRight_eq_div_pow, show 32 - min 3 32 = 29 from rfl]; omega
    have e2 : Go.sliceS 32 s (Go.sar 32 0 3) (Go.sar 32 (Go.add 32 n 7) 3) = none := by
      unfold Go.sliceS; rw [if_neg (fun h => absurd h.2.1 (Nat.not_lt.mpr e1))]
    simp only [e2, Option.bind_eq_bind]
    cases Go.makeS 32 _ <;> rfl
  · -- `toBit + 7` wraps to `0 … 6`: `toByte = 0`, and `bitStr[l-1]` is `bitStr[-1]`
    have e1 : Go.sar 32 (Go.add 32 n 7) 3 = 0 := by
      have : Go.add 32 n 7 < 8 := by unfold Go.add Go.wrap; omega
      rw [sar_small 3 (Nat.lt_trans this (by decide))]; exact Nat.div_eq_of_lt this
    have e2 : Go.sub 32 0 0 = 0 := sub_small (Nat.le_refl 0) (Nat.two_pow_pos _)
    have e3 : ∀ l : List Nat, Go.idxS 32 l (Go.sub 32 0 1) = none := by
      intro l; unfold Go.idxS; rw [if_neg (by decide)]
    simp only [e0, e1, e2, e3, Option.bind_eq_bind]
    cases Go.makeS 32 _ <;> cases Go.sliceS 32 s 0 0 <;> rfl

/-- the negative bit lengths the loader can come to: `pl<<3 - nZero - 1` with `pl = 0`, or beyond -/
theorem bitstrNew_neg (s : List Nat) (m : Nat) (h1 : 1 ≤ m) (h9 : m ≤ 9) :
    Go.bitstrNew s 0 (2 ^ 32 - m) = none :=
  bitstrNew_negLen s _ (by omega) (by omega)

/-- `bitstr.New(s, 0, bitLen)` on the `int32` pattern of a bit length computed in `Int`, as the model does:
    a negative one panics -/
theorem bitstrNew_ofS (bs : Bytes) (x : Int) (hlo : -(2 : Int) ^ 31 ≤ x) (hhi : x + 7 < (2 : Int) ^ 31) :
    Go.bitstrNew (natBytes bs) 0 (Go.ofS 32 x)
      = (okOpt (if x < 0 then .error (.panic "negative bit length")
                else Legacy.bitstrNew0 bs x.toNat)).map natBytes := by
  by_cases hneg : x < 0
  · have hc := ofS_cast 32 x
    rw [if_pos hneg, bitstrNew_negLen _ _ (by omega) (ofS_lt 32 x)]; rfl
  · have hx : x = ((x.toNat : Nat) : Int) := by omega
    rw [if_neg hneg, hx, ofS_natCast (by omega), Int.toNat_natCast]
    exact bitstrNew_sem bs _ (by omega)

theorem go_step (pbm : BitmapMsg) (fuel i : Nat) (bytes : Bytes) :
    Legacy.innerPrefixTobitstr.go pbm (fuel + 1) i bytes =
      (select32R64 pbm i >>= fun p =>
        Slim.sliceBytes bytes p.1 p.2 >>= fun old =>
          Legacy.convertOne old >>= fun new =>
            if p.2 = (Legacy.copyInto bytes p.1 old.length new).length
            then .ok (Legacy.copyInto bytes p.1 old.length new)
            else Legacy.innerPrefixTobitstr.go pbm fuel (i + 1) (Legacy.copyInto bytes p.1 old.length new)) :=
  Legacy.go_body pbm fuel i bytes

/-- on `old = c0 :: rest`, in the order of the conjuncts: `pl = len(old) - 1`, `old[0]`, the control bit
    `old[0] & 1`, `pl<<3`, `old[pl]`, `old[1:]`, and for either parity `bitstr.New(old[1:], 0, bitLen)` with the
    bit length in `int32` against the model's in `Int` (negative = panic) -/
theorem convertOne_go (c0 : UInt8) (rest : Bytes) (hlen : (rest.length + 1) * 8 < 2 ^ 31) :
    Go.sub 32 (Go.conv 64 true 32 (natBytes (c0 :: rest)).length) 1 = rest.length
    ∧ Go.idxS 64 (natBytes (c0 :: rest)) 0 = some c0.toNat
    ∧ Go.and c0.toNat 1 = c0.toNat % 2
    ∧ Go.shl 32 rest.length 3 = rest.length * 8
    ∧ Go.idxS 32 (natBytes (c0 :: rest)) rest.length = some ((c0 :: rest).getLast?.getD 0).toNat
    ∧ Go.sliceFromS 64 (natBytes (c0 :: rest)) 1 = some (natBytes rest)
    ∧ (c0.toNat % 2 = 0 →
        Go.bitstrNew (natBytes rest) 0 (rest.length * 8) = (okOpt (Legacy.convertOne (c0 :: rest))).map natBytes)
    ∧ (c0.toNat % 2 ≠ 0 →
        Go.bitstrNew (natBytes rest) 0
            (Go.sub 32 (Go.sub 32 (rest.length * 8)
              (Go.conv 64 true 32 (Go.trailingZeros8 ((c0 :: rest).getLast?.getD 0).toNat))) 1)
          = (okOpt (Legacy.convertOne (c0 :: rest))).map natBytes) := by
  have hl : (natBytes (c0 :: rest)).length = rest.length + 1 := natBytes_length _
  have hr : rest.length + 1 < 2 ^ 31 := Nat.lt_of_le_of_lt (Nat.le_mul_of_pos_right _ (by decide)) hlen
  have hr32 : rest.length + 1 < 2 ^ 32 := Nat.lt_trans hr (by decide)
  have h87 : rest.length * 8 + 7 < 2 ^ 31 := by omega
  refine ⟨?_, ?_, ?_, ?_, ?_, ?_, ?_, ?_⟩
  · rw [hl, conv_narrow_small _ _ _ _ (by decide) hr32, sub_small (Nat.le_add_left 1 _) hr32, Nat.add_sub_cancel]
  · rfl
  · rw [and_eq, Nat.and_one_is_mod]
  · rw [shl_small (Nat.lt_trans (Nat.lt_of_le_of_lt (Nat.mul_le_mul_right 8 (Nat.le_succ _)) hlen) (by decide))]
  · rw [idxS_eq _ _ _ (Nat.lt_of_succ_lt hr), List.getLast?_eq_getElem?, natBytes, List.getElem?_map]
    simp
  · unfold Go.sliceFromS; rw [if_pos ⟨by decide, hl ▸ Nat.le_add_left 1 _⟩]; rfl
  · intro hev
    have hb : Legacy.bitLenOf (c0 :: rest) c0 = ((rest.length * 8 : Nat) : Int) := by
      unfold Legacy.bitLenOf; rw [if_pos hev]; rfl
    rw [Legacy.convertOne_cons, hb, if_neg (Int.not_lt.mpr (Int.natCast_nonneg _)), Int.toNat_natCast]
    exact bitstrNew_sem rest _ h87
  · intro hodd
    have htl := trailingZeros8_le ((c0 :: rest).getLast?.getD 0)
    have hb : Legacy.bitLenOf (c0 :: rest) c0
        = ((rest.length * 8 : Nat) : Int) - Legacy.trailingZeros8 ((c0 :: rest).getLast?.getD 0) - 1 := by
      unfold Legacy.bitLenOf; rw [if_neg hodd]; rfl
    rw [Legacy.convertOne_cons, hb, trailingZeros8_sem]
    generalize Legacy.trailingZeros8 _ = tz at htl ⊢
    -- the `int32` subtractions compute the same residue
    have hp : Go.ofS 32 (((rest.length * 8 : Nat) : Int) - tz - 1)
        = Go.sub 32 (Go.sub 32 (rest.length * 8) (Go.conv 64 true 32 tz)) 1 := by
      have htz : tz < 2 ^ 32 := Nat.lt_of_le_of_lt htl (by decide)
      rw [← sub_ofS, ← sub_ofS, ofS_natCast (Nat.lt_trans (Nat.lt_of_le_of_lt (Nat.le_add_right _ 7) h87) (by decide)),
        ofS_natCast htz, conv_narrow_small _ _ _ _ (by decide) htz]
      rfl
    rw [← hp]; exact bitstrNew_ofS rest _ (by omega) (by omega)

def withBytes (s : SlimMsg) (ips : VLenArrayMsg) (bytes : Bytes) : SlimMsg :=
  { s with innerPrefixes := some { ips with bytes := bytes } }

theorem sliceS_len (bs : Bytes) (a b : Nat) (hl : bs.length < 2 ^ 31) :
    Go.sliceS 32 (natBytes bs) a b = (okOpt (Slim.sliceBytes bs a b)).map natBytes := by
  by_cases hab : a < 2 ^ 31 ∧ b < 2 ^ 31
  · exact sliceS_sem bs a b hab.1 hab.2
  · unfold Go.sliceS Slim.sliceBytes
    rw [natBytes_length, if_neg (by omega), if_neg (by omega)]; rfl

theorem sliceBytes_ok_inv {bs old : Bytes} {a b : Nat} (h : Slim.sliceBytes bs a b = .ok old) :
    a ≤ b ∧ b ≤ bs.length ∧ old.length = b - a := by
  unfold Slim.sliceBytes at h
  split at h
  · next hab =>
    cases h
    refine ⟨hab.1, hab.2, ?_⟩
    rw [List.length_take, List.length_drop]
    exact Nat.min_eq_left (Nat.sub_le_sub_right hab.2 a)
  · cases h

theorem copyInto_sem (bs : Bytes) (frm to : Nat) (new : Bytes) :
    Go.copyInto (natBytes bs) frm to (natBytes new) = natBytes (Legacy.copyInto bs frm (to - frm) new) := by
  unfold Go.copyInto Legacy.copyInto
  simp [natBytes, List.map_take, List.map_drop]

theorem copyInto_length (bs : Bytes) (frm n : Nat) (new : Bytes) (h : frm + n ≤ bs.length) :
    (Legacy.copyInto bs frm n new).length = bs.length := by
  unfold Legacy.copyInto
  simp only [List.length_append, List.length_take, List.length_drop]
  omega

theorem bind_of_eq_some {α β : Type} {x : Option α} {a : α} (h : x = some a) (f : α → Option β) :
    x.bind f = f a := h ▸ rfl

theorem loop_sem (s : SlimMsg) (ips : VLenArrayMsg) (pbm : BitmapMsg) (v : Option W.slimVars)
    (hpb : pbm.words.length * 64 < 2 ^ 32) :
    ∀ (fuel i : Nat) (bytes : Bytes), i + fuel < 2 ^ 31 → bytes.length * 8 < 2 ^ 31 →
      (Generated.W.before000512InnerPrefixTobitstr_loop1 (some (absBitmap pbm)) fuel
          (i, absInst (withBytes s ips bytes) v)).map (Sum.elim id Prod.snd)
        = (okOpt (Legacy.innerPrefixTobitstr.go pbm fuel i bytes)).map
            (fun b => absInst (withBytes s ips b) v) := by
  intro fuel
  induction fuel with
  | zero => intro i bytes _ _; rfl
  | succ fuel ih =>
    intro i bytes hi hlen
    have hi31 : i + 1 < 2 ^ 31 := Nat.lt_of_le_of_lt (Nat.add_le_add_left (Nat.succ_le_succ (Nat.zero_le fuel)) i) hi
    have hbl : bytes.length < 2 ^ 31 := Nat.lt_of_le_of_lt (Nat.le_mul_of_pos_right _ (by decide)) hlen
    unfold Generated.W.before000512InnerPrefixTobitstr_loop1
    rw [go_step]
    -- `select` and the slice are the same computation on both sides: step under them (Calc.lean)
    simp only [Go.deref, absBitmap, Option.bind_eq_bind, Option.bind_some,
      select32R64_sem pbm i (Nat.lt_of_succ_lt hi31) hpb, absInst, withBytes, absSlim, absVLen, Option.map_some,
      sliceS_len _ _ _ hbl, okOpt_bind, map_bind', bind_map']
    refine Option.bind_congr fun p hp => Option.bind_congr fun old hsl => ?_
    obtain ⟨frm, to⟩ := p
    obtain ⟨hft, htl, hol⟩ := sliceBytes_ok_inv (toOption_eq_some.mp hsl)
    cases old with
    | nil => rfl
    | cons c0 rest =>
      have hlr : rest.length + 1 = to - frm := hol
      obtain ⟨h1, h2, h3, h4, h5, h6, h7, h8⟩ := convertOne_go c0 rest
        (Nat.lt_of_le_of_lt (Nat.mul_le_mul_right 8 (hlr ▸ Nat.le_trans (Nat.sub_le to frm) htl)) hlen)
      simp only [Function.comp, h1, h2, h3, (go_and_comm 1 _).trans h3, h4, h5, h6, Option.bind_some]
      -- the bit length `X`, chosen along the model's `c0 % 2`; the Go `if` is then decided, not quoted, so it may test
      -- the control bit either way round and against 0 or 1
      obtain ⟨X, hX1, hX⟩ : ∃ X, Go.bitstrNew (natBytes rest) 0 X = (okOpt (Legacy.convertOne (c0 :: rest))).map natBytes ∧
          (c0.toNat % 2 = 0 ∧ X = rest.length * 8 ∨ c0.toNat % 2 = 1 ∧ X = Go.sub 32 (Go.sub 32 (rest.length * 8)
            (Go.conv 64 true 32 (Go.trailingZeros8 ((c0 :: rest).getLast?.getD 0).toNat))) 1) := by
        rcases Nat.mod_two_eq_zero_or_one c0.toNat with hev | hodd
        · exact ⟨_, h7 hev, .inl ⟨hev, rfl⟩⟩
        · exact ⟨_, h8 (by rw [hodd]; decide), .inr ⟨hodd, rfl⟩⟩
      refine (bind_of_eq_some (a := X) ?_ _).trans ?_
      · rcases hX with ⟨h, hx⟩ | ⟨h, hx⟩ <;>
          simp only [h, hx, Nat.reduceBEq, Nat.reduceBNe, Option.pure_def, if_true, if_false, ↓reduceIte, Bool.false_eq_true]
      simp only [hX1, bind_map']
      refine Option.bind_congr fun new hco => ?_
      have hlen' := copyInto_length bytes frm (to - frm) new (by rw [Nat.add_sub_cancel' hft]; exact htl)
      simp only [Function.comp, copyInto_sem, List.length_cons, hlr, Option.bind_some]
      generalize hby : Legacy.copyInto bytes frm (to - frm) new = bytes' at *
      rw [conv_len bytes' (hlen' ▸ hbl)]
      by_cases heq : to = bytes'.length
      · simp [heq]
      · have hne : (to == bytes'.length) = false := by simpa using heq
        have hne' : (bytes'.length == to) = false := by simpa using (fun h => heq (Eq.symm h))
        have hadd : Go.add 32 i 1 = i + 1 := add_small (Nat.lt_trans hi31 (by decide))
        simp only [hne, hne', Bool.false_eq_true, if_false, ↓reduceIte, hadd, heq]
        have ih' := ih (i + 1) bytes' (by rw [Nat.add_right_comm]; exact hi) (hlen' ▸ hlen)
        simp only [absInst, withBytes, absSlim, absVLen, absBitmap] at ih'
        exact ih'

theorem bind_sum {A : Type} (x : Option (Sum A (Nat × A))) :
    (x.bind fun t => match t with
      | Sum.inl r_ => some r_
      | Sum.inr (i, st_) => some st_) = x.map (Sum.elim id Prod.snd) := by
  cases x with
  | none => rfl
  | some t =>
    cases t with
    | inl r => rfl
    | inr p => cases p; rfl

/-- one iteration per byte at most, plus one -/
def prefixFuel (s : SlimMsg) : Nat :=
  match s.innerPrefixes with
  | some ips => ips.bytes.length + 1
  | none => 0

/-- `before000512InnerPrefixTobitstr` stays inside `int32`: eight times the length of
    `InnerPrefixes.Bytes` (a bit length) is an `int32`, the position bitmap has fewer than 2^32 bits -/
def PrefixFits (s : SlimMsg) : Prop :=
  ∀ ips pbm, s.innerPrefixes = some ips → ips.positionBM = some pbm →
    ips.bytes.length * 8 + 8 < 2 ^ 31 ∧ pbm.words.length * 64 < 2 ^ 32

theorem withBytes_self (s : SlimMsg) (ips : VLenArrayMsg) (h : s.innerPrefixes = some ips) :
    withBytes s ips ips.bytes = s := by
  cases s; cases ips; simp_all [withBytes]

theorem before000512InnerPrefixTobitstr_sem (s : SlimMsg) (v : Option W.slimVars) (hfit : PrefixFits s) :
    Generated.W.before000512InnerPrefixTobitstr (prefixFuel s) (absInst s v)
      = (okOpt (Legacy.innerPrefixTobitstr s)).map (fun s' => absInst s' v) := by
  -- the three returns before the loop: evaluation on closed fields, as in `before000512FixLeafSize_panics`
  cases hl : s.innerPrefixes with
  | none => cases s; cases hl; rfl
  | some ips =>
    cases hp : ips.positionBM with
    | none => cases s; cases hl; cases ips; cases hp; rfl
    | some pbm =>
      by_cases hemp : ips.bytes = []
      · cases s; cases hl; cases ips; cases hp; cases hemp; rfl
      · unfold Generated.W.before000512InnerPrefixTobitstr Legacy.innerPrefixTobitstr prefixFuel
        obtain ⟨hlen, hpb⟩ := hfit ips pbm hl hp
        have hlen8 : ips.bytes.length * 8 < 2 ^ 31 := Nat.lt_of_add_right_lt hlen
        have hl63 : (natBytes ips.bytes).length < 2 ^ (64 - 1) := by
          rw [natBytes_length]
          exact Nat.lt_trans (Nat.lt_of_le_of_lt (Nat.le_mul_of_pos_right _ (by decide)) hlen8) (by decide)
        have hpos : 0 < ips.bytes.length := List.length_pos_iff.mpr hemp
        have hL := loop_sem s ips pbm v hpb (ips.bytes.length + 1) 0 ips.bytes
          (by rw [Nat.zero_add]; exact Nat.lt_of_le_of_lt (Nat.add_le_add (Nat.le_mul_of_pos_right _ (by decide)) (by decide)) hlen)
          hlen8
        rw [withBytes_self s ips hl] at hL
        have hise : ips.bytes.isEmpty = false := by simpa using hemp
        -- the emptiness test `len(ips.Bytes) > 0`, however it is written
        have hlt : Go.ltS 64 0 (natBytes ips.bytes).length = decide (0 < ips.bytes.length) := by
          rw [ltS_small (Nat.two_pow_pos _) hl63, natBytes_length]
        have hz2 : Go.leS 64 (natBytes ips.bytes).length 0 = false := by
          rw [leS_small hl63 (Nat.two_pow_pos _), natBytes_length]; exact decide_eq_false (Nat.not_le.mpr hpos)
        have hz : ((natBytes ips.bytes).length == 0) = false := by
          rw [natBytes_length]; exact beq_false_of_ne (Nat.ne_of_gt hpos)
        have hz' : ((natBytes ips.bytes).length != 0) = true := by
          rw [natBytes_length]; exact bne_iff_ne.mpr (Nat.ne_of_gt hpos)
        simp only [absInst, absSlim, absVLen, hl, hp, Go.deref, Option.bind_eq_bind, Option.bind_some,
          Option.map_some, Option.isSome_some, Option.isNone_some, if_true, ↓reduceIte, Option.pure_def, hlt, hpos,
          decide_true, hise, hz, hz', hz2, Bool.false_eq_true, if_false]
        simp only [absInst, absSlim, absVLen, hl, hp, Option.map_some] at hL
        generalize Generated.W.before000512InnerPrefixTobitstr_loop1 _ _ _ = L at hL ⊢
        -- both ways out of the loop (`return`, `break`) hand on the trie: `Sum.elim id Prod.snd`, as in `loop_sem`
        refine Eq.trans (b := L.map (Sum.elim id Prod.snd)) ?_ (hL.trans ?_)
        · rcases L with _ | r | ⟨i, st⟩ <;> rfl
        · cases Legacy.innerPrefixTobitstr.go pbm (ips.bytes.length + 1) 0 ips.bytes with
          | error e => rfl
          | ok b => simp [okOpt, Except.toOption, bind, Except.bind, pure, Except.pure, withBytes, hp]

/-- two stored prefixes in the control-byte form of 0.5.10: `00 61` = the 8 bits of "a", `01 68` = 4 bits `0110`
    followed by the marker bit -/
def exCtrlPrefixes : SlimMsg :=
  { innerPrefixes := some { n := 2, eltCnt := 2, bytes := [0x00, 0x61, 0x01, 0x68], positionBM := some (newBM [0, 2, 4] 5 "s32") } }

def exBitstrPrefixes : SlimMsg :=
  { innerPrefixes := some { n := 2, eltCnt := 2, bytes := [0x61, 0xff, 0x60, 0xf0], positionBM := some (newBM [0, 2, 4] 5 "s32") } }

example : PrefixFits exCtrlPrefixes := by
  intro ips pbm h1 h2
  cases h1; cases h2; decide

example : prefixFuel exCtrlPrefixes = 5 := by decide
example : Generated.W.before000512InnerPrefixTobitstr 5 (absInst exCtrlPrefixes none) = some (absInst exBitstrPrefixes none) := by
  decide +kernel
example : okOpt (Legacy.innerPrefixTobitstr exCtrlPrefixes) = some exBitstrPrefixes := by decide +kernel
/-- a panic: control byte odd and nothing after it (`bitLen = -1`) -/
example : Generated.W.before000512InnerPrefixTobitstr 5
    (absInst { innerPrefixes := some { bytes := [0x01], positionBM := some (newBM [0, 1] 2 "s32") } } none) = none := by
  decide +kernel

end BridgeSem

#print_axioms? BridgeSem.bitstrNew_sem
#print_axioms? BridgeSem.bitstrNew_neg
#print_axioms? BridgeSem.convertOne_go
#print_axioms? BridgeSem.go_step
#print_axioms? BridgeSem.loop_sem
#print_axioms? BridgeSem.before000512InnerPrefixTobitstr_sem
