import Generated.Funcs
import SlimProps.BridgeSem.Common
import SlimModel.Spec
/-
  SlimProps.BridgeSem.NormalizeOpt — tie 1, semantic part: `normalizeOpt` (trie/slimtrie.go).
-/

open Generated

namespace BridgeSem

/-- nil pointers take their defaults and `Complete == true` forces both prefixes: the generated
    decision logic is `Opt.normalize` (SlimModel/Spec.lean), for all 81 combinations of
    nil / false / true; `Complete` itself is left as it was. -/
theorem normalizeOpt_sem (d i l c : Option Bool) :
    Generated.normalizeOpt d i l c =
      (some (Opt.normalize d i l c).dedup, some (Opt.normalize d i l c).inner,
       some (Opt.normalize d i l c).leaf, c) := by
  -- only `Complete` is looked into; the other three are nil or not
  rcases d with _ | d <;> rcases i with _ | i <;> rcases l with _ | l <;> rcases c with _ | _ | _ <;> rfl

end BridgeSem

#print axioms BridgeSem.normalizeOpt_sem
