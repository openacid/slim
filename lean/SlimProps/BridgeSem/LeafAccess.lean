import Generated.Funcs
import SlimProps.BridgeSem.Common
import SlimProps.BridgeSem.Extern
import SlimProps.BridgeSem.VLenGet
import SlimProps.BridgeSem.StrCmp
import SlimModel.Query
import SlimModel.Slim
/-
  SlimProps.BridgeSem.LeafAccess — tie 1, semantic part: `getIthLeafBytes` and `cmpLeafPrefix`
  (trie/slimtrie_query.go) translated WHOLE (`Generated.W.SlimTrie.getIthLeafBytes`, `cmpLeafPrefix`), against
  `leafBytes` of the bit-level view `Slim.view s` and the model's `cmpLeafPrefix` (SlimModel/Query.lean).
  ASSUMED: `bytes.Compare` as GoSem.lean specifies it (`Go.bytesCompare`).
-/

set_option linter.unusedSimpArgs false
set_option linter.unusedVariables false

open Generated Bits

namespace BridgeSem

/-- a nil `Leaves` gives the nil slice, which the translation represents as `[]`; otherwise
    `VLenArray.get`, panics included -/
theorem getIthLeafBytes_sem (s : SlimMsg) (v : W.slimVars) (ith : Nat) (hi : ith < 2 ^ 31)
    (hlv : ∀ va, s.leaves = some va → va.WF ∧ VLenGetFits va ith ∧
      ∀ pos, va.positionBM = some pos → pos.words.length * 64 < 2 ^ 31) :
    W.SlimTrie.getIthLeafBytes (absTrie s v) ith
      = (okOpt ((Slim.view s).leafBytes ith)).map
          (fun o => match o with | some b => natBytes b | none => []) := by
  unfold W.SlimTrie.getIthLeafBytes Slim.view
  simp only [absTrie, absSlim, Go.deref, Option.bind_eq_bind, Option.bind_some, Option.pure_def]
  cases hl : s.leaves with
  | none => rfl
  | some va =>
    obtain ⟨hwf, hfit, hpos⟩ := hlv va hl
    simp only [Option.map_some, Option.isNone_some, Bool.false_eq_true, if_false, Option.bind_some,
      VLenArray_get_sem va ith hwf hi hfit hpos]
    cases Slim.vlenGet va ith <;> rfl

theorem bytesCompare_lex (a b : List Nat) : Go.bytesCompare a b = ordPat (lexCmp a b) := by
  induction a generalizing b with
  | nil => cases b <;> rfl
  | cons x xs ih =>
    cases b with
    | nil => rfl
    | cons y ys =>
      unfold Go.bytesCompare lexCmp
      by_cases h1 : x < y
      · simp [h1, ordPat]
      · by_cases h2 : y < x
        · simp [h1, h2, ordPat]
        · simp only [h1, h2, if_false]; exact ih ys

theorem bytesCompare_sem (a b : Bytes) : Go.bytesCompare (natBytes a) (natBytes b) = ordPat (cmpBytes a b) :=
  bytesCompare_lex _ _

/-- -1, 0, 1 as `int32` bit patterns -/
def ordPat32 : Ordering → Nat
  | .lt => 4294967295
  | .eq => 0
  | .gt => 1

/-- `hhas`, `hlp`: the session holds the leaf prefix `lp` the way `getNode` leaves it (`Decodes`, GetNode.lean) -/
theorem cmpLeafPrefix_sem (s : SlimMsg) (v : W.slimVars) (tail : Bytes) (qr : W.querySession) (lp : Option Bytes)
    (hhas : qr.hasLeafPrefix = lp.isSome) (hlp : ∀ b, lp = some b → qr.leafPrefix = natBytes b) :
    W.SlimTrie.cmpLeafPrefix (absTrie s v) (natBytes tail) qr
      = some (ordPat32 (cmpLeafPrefix (Slim.view s) tail lp)) := by
  unfold W.SlimTrie.cmpLeafPrefix cmpLeafPrefix Slim.view
  simp only [absTrie, absSlim, Go.deref, Option.bind_eq_bind, Option.bind_some, Option.pure_def]
  cases hl : s.leafPrefixes with
  | none => rfl
  | some lps =>
    simp only [Option.map_some, Option.isSome_some, if_true, hhas]
    cases lp with
    | none =>
      have e : Go.bytesCompare (natBytes tail) [] = ordPat (cmpBytes tail []) := bytesCompare_sem tail []
      simp only [Option.isSome_none, Bool.false_eq_true, if_false, Option.bind_some, Option.getD_none, e]
      cases cmpBytes tail [] <;> rfl
    | some b =>
      simp only [Option.isSome_some, if_true, Option.bind_some, Option.getD_some, hlp b rfl, bytesCompare_sem]
      cases cmpBytes tail b <;> rfl

example : W.SlimTrie.getIthLeafBytes (absTrie exSlim (varsOf exSlim)) 2 = some [3] := by decide
example : W.SlimTrie.getIthLeafBytes (absTrie exSlim (varsOf exSlim)) 4 = none := by decide
example : W.SlimTrie.cmpLeafPrefix (absTrie exSlim (varsOf exSlim)) [99, 99]
    { exQr with hasLeafPrefix := true, leafPrefix := [99, 100] } = some 4294967295 := by decide
example : cmpLeafPrefix (Slim.view exSlim) [99, 99] (some [99, 100]) = .lt := by decide

end BridgeSem

#print axioms BridgeSem.getIthLeafBytes_sem
#print axioms BridgeSem.bytesCompare_sem
#print axioms BridgeSem.cmpLeafPrefix_sem
