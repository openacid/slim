import Generated.Funcs
import SlimProps.BridgeSem.Common
import SlimModel.Encode
import SlimProofs.Encode
/-
  SlimProps.BridgeSem.EncCodec — tie 1, semantic part: `Encode` / `Decode` of the fixed-width integer
  encoders of package encode (encode/int.go, encode/int8.go) are the model's codecs
  (`Encode.encodeU/decodeU/encodeS/decodeS`, SlimModel/Encode.lean).

  External calls assumed (specified in lean/Generated/GoSem.lean): `binary.LittleEndian.PutUintN`
  = `Go.putUintLittleEndian`, `binary.LittleEndian.UintN` = `Go.uintLittleEndian`; a type assertion
  `d.(T)` is the identity on a value of type `T`.  A signed argument is given by its bit pattern
  `Go.ofS w v`.  `Decode` on a buffer that is too short panics in Go (`b[:size]`) and is
  `Err.panic` in the model; the theorems are about buffers that are long enough.
  encode/nativeint.go (`bits.UintSize`, a platform constant of an imported package) is not translated.
-/

open Generated

namespace BridgeSem

theorem leBytesNat_eq (w n : Nat) : Go.leBytesNat w n = (leBytes w n).map UInt8.toNat := by
  induction w generalizing n with
  | zero => rfl
  | succ w ih =>
    simp only [Go.leBytesNat, leBytes, List.map_cons, ih, UInt8.toNat_ofNat']
    congr 1
    omega

theorem leValNat_map (bs : Bytes) : Go.leValNat (bs.map UInt8.toNat) = leVal bs := by
  induction bs with
  | nil => rfl
  | cons b bs ih => simp only [List.map_cons, Go.leValNat, leVal, ih]

theorem leBytes_length' (w n : Nat) : (leBytes w n).length = w := Encode.leBytes_length w n

theorem put_fresh (w v : Nat) :
    Go.putUintLittleEndian w (List.replicate w 0) v = (leBytes w v).map UInt8.toNat := by
  unfold Go.putUintLittleEndian
  rw [leBytesNat_eq, List.drop_of_length_le (by simp), List.append_nil]

theorem uint_take (w : Nat) (b : Bytes) :
    Go.uintLittleEndian w ((b.map UInt8.toNat).take w) = leVal (b.take w) := by
  unfold Go.uintLittleEndian
  rw [List.take_take, Nat.min_self, ← List.map_take, leValNat_map]

theorem ofS_eq_toU (w : Nat) (v : Int) : Go.ofS (8 * w) v = Encode.toU w v := rfl

theorem toS_eq_toS (w p : Nat) (hw : 0 < w) : Go.toS (8 * w) p = Encode.toS w p :=
  (Encode.toS_half hw p).symm

/-- the patterns of the translator fit their type -/
theorem leVal_take_lt (w : Nat) (b : Bytes) : leVal (b.take w) < 2 ^ (8 * w) := by
  induction w generalizing b with
  | zero => simp [leVal]
  | succ w ih =>
    cases b with
    | nil => simp only [List.take_nil, leVal]; exact Nat.two_pow_pos _
    | cons x xs =>
      simp only [List.take_succ_cons, leVal]
      have := ih xs
      have hx := byte_lt x
      have : 2 ^ (8 * (w + 1)) = 256 * 2 ^ (8 * w) := by
        rw [Nat.mul_add, Nat.pow_add]; simp [Nat.mul_comm]
      omega

/-! the codecs of width `w` bytes: what every `Encode` / `Decode` of encode/int.go is, up to unfolding -/

theorem decodeU_ok (w : Nat) (b : Bytes) (h : w ≤ b.length) :
    Encode.decodeU w b = .ok (w, Go.uintLittleEndian w ((b.map UInt8.toNat).take w)) := by
  unfold Encode.decodeU
  rw [if_neg (Nat.not_lt.mpr h), uint_take]

/-- `v := uintW(d.(intW))`, `PutUintW(b, v)` on the pattern of `v` -/
theorem encodeS_put (w : Nat) (v : Int) :
    Go.putUintLittleEndian w (List.replicate w 0) (Go.conv (8 * w) true (8 * w) (Go.ofS (8 * w) v))
      = (Encode.encodeS w v).map UInt8.toNat := by
  rw [conv_narrow_small _ _ _ _ (Nat.le_refl _) (ofS_lt _ v), put_fresh]
  rfl

/-- `intW(UintW(b[:w]))` -/
theorem decodeS_ok (w : Nat) (b : Bytes) (hw : 0 < w) (h : w ≤ b.length) :
    Encode.decodeS w b
      = .ok (w, Go.toS (8 * w) (Go.conv (8 * w) false (8 * w)
          (Go.uintLittleEndian w ((b.map UInt8.toNat).take w)))) := by
  unfold Encode.decodeS
  rw [if_neg (Nat.not_lt.mpr h), uint_take, conv_narrow_small _ _ _ _ (Nat.le_refl _) (leVal_take_lt w b),
    toS_eq_toS w _ hw]

theorem encodeU16_sem (v : Nat) : Generated.encodeU16 v = (Encode.encodeU 2 v).map UInt8.toNat := put_fresh 2 v
theorem encodeU32_sem (v : Nat) : Generated.encodeU32 v = (Encode.encodeU 4 v).map UInt8.toNat := put_fresh 4 v
theorem encodeU64_sem (v : Nat) : Generated.encodeU64 v = (Encode.encodeU 8 v).map UInt8.toNat := put_fresh 8 v

theorem decodeU16_sem (b : Bytes) (h : 2 ≤ b.length) :
    Encode.decodeU 2 b = .ok (2, (Generated.decodeU16 (b.map UInt8.toNat)).2) ∧
    (Generated.decodeU16 (b.map UInt8.toNat)).1 = 2 :=
  ⟨decodeU_ok 2 b h, rfl⟩
theorem decodeU32_sem (b : Bytes) (h : 4 ≤ b.length) :
    Encode.decodeU 4 b = .ok (4, (Generated.decodeU32 (b.map UInt8.toNat)).2) ∧
    (Generated.decodeU32 (b.map UInt8.toNat)).1 = 4 :=
  ⟨decodeU_ok 4 b h, rfl⟩
theorem decodeU64_sem (b : Bytes) (h : 8 ≤ b.length) :
    Encode.decodeU 8 b = .ok (8, (Generated.decodeU64 (b.map UInt8.toNat)).2) ∧
    (Generated.decodeU64 (b.map UInt8.toNat)).1 = 8 :=
  ⟨decodeU_ok 8 b h, rfl⟩

/-- encode/int8.go writes the one byte itself -/
theorem encodeI8_sem (v : Int) :
    Generated.encodeI8 (Go.ofS 8 v) = (Encode.encodeS 1 v).map UInt8.toNat := by
  rw [← encodeS_put 1 v]
  show [Go.conv 8 true 8 (Go.ofS 8 v)] = [Go.conv 8 true 8 (Go.ofS 8 v) % 256]
  rw [conv_narrow _ _ _ _ (Nat.le_refl _), Nat.mod_mod]
theorem encodeI16_sem (v : Int) :
    Generated.encodeI16 (Go.ofS 16 v) = (Encode.encodeS 2 v).map UInt8.toNat := encodeS_put 2 v
theorem encodeI32_sem (v : Int) :
    Generated.encodeI32 (Go.ofS 32 v) = (Encode.encodeS 4 v).map UInt8.toNat := encodeS_put 4 v
theorem encodeI64_sem (v : Int) :
    Generated.encodeI64 (Go.ofS 64 v) = (Encode.encodeS 8 v).map UInt8.toNat := encodeS_put 8 v

/-- encode/int8.go reads `b[0]` itself -/
theorem decodeI8_sem (b : Bytes) (h : 1 ≤ b.length) :
    Encode.decodeS 1 b = .ok (1, (Generated.decodeI8 (b.map UInt8.toNat)).2) ∧
    (Generated.decodeI8 (b.map UInt8.toNat)).1 = 1 := by
  refine ⟨?_, rfl⟩
  rw [decodeS_ok 1 b (by decide) h]
  match b, h with
  | x :: xs, _ =>
    have e : Go.uintLittleEndian 1 (((x :: xs).map UInt8.toNat).take 1) = x.toNat := Nat.add_zero _
    rw [e]; rfl
theorem decodeI16_sem (b : Bytes) (h : 2 ≤ b.length) :
    Encode.decodeS 2 b = .ok (2, (Generated.decodeI16 (b.map UInt8.toNat)).2) ∧
    (Generated.decodeI16 (b.map UInt8.toNat)).1 = 2 :=
  ⟨decodeS_ok 2 b (by decide) h, rfl⟩
theorem decodeI32_sem (b : Bytes) (h : 4 ≤ b.length) :
    Encode.decodeS 4 b = .ok (4, (Generated.decodeI32 (b.map UInt8.toNat)).2) ∧
    (Generated.decodeI32 (b.map UInt8.toNat)).1 = 4 :=
  ⟨decodeS_ok 4 b (by decide) h, rfl⟩
theorem decodeI64_sem (b : Bytes) (h : 8 ≤ b.length) :
    Encode.decodeS 8 b = .ok (8, (Generated.decodeI64 (b.map UInt8.toNat)).2) ∧
    (Generated.decodeI64 (b.map UInt8.toNat)).1 = 8 :=
  ⟨decodeS_ok 8 b (by decide) h, rfl⟩

example : Generated.encodeI16 (Go.ofS 16 (-2)) = [254, 255] := by decide
example : Generated.decodeI16 [254, 255, 7] = (2, -2) := by decide

end BridgeSem

#print axioms BridgeSem.encodeU16_sem
#print axioms BridgeSem.encodeU32_sem
#print axioms BridgeSem.encodeU64_sem
#print axioms BridgeSem.decodeU16_sem
#print axioms BridgeSem.decodeU32_sem
#print axioms BridgeSem.decodeU64_sem
#print axioms BridgeSem.encodeI8_sem
#print axioms BridgeSem.encodeI16_sem
#print axioms BridgeSem.encodeI32_sem
#print axioms BridgeSem.encodeI64_sem
#print axioms BridgeSem.decodeI8_sem
#print axioms BridgeSem.decodeI16_sem
#print axioms BridgeSem.decodeI32_sem
#print axioms BridgeSem.decodeI64_sem
