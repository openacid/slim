import Generated.Funcs
import SlimProps.BridgeSem.Common
import SlimProps.BridgeSem.Calc
import SlimModel.Query
import SlimModel.Slim
import SlimProofs.BitsLemmas.Words
/-
  SlimProps.BridgeSem.LeftChild — tie 1, semantic part: the word-level pieces of `getLeftChildID` and of one
  iteration of `leftMost` / `rightMost` (trie/slimtrie_query.go), on either side of the EXTERNAL call
  `bitmap.Rank128` (openacid/low, assumed to be the model's `Bits.rank128`; first result: the number of set bits
  before the position, second: the bit at the position).  With `firstChild - 1 = rank128(from)` the pieces of
  `getLeftChildID` make up `leftChildID` of SlimModel/Query.lean.  The functions whole, calls and loops
  included, are in LeftChildWhole.lean and MostLoops.lean.
-/

set_option linter.unusedSimpArgs false

open Generated Bits

namespace BridgeSem

/-- short node (`qr.bm` is its label bitmap, read from the short table):
    `r0 += int32(bits.OnesCount64(qr.bm & bitmap.Mask[ithBit]))` -/
theorem leftChildShortRank_sem (bm ith : Nat) (h : ith ≤ 17) :
    Generated.leftChildShortRank bm ith = ((rankLabels (labelsOfBm bm) ith : Nat) : Int) := by
  unfold Generated.leftChildShortRank
  simp only [mask64_and, mask64_and']
  rw [(shortRank_pat bm ith h).1]
  exact toS_small (Nat.lt_of_le_of_lt (Nat.le_trans (shortRank_pat bm ith h).2 h) (by decide))

/-- short node: `int32(qr.bm >> uint(ithBit) & 1)` -/
theorem leftChildShortBit_sem (bm ith : Nat) (h : ith < 17) :
    Generated.leftChildShortBit bm ith = if (labelsOfBm bm).contains ith then 1 else 0 := by
  unfold Generated.leftChildShortBit
  rw [shortBit_pat bm ith h]
  cases (labelsOfBm bm).contains ith <;> rfl

/-- other nodes: the position handed to `Rank128`, `qr.from + ithBit` -/
theorem leftChildBitPos_sem (frm ith : Nat) (h : frm + ith < 2 ^ 31) :
    Generated.leftChildBitPos frm ith = ((frm + ith : Nat) : Int) := by
  unfold Generated.leftChildBitPos
  go_simp

/-! ### `leftMost` / `rightMost`: the child followed by one iteration

  `p` is the membership predicate of the inner bitmap, `cnt p k` (SlimProofs/BitsLemmas/Count.lean) the rank of `k`. -/

/-- `idx = r0 + 1` with `r0 = rank(from)`: the child of the first label — the model's
    `r.firstChild` (`leftMost`, SlimModel/Query.lean; `firstChild - 1 = rank128(from)`). -/
theorem leftMostNext_sem (r0 : Nat) (h : r0 + 1 < 2 ^ 31) :
    Generated.leftMostNext r0 = (r0 : Int) + 1 := by
  unfold Generated.leftMostNext; go_simp
  all_goals omega

/-- the position `rightMost` hands to `Rank128`: the last bit of the node, `qr.to - 1` -/
theorem rightMostBitPos_sem (to : Nat) (h0 : 0 < to) (h : to < 2 ^ 31) :
    Generated.rightMostBitPos to = ((to - 1 : Nat) : Int) := by
  unfold Generated.rightMostBitPos; go_simp

/-- `idx = r0 + bit` with `(r0, bit) = Rank128(…, to-1)`: the rank of `to`, i.e. with
    `firstChild = rank(from) + 1` and `labels.length = rank(to) - rank(from)` the model's
    `r.firstChild + r.labels.length - 1` (`rightMost`). -/
theorem rightMostNext_sem (p : Nat → Bool) (to : Nat) (h0 : 0 < to) (h : to < 2 ^ 31) :
    Generated.rightMostNext (if p (to - 1) then 1 else 0) (cnt p (to - 1)) = ((cnt p to : Nat) : Int) := by
  unfold Generated.rightMostNext
  have hle := cnt_le p (to - 1)
  rw [← cnt_last p h0]
  split <;> go_simp <;> omega

theorem rightMostNext_model (p : Nat → Bool) (frm to firstChild nlabels : Nat) (h0 : frm < to)
    (h : to < 2 ^ 31) (hfc : firstChild = cnt p frm + 1) (hn : nlabels = cnt p to - cnt p frm) :
    Generated.rightMostNext (if p (to - 1) then 1 else 0) (cnt p (to - 1))
      = ((firstChild + nlabels - 1 : Nat) : Int) := by
  rw [rightMostNext_sem p to (Nat.zero_lt_of_lt h0) h]
  have := cnt_mono p (Nat.le_of_lt h0)
  congr 1; omega

example : Generated.leftChildShortRank 0b10110 4 = 2 := by decide +kernel
example : Generated.rightMostNext 1 4 = 5 := by decide

end BridgeSem

#print axioms BridgeSem.leftChildShortRank_sem
#print axioms BridgeSem.leftChildShortBit_sem
#print axioms BridgeSem.leftChildBitPos_sem
#print axioms BridgeSem.leftMostNext_sem
#print axioms BridgeSem.rightMostBitPos_sem
#print axioms BridgeSem.rightMostNext_sem
#print axioms BridgeSem.rightMostNext_model
