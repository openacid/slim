import Generated.Funcs
import SlimProps.BridgeSem.Calc
import SlimProps.BridgeSem.EncCodec
import SlimProofs.IndexExact
/-
  SlimProps.BridgeSem.IndexGlue — tie 1, semantic part: the glue of package index (index/index.go)
  around the trie, against SlimModel/Index.lean: the statements of `NewSlimIndex` before the call of
  `trie.NewSlimTrie` (the loop that splits `[]OffsetIndexItem` into keys and offsets, which with
  `encode.I64{}.Encode` are what the model's `Index.new` gives to `build`), and the offset that `Get` / `RangeGet`
  pass to `DataReader.Read` (the value the trie returned, asserted to `int64`; with `encode.I64{}.Decode` it is the
  model's `Slim.leSigned` of the stored 8 bytes, `Index.lookup`).

  External calls assumed: `trie.NewSlimTrie`, `SlimTrie.Get` / `RangeGet` (the other properties) and
  `DataReader.Read` (supplied by the caller) are not part of the fragments; a slice of structs is a
  list of tuples, a type assertion `o.(int64)` is the identity on an `int64`.
-/

set_option linter.unusedSimpArgs false
set_option linter.unusedVariables false

open Generated

namespace BridgeSem

/-- The statement does not depend on how the loop fills the two slices; the proof covers the two
    usual ways (the trajectory given to `forLoop` is not the same): appending to empty slices, or
    assigning the elements of slices made with the full length. -/
theorem newSlimIndexArgs_sem (index : List (List Nat × Nat)) (hl : index.length < 2 ^ 63) :
    Generated.newSlimIndexArgs index = (index.map (·.1), index.map (·.2)) := by
  have hgetD : ∀ i (h : i < index.length), index.getD i ([], 0) = index[i] := by
    intro i h
    rw [List.getD_eq_getElem?_getD, List.getElem?_eq_getElem h]; rfl
  have head : ∀ i, i ≤ index.length → Go.ltS 64 i index.length = decide (i < index.length) :=
    fun i hi => ltS_small (Nat.lt_of_le_of_lt hi hl) hl
  have incr : ∀ i, i < index.length → Go.add 64 i 1 = i + 1 :=
    fun i hi => add_small (Nat.lt_trans (Nat.succ_lt_succ (Nat.lt_trans hi hl)) (by decide))
  unfold Generated.newSlimIndexArgs
  -- In each alternative the pass through the loop is handed over as a goal (`?_`) and the alternative ends in `done`:
  -- a failing `by` nested in a term would be recovered from, and `first` would not move on.
  first
  | -- `keys = append(keys, …)` on `make([]T, 0, …)`: after `i` rounds the first `i` items
    have h := by
      refine forLoop (L := Generated.newSlimIndexArgs_loop1 index index.length) (n := index.length)
        (F := fun i => (i, (index.take i).map (·.1), (index.take i).map (·.2))) (fun _ => rfl)
        (fun fuel i _ hi => ?_) index.length 0 (Nat.le_refl 0) (Nat.zero_le _) (Nat.le_refl _)
      rw [Generated.newSlimIndexArgs_loop1]
      simp only [head i hi, decide_eq_true_eq]
      by_cases hlt : i < index.length
      · simp only [hlt, if_true, hgetD i hlt, incr i hlt, List.take_add_one, List.getElem?_eq_getElem hlt,
          Option.toList_some, List.map_append, List.map_cons, List.map_nil]
      · rw [if_neg hlt, if_neg hlt]
    simp only [List.take_zero, List.map_nil, List.take_length] at h
    simp [h]
    done
  | -- `keys[i] = …` on `make([]T, len(index))`
    have h := by
      refine forLoop (L := Generated.newSlimIndexArgs_loop1 index index.length) (n := index.length)
        (F := fun i => (i, (index.map (·.1)).take i ++ (List.replicate index.length []).drop i,
          (index.map (·.2)).take i ++ (List.replicate index.length 0).drop i)) (fun _ => rfl)
        (fun fuel i _ hi => ?_) index.length 0 (Nat.le_refl 0) (Nat.zero_le _) (Nat.le_refl _)
      rw [Generated.newSlimIndexArgs_loop1]
      simp only [head i hi, decide_eq_true_eq]
      by_cases hlt : i < index.length
      · rw [if_pos hlt, if_pos hlt, hgetD i hlt, incr i hlt, set_take_drop _ _ _ _ (by simp [hlt]) (by simp),
          set_take_drop _ _ _ _ (by simp [hlt]) (by simp)]
      · rw [if_neg hlt, if_neg hlt]
    simp only [List.take_zero, List.nil_append, List.drop_zero] at h
    have e1 := take_drop_end (index.map (·.1)) (List.replicate index.length []) (by simp)
    have e2 := take_drop_end (index.map (·.2)) (List.replicate index.length 0) (by simp)
    rw [List.length_map] at e1 e2
    simp only [h, e1, e2]

/-- the Go value of `[]OffsetIndexItem`: the key bytes and the bit pattern of the `int64` offset -/
def goItems (recs : List Index.Record) : List (List Nat × Nat) :=
  recs.map fun r => (r.key.map UInt8.toNat, Go.ofS 64 r.offset)

theorem newSlimIndex_model (recs : List Index.Record) (hl : recs.length < 2 ^ 63) :
    (Generated.newSlimIndexArgs (goItems recs)).1 = (recs.map (·.key)).map (·.map UInt8.toNat) ∧
    ((Generated.newSlimIndexArgs (goItems recs)).2).map Generated.encodeI64
      = (recs.map (fun r => Index.encI64 r.offset)).map (·.map UInt8.toNat) := by
  rw [newSlimIndexArgs_sem _ (by simpa [goItems] using hl)]
  refine ⟨by simp [goItems], ?_⟩
  simp only [goItems, List.map_map]
  apply List.map_congr_left
  intro r _
  simp only [Function.comp]
  rw [encodeI64_sem]
  rfl

theorem slimIndexGetOffset_sem (b : Bytes) (hb : b.length = 8) :
    Generated.slimIndexGetOffset (Go.ofS 64 (Generated.decodeI64 (b.map UInt8.toNat)).2)
      = Slim.leSigned b := by
  have hd := (decodeI64_sem b (by omega)).1
  unfold Encode.decodeS at hd
  rw [if_neg (by omega), List.take_of_length_le (by omega)] at hd
  injection hd with hd
  injection hd with _ hd
  have hlt : leVal b < 2 ^ (8 * 8) := by
    have := leVal_take_lt 8 b
    rwa [List.take_of_length_le (by omega)] at this
  -- the decoded offset is the signed reading of the pattern `leVal b`; `o.(int64)` reads that pattern again
  unfold Generated.slimIndexGetOffset
  rw [← hd, ← toS_eq_toS 8 _ (by decide), ofS_toS hlt, toS_eq_toS 8 _ (by decide),
    Slim.leSigned_eq_toS b 8 hb (by decide)]

theorem slimIndexRangeGetOffset_sem (b : Bytes) (hb : b.length = 8) :
    Generated.slimIndexRangeGetOffset (Go.ofS 64 (Generated.decodeI64 (b.map UInt8.toNat)).2)
      = Slim.leSigned b := by
  have h := slimIndexGetOffset_sem b hb
  unfold Generated.slimIndexGetOffset at h
  unfold Generated.slimIndexRangeGetOffset
  exact h

example : Generated.newSlimIndexArgs [([1], 5), ([2], 7)] = ([[1], [2]], [5, 7]) := by decide

end BridgeSem

#print axioms BridgeSem.newSlimIndexArgs_sem
#print axioms BridgeSem.newSlimIndex_model
#print axioms BridgeSem.slimIndexGetOffset_sem
#print axioms BridgeSem.slimIndexRangeGetOffset_sem
