import SlimProofs.BuildShape
import SlimProps.C08Accept
/-
  SlimProps.C13Shape — C13, structural half: the option combinations differ only in stored prefix
  information.

  `C13_same_shape`: two successful builds of the same keys and values whose options agree on
  `dedup` produce record arrays of the same shape — the same number of nodes, pointwise the same
  node kind, `big`, `labels`, `firstChild` (inner) and leaf ordinal (leaf) — and the same
  `leafKeyIdx`, `bigCnt` and `elts`.  Only `InnerRec.pref` and the leaf prefix may differ.

  Proof: a simulation between the two runs of `buildLoop` (`buildStep_sim`, `buildLoop_sim`):
  the contexts differ only in `opt`, and `opt` influences control flow only through the
  `stepTooLong` guard, which both runs passed.
-/

/-- a node with its prefix information erased -/
def shapeOf : Node → Option (Bool × List Nat × Nat) × Option Nat
  | .inner r => (some (r.big, r.labels, r.firstChild), none)
  | .leaf ith _ => (none, some ith)

namespace C13Shape

open BuildInv BuildShape

/-- states that are equal after erasing prefix information -/
structure StSim (st st' : BSt) : Prop where
  isBig : st'.isBig = st.isBig
  bigCnt : st'.bigCnt = st.bigCnt
  queue : st'.queue = st.queue
  nodes : st'.nodes.map shapeOf = st.nodes.map shapeOf
  leafKeyIdx : st'.leafKeyIdx = st.leafKeyIdx

/-- The options enter a step only through the `stepTooLong` guard, which both runs passed, and
    through the prefix stored in the new node, which `shapeOf` erases. -/
theorem buildStep_sim (c : BCtx) (opt' : Opt) {st st' s1 s1' : BSt} (hs : StSim st st')
    (o : Subset) (h : buildStep c st o = .ok s1)
    (h' : buildStep { c with opt := opt' } st' o = .ok s1') : StSim s1 s1' := by
  by_cases hleaf : o.e - o.s = 1
  · rw [buildStep_leaf_eq _ _ o hleaf] at h h'
    cases h
    cases h'
    refine ⟨hs.isBig, hs.bigCnt, hs.queue, ?_, congrArg (·.push o.s) hs.leafKeyIdx⟩
    simp only [Array.map_push, hs.nodes, hs.leafKeyIdx, shapeOf]
  · rw [buildStep_inner_eq _ _ o hleaf _ rfl _ rfl] at h h'
    obtain ⟨_, _, rfl⟩ := ok_of_guards h
    have e := (ok_of_guards h').2.2
    simp only [hs.isBig, hs.queue, hs.bigCnt] at e
    cases e
    -- the two new records differ in `pref` and in the context their fields are read from, which
    -- agrees with `c` in every field they read
    refine ⟨rfl, rfl, rfl, ?_, hs.leafKeyIdx⟩
    simp only [Array.map_push, hs.nodes, shapeOf]
    rfl

theorem buildLoop_sim (c : BCtx) (opt' : Opt) (fuel i : Nat) {st st' s1 s1' : BSt}
    (hs : StSim st st') (h : buildLoop c fuel i st = .ok s1)
    (h' : buildLoop { c with opt := opt' } fuel i st' = .ok s1') : StSim s1 s1' :=
  have ⟨_, hR⟩ := buildLoop_induct₂ (fun _ => StSim) (fun _ _ _ hs => congrArg Array.size hs.queue)
    (fun i st st' s1 s1' hs hi hi' hst hst' => by
      simp only [hs.queue] at hst'
      exact buildStep_sim c opt' hs _ hst hst')
    fuel i st st' s1 s1' hs h h'
  hR

theorem mkCtx_opt (keys : List Bytes) (vals : Option (List Bytes)) {o o' : Opt}
    (hd : o.dedup = o'.dedup) : mkCtx keys vals o' = { mkCtx keys vals o with opt := o' } := by
  simp only [mkCtx, hd]

end C13Shape

open C13Shape BuildInv BuildShape

/-- C13 (shape): builds of the same keys and values under options with the same `dedup` have
    the same shape; only stored prefix information differs. -/
theorem C13_same_shape (keys : List Bytes) (vals : Option (List Bytes)) (o o' : Opt) (t t' : Trie1)
    (hd : o.dedup = o'.dedup) (hb : build keys vals o = .ok t) (hb' : build keys vals o' = .ok t') :
    t.nodes.map shapeOf = t'.nodes.map shapeOf ∧
    t.leafKeyIdx = t'.leafKeyIdx ∧ t.bigCnt = t'.bigCnt ∧ t.elts = t'.elts := by
  rcases BuildShape.build_nil_or hb with ⟨rfl, rfl⟩ | hne
  · cases (hb' : Except.ok (Trie1.empty o') = .ok t')
    exact ⟨rfl, rfl, rfl, rfl⟩
  · obtain ⟨_, _, st, hst, rfl⟩ := build_ok_elim hb hne
    obtain ⟨_, _, st', hst', rfl⟩ := build_ok_elim hb' hne
    have hs := buildLoop_sim _ o' _ _ ⟨rfl, rfl, rfl, rfl, rfl⟩ hst (mkCtx_opt keys vals hd ▸ hst')
    simp only [trieOf]
    exact ⟨hs.nodes.symm, hs.leafKeyIdx.symm, hs.bigCnt.symm, by rw [hs.leafKeyIdx]⟩

theorem C13_same_shape_pointwise (keys : List Bytes) (vals : Option (List Bytes)) (o o' : Opt)
    (t t' : Trie1) (hd : o.dedup = o'.dedup) (hb : build keys vals o = .ok t)
    (hb' : build keys vals o' = .ok t') :
    t.nodes.size = t'.nodes.size ∧
    ∀ (j : Nat) (h : j < t.nodes.size) (h' : j < t'.nodes.size),
      shapeOf t.nodes[j] = shapeOf t'.nodes[j] := by
  have hm := (C13_same_shape keys vals o o' t t' hd hb hb').1
  refine ⟨?_, fun j h h' => ?_⟩
  · have := congrArg Array.size hm
    rwa [Array.size_map, Array.size_map] at this
  · have := congrArg (·[j]?) hm
    simp only [Array.getElem?_map, Array.getElem?_eq_getElem h, Array.getElem?_eq_getElem h',
      Option.map_some] at this
    exact Option.some.inj this

/-! ### non-vacuity: two option combinations on a concrete input (both accepted by `C08_accept`) -/

example : ∃ t t', build [[0x61], [0x61, 0x62], [0x62, 0xe3]] (some [[1], [1], [2]]) {} = .ok t ∧
    build [[0x61], [0x61, 0x62], [0x62, 0xe3]] (some [[1], [1], [2]])
      { inner := true, leaf := true } = .ok t' ∧
    ({} : Opt).dedup = ({ inner := true, leaf := true } : Opt).dedup := by
  obtain ⟨t, ht⟩ := L2.Ex.build_ok {}
  obtain ⟨t', ht'⟩ := L2.Ex.build_ok { inner := true, leaf := true }
  exact ⟨t, t', ht, ht', rfl⟩

#print axioms C13_same_shape
#print axioms C13_same_shape_pointwise
