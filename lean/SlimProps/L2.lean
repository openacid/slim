import SlimProofs.Refine
import SlimProofs.VLen
import SlimProofs.LookupTotal
import SlimProofs.IndexExact
import SlimProps.L2Transport
import SlimProps.C01
import SlimProps.C02
import SlimProps.C03
import SlimProps.C09
import SlimProps.C13
/-
  SlimProps.L2 — the property theorems at the bit level, closed: the only hypothesis is
  `build keys vals opt = .ok t` (plus the property's own hypotheses); the statements are about
  `L2view t = Slim.view (Slim.encode t)`, the view that decodes the `Slim` message which
  `creator.build` produces (`getNode`, rank/select on the bitmaps, the short-node table, the
  `VLenArray`s).

  * `encodeFacts_of_build`, `encodeFacts_built`, `viewSim_built`
        the bit-level facts (`getNode_encode`, `leafBytes_encode`, `view_encode_nodeCnt`) packaged
        as `Transport.EncodeFacts` / `Transport.ViewSim`
  * `L2_getID_eq L2_get_eq L2_searchID_eq L2_rangeGet_eq L2_search_eq`
        on a built trie every lookup at L2 returns exactly what it returns at L1, for EVERY
        query (L1 totality `SlimProofs.LookupTotal` + transport `SlimProofs.Transport`)
  * the lookup properties C01, C02, C03, C09, C10, C13 restated for `L2view t` (`…_L2`), each the
    L1 theorem rewritten with these equations
  (C12, C14, C19 at L2: SlimProps.L2b; the scans of C04: SlimProps.L2c.)
-/

open Transport

theorem encodeFacts_of_build (keys : List Bytes) (vals : Option (List Bytes)) (opt : Opt)
    (t : Trie1) (hb : build keys vals opt = .ok t) (hne : keys ≠ []) : EncodeFacts t :=
  encodeFacts_of_shape t (build_shape keys vals opt t hb hne)

theorem encodeFacts_built (keys : List Bytes) (vals : Option (List Bytes)) (opt : Opt)
    (t : Trie1) (hb : build keys vals opt = .ok t) : EncodeFacts t := by
  rcases BuildShape.build_nil_or hb with ⟨rfl, rfl⟩ | hne
  · exact L2Transport.Ex.encodeFacts_empty opt
  · exact encodeFacts_of_build keys vals opt t hb hne

theorem viewSim_built (keys : List Bytes) (vals : Option (List Bytes)) (opt : Opt)
    (t : Trie1) (hb : build keys vals opt = .ok t) :
    ViewSim t.view (L2view t) t.nodes.size :=
  viewSim_encode t (encodeFacts_built keys vals opt t hb)

section eqs
variable (keys : List Bytes) (vals : Option (List Bytes)) (opt : Opt) (t : Trie1)
  (hb : build keys vals opt = .ok t)
include hb

theorem L2_getID_eq (q : Bytes) : getID (L2view t) q = getID t.view q :=
  let ⟨_, ha, _⟩ := getID_total keys vals opt t hb q
  (getID_le (viewSim_built keys vals opt t hb) q).eq_of_ok ha

theorem L2_get_eq (q : Bytes) : get (L2view t) q = get t.view q :=
  let ⟨_, ha⟩ := get_total keys vals opt t hb q
  (get_le (viewSim_built keys vals opt t hb) q).eq_of_ok ha

theorem L2_searchID_eq (q : Bytes) : searchID (L2view t) q = searchID t.view q :=
  let ⟨_, ha, _⟩ := searchID_total keys vals opt t hb q
  (searchID_le (viewSim_built keys vals opt t hb) q).eq_of_ok ha

theorem L2_rangeGet_eq (q : Bytes) : rangeGet (L2view t) q = rangeGet t.view q :=
  let ⟨_, ha⟩ := rangeGet_total keys vals opt t hb q
  (rangeGet_le (viewSim_built keys vals opt t hb) q).eq_of_ok ha

theorem L2_search_eq (q : Bytes) : search (L2view t) q = search t.view q :=
  let ⟨_, ha⟩ := search_total keys vals opt t hb q
  (search_le (viewSim_built keys vals opt t hb) q).eq_of_ok ha

end eqs

/-- **C01 at L2**: in the encoded trie every retained key is found, with its own value. -/
theorem C01_get_retained_L2 (keys : List Bytes) (vals : Option (List Bytes)) (opt : Opt)
    (t : Trie1) (hb : build keys vals opt = .ok t) (i : Nat) (hi : i < keys.length)
    (hk : keptAt (keepMask keys.length vals opt.dedup) i = true) :
    (∃ id, getID (L2view t) (keys.getD i []) = .ok (some id)) ∧
    get (L2view t) (keys.getD i []) = .ok (some (expectedValue vals t i)) := by
  rw [L2_getID_eq keys vals opt t hb, L2_get_eq keys vals opt t hb]
  exact C01_get_retained keys vals opt t hb i hi hk

theorem C01_get_retained_bytes_L2 (keys : List Bytes) (vals : Option (List Bytes)) (opt : Opt)
    (t : Trie1) (hb : build keys vals opt = .ok t) (i : Nat) (hi : i < keys.length)
    (hk : keptAt (keepMask keys.length vals opt.dedup) i = true) :
    ∃ r, get (L2view t) (keys.getD i []) = .ok (some r) ∧
      (vals = none → r = none) ∧ (∀ vs, vals = some vs → r.getD [] = vs.getD i []) := by
  rw [L2_get_eq keys vals opt t hb]
  exact C01_get_retained_bytes keys vals opt t hb i hi hk

theorem C02_rangeget_indexed_L2 (keys : List Bytes) (vals : Option (List Bytes)) (opt : Opt)
    (t : Trie1) (hb : build keys vals opt = .ok t) (hne : keys ≠ [])
    (i : Nat) (hi : i < keys.length) :
    rangeGet (L2view t) (keys.getD i []) =
      .ok (some (recVal (keepMask keys.length vals opt.dedup) vals i)) := by
  rw [L2_rangeGet_eq keys vals opt t hb]
  exact C02_rangeget_indexed keys vals opt t hb hne i hi

theorem C02_search_dropped_L2 (keys : List Bytes) (vals : Option (List Bytes)) (opt : Opt)
    (t : Trie1) (hb : build keys vals opt = .ok t) (hne : keys ≠ [])
    (d : Nat) (hd : d < keys.length)
    (hk : keptAt (keepMask keys.length vals opt.dedup) d = false) :
    search (L2view t) (keys.getD d []) =
      .ok (valOf (keepMask keys.length vals opt.dedup) vals
             (prevKept (keepMask keys.length vals opt.dedup) d),
           none,
           valOf (keepMask keys.length vals opt.dedup) vals
             (nextKept (keepMask keys.length vals opt.dedup) d)) := by
  rw [L2_search_eq keys vals opt t hb]
  exact C02_search_dropped keys vals opt t hb hne d hd hk

theorem C03_search_L2 (keys : List Bytes) (vals : Option (List Bytes)) (opt : Opt) (t : Trie1)
    (hb : build keys vals opt = .ok t) (hc : opt.complete = true) (q : Bytes) :
    search (L2view t) q =
      .ok (shownVal (retained keys vals opt.dedup) (Spec.lt (retained keys vals opt.dedup) q),
           shownVal (retained keys vals opt.dedup) (Spec.get (retained keys vals opt.dedup) q),
           shownVal (retained keys vals opt.dedup) (Spec.gt (retained keys vals opt.dedup) q)) := by
  rw [L2_search_eq keys vals opt t hb]; exact C03_search keys vals opt t hb hc q

theorem C03_getID_L2 (keys : List Bytes) (vals : Option (List Bytes)) (opt : Opt) (t : Trie1)
    (hb : build keys vals opt = .ok t) (hc : opt.complete = true) (q : Bytes) :
    ∃ e, getID (L2view t) q = .ok e ∧
      e.isSome = (Spec.get (retained keys vals opt.dedup) q).isSome := by
  rw [L2_getID_eq keys vals opt t hb]; exact C03_getID keys vals opt t hb hc q

theorem C03_get_L2 (keys : List Bytes) (vals : Option (List Bytes)) (opt : Opt) (t : Trie1)
    (hb : build keys vals opt = .ok t) (hc : opt.complete = true) (q : Bytes) :
    get (L2view t) q =
      .ok (shownVal (retained keys vals opt.dedup) (Spec.get (retained keys vals opt.dedup) q)) := by
  rw [L2_get_eq keys vals opt t hb]; exact C03_get keys vals opt t hb hc q

theorem C03_rangeget_L2 (keys : List Bytes) (vals : Option (List Bytes)) (opt : Opt) (t : Trie1)
    (hb : build keys vals opt = .ok t) (hc : opt.complete = true) (q : Bytes) :
    rangeGet (L2view t) q =
      .ok (shownVal (retained keys vals opt.dedup) (Spec.le (retained keys vals opt.dedup) q)) := by
  rw [L2_rangeGet_eq keys vals opt t hb]; exact C03_rangeget keys vals opt t hb hc q

theorem C09_search_retained_L2 (keys : List Bytes) (vals : Option (List Bytes)) (opt : Opt)
    (t : Trie1) (hb : build keys vals opt = .ok t) (hne : keys ≠ [])
    (m : Nat) (hm : m < keys.length)
    (hk : keptAt (keepMask keys.length vals opt.dedup) m = true) :
    search (L2view t) (keys.getD m []) =
      .ok (valOf (keepMask keys.length vals opt.dedup) vals
             (prevKept (keepMask keys.length vals opt.dedup) m),
           valOf (keepMask keys.length vals opt.dedup) vals (some m),
           valOf (keepMask keys.length vals opt.dedup) vals
             (nextKept (keepMask keys.length vals opt.dedup) m)) := by
  rw [L2_search_eq keys vals opt t hb]
  exact C09_search_retained keys vals opt t hb hne m hm hk

theorem C09_search_retained_R_L2 (keys : List Bytes) (vals : Option (List Bytes)) (opt : Opt)
    (t : Trie1) (hb : build keys vals opt = .ok t) (hne : keys ≠ [])
    (i : Nat) (e : Entry) (hi : (retained keys vals opt.dedup)[i]? = some e) :
    search (L2view t) e.1 =
      .ok (shownVal (retained keys vals opt.dedup)
             (if i = 0 then none else (retained keys vals opt.dedup)[i - 1]?),
           shownVal (retained keys vals opt.dedup) (some e),
           shownVal (retained keys vals opt.dedup) (retained keys vals opt.dedup)[i + 1]?) := by
  rw [L2_search_eq keys vals opt t hb]
  exact C09_search_retained_R keys vals opt t hb hne i e hi

/-- **C10 (totality) at L2**: on the encoding of every built trie, every lookup returns normally
    for every query string. -/
theorem C10_total_L2 (keys : List Bytes) (vals : Option (List Bytes)) (opt : Opt) (t : Trie1)
    (hb : build keys vals opt = .ok t) (q : Bytes) :
    (∃ a, getID (L2view t) q = .ok a) ∧ (∃ a, get (L2view t) q = .ok a) ∧
    (∃ a, searchID (L2view t) q = .ok a) ∧ (∃ a, rangeGet (L2view t) q = .ok a) ∧
    (∃ a, search (L2view t) q = .ok a) := by
  rw [L2_getID_eq keys vals opt t hb, L2_get_eq keys vals opt t hb,
    L2_searchID_eq keys vals opt t hb, L2_rangeGet_eq keys vals opt t hb,
    L2_search_eq keys vals opt t hb]
  obtain ⟨a, ha, _⟩ := getID_total keys vals opt t hb q
  obtain ⟨b, hb', _⟩ := searchID_total keys vals opt t hb q
  exact ⟨⟨a, ha⟩, get_total keys vals opt t hb q, ⟨b, hb'⟩, rangeGet_total keys vals opt t hb q,
    search_total keys vals opt t hb q⟩

/-- **C10 (ids) at L2**, unconditional. -/
theorem C10_searchID_eq_getID_L2 (keys : List Bytes) (vals : Option (List Bytes)) (opt : Opt)
    (t : Trie1) (hb : build keys vals opt = .ok t) (q : Bytes) (a : Option Nat)
    (b : Option Nat × Option Nat × Option Nat)
    (hg : getID (L2view t) q = .ok a) (hs : searchID (L2view t) q = .ok b) : b.2.1 = a := by
  rw [L2_getID_eq keys vals opt t hb] at hg
  rw [L2_searchID_eq keys vals opt t hb] at hs
  exact C10_searchID_eq_getID keys vals opt t hb q a b hg hs

/-- **C10 (values) at L2**, unconditional. -/
theorem C10_search_eq_get_L2 (keys : List Bytes) (vals : Option (List Bytes)) (opt : Opt)
    (t : Trie1) (hb : build keys vals opt = .ok t) (q : Bytes) (a : Option (Option Bytes))
    (y : Option (Option Bytes) × Option (Option Bytes) × Option (Option Bytes))
    (hg : get (L2view t) q = .ok a) (hs : search (L2view t) q = .ok y) : y.2.1 = a := by
  rw [L2_get_eq keys vals opt t hb] at hg
  rw [L2_search_eq keys vals opt t hb] at hs
  exact C10_search_eq_get keys vals opt t hb q a y hg hs

/-- **C10 (RangeGet) at L2** (an instance of the any-view theorem). -/
theorem C10_rangeGet_extends_get_L2' (t : Trie1) (q : Bytes) (x : Option Bytes)
    (y : Option (Option Bytes))
    (hg : get (L2view t) q = .ok (some x)) (hr : rangeGet (L2view t) q = .ok y) : y = some x :=
  C10_rangeGet_extends_get (L2view t) q x y hg hr

/-- **C10 (a hit carries a supplied value) at L2**. -/
theorem C10_hit_supplied_L2 (keys : List Bytes) (vs : List Bytes) (opt : Opt) (t : Trie1)
    (hb : build keys (some vs) opt = .ok t) (hne : keys ≠ []) (hvs : ∀ b ∈ vs, b ≠ [])
    (q : Bytes) (x : Option Bytes) (h : get (L2view t) q = .ok (some x)) :
    ∃ b, x = some b ∧ b ∈ vs := by
  rw [L2_get_eq keys (some vs) opt t hb] at h
  exact C10_hit_supplied keys vs opt t hb hne hvs q x h

theorem rangeGet_hit_supplied_L2 (keys : List Bytes) (vs : List Bytes) (opt : Opt) (t : Trie1)
    (hb : build keys (some vs) opt = .ok t) (hne : keys ≠ []) (hvs : ∀ b ∈ vs, b ≠ [])
    (q : Bytes) (x : Option Bytes) (h : rangeGet (L2view t) q = .ok (some x)) :
    ∃ b, x = some b ∧ b ∈ vs := by
  rw [L2_rangeGet_eq keys (some vs) opt t hb] at h
  exact rangeGet_hit_supplied keys vs opt t hb hne hvs q x h

theorem C13_monotone_L2 (keys : List Bytes) (vals : Option (List Bytes)) (o o' : Opt)
    (t t' : Trie1) (hd : o.dedup = o'.dedup) (hin : o'.inner = true → o.inner = true)
    (hlf : o'.leaf = true → o.leaf = true)
    (hb : build keys vals o = .ok t) (hb' : build keys vals o' = .ok t') (q : Bytes) (id : Nat)
    (h : getID (L2view t) q = .ok (some id)) : getID (L2view t') q = .ok (some id) := by
  rw [L2_getID_eq keys vals o t hb] at h
  rw [L2_getID_eq keys vals o' t' hb']
  exact C13_monotone keys vals o o' t t' hd hin hlf hb hb' q id h

theorem C13_monotone_get_L2 (keys : List Bytes) (vals : Option (List Bytes)) (o o' : Opt)
    (t t' : Trie1) (hd : o.dedup = o'.dedup) (hin : o'.inner = true → o.inner = true)
    (hlf : o'.leaf = true → o.leaf = true)
    (hb : build keys vals o = .ok t) (hb' : build keys vals o' = .ok t') (q : Bytes)
    (x : Option Bytes)
    (h : get (L2view t) q = .ok (some x)) : get (L2view t') q = .ok (some x) := by
  rw [L2_get_eq keys vals o t hb] at h
  rw [L2_get_eq keys vals o' t' hb']
  exact C13_monotone_get keys vals o o' t t' hd hin hlf hb hb' q x h

theorem C13_retained_same_L2 (keys : List Bytes) (vals : Option (List Bytes)) (o o' : Opt)
    (t t' : Trie1) (hd : o.dedup = o'.dedup)
    (hb : build keys vals o = .ok t) (hb' : build keys vals o' = .ok t')
    (i : Nat) (hi : i < keys.length)
    (hk : keptAt (keepMask keys.length vals o.dedup) i = true) :
    get (L2view t) (keys.getD i []) = .ok (some (expectedValue vals t i)) ∧
    get (L2view t') (keys.getD i []) = .ok (some (expectedValue vals t i)) := by
  rw [L2_get_eq keys vals o t hb, L2_get_eq keys vals o' t' hb']
  exact C13_retained_same keys vals o o' t t' hd hb hb' i hi hk

/-! ### non-vacuity: closed theorems instantiated on a concrete build (obtained from `C08_accept`) -/
namespace L2.Ex

/-- C01 at the bit level on this input: the retained key `b\xe3` (index 2, value 2) is found in
    the encoded trie with its own value; and every lookup of every query is total -/
example (o : Opt) : ∃ t, build keys (some vals) o = .ok t ∧
    (∃ r, get (L2view t) [0x62, 0xe3] = .ok (some r) ∧ r.getD [] = [2]) ∧
    ∀ q, ∃ a, search (L2view t) q = .ok a := by
  obtain ⟨t, ht⟩ := build_ok o
  have hk : keptAt (keepMask keys.length (some vals) o.dedup) 2 = true := by
    cases o.dedup <;> decide
  obtain ⟨r, hr, _, hv⟩ := C01_get_retained_bytes_L2 keys (some vals) o t ht 2 (by decide) hk
  exact ⟨t, ht, ⟨r, hr, hv vals rfl⟩, fun q => (C10_total_L2 keys (some vals) o t ht q).2.2.2.2⟩

end L2.Ex

#print axioms encodeFacts_of_build
#print axioms encodeFacts_built
#print axioms viewSim_built
#print axioms L2_getID_eq
#print axioms L2_get_eq
#print axioms L2_searchID_eq
#print axioms L2_rangeGet_eq
#print axioms L2_search_eq
#print axioms C01_get_retained_L2
#print axioms C01_get_retained_bytes_L2
#print axioms C02_rangeget_indexed_L2
#print axioms C02_search_dropped_L2
#print axioms C03_search_L2
#print axioms C03_getID_L2
#print axioms C03_get_L2
#print axioms C03_rangeget_L2
#print axioms C09_search_retained_L2
#print axioms C09_search_retained_R_L2
#print axioms C10_total_L2
#print axioms C10_searchID_eq_getID_L2
#print axioms C10_search_eq_get_L2
#print axioms C10_rangeGet_extends_get_L2'
#print axioms C10_hit_supplied_L2
#print axioms rangeGet_hit_supplied_L2
#print axioms C13_monotone_L2
#print axioms C13_monotone_get_L2
#print axioms C13_retained_same_L2
