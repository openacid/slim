import SlimProps.C12
import SlimProps.C02
import SlimProofs.LookupTotal
/-
  SlimProps.C12Closed — C12 with its explicit hypotheses discharged:
  `hC02` by `C02_rangeget_indexed` (SlimProps/C02.lean) and `htotal` by `get_total` /
  `rangeGet_total` (SlimProofs/LookupTotal.lean).

  * `C12_get_exact_full`       hypotheses left: `Index.new recs = .ok si`, offsets in the int64
                               range, adjacent offsets distinct
  * `C12_rangeget_exact_full`  hypotheses left: `Index.new recs = .ok si`, offsets in the int64
                               range (any offsets, in particular block offsets)
-/

open IndexExact Index

theorem c02Statement : C02Statement :=
  fun keys vals opt t hb hne i hi => C02_rangeget_indexed keys vals opt t hb hne i hi

/-- **C12 (RangeGet, indexed keys)**, unconditional: for any record set accepted by
    `NewSlimIndex` with offsets in the int64 range — in particular block offsets shared by
    adjacent keys — `RangeGet` returns the stored record of every indexed key. -/
theorem C12_rangeget_indexed_closed (recs : List Record) (si : SlimIndex)
    (hnew : Index.new recs = .ok si) (hrange : ∀ r ∈ recs, InI64 r.offset)
    (i : Nat) (hi : i < recs.length) :
    Index.rangeGet si si.t1.view recs[i].key = .ok (some recs[i].value) :=
  C12_rangeget_indexed c02Statement recs si hnew hrange i hi

/-- **C12 (RangeGet)** with only the totality hypothesis left. -/
theorem C12_rangeget_exact_closed (recs : List Record) (si : SlimIndex)
    (hnew : Index.new recs = .ok si) (hrange : ∀ r ∈ recs, InI64 r.offset)
    (htotal : ∀ q, ∃ r, _root_.rangeGet si.t1.view q = .ok r) :
    (∀ i (hi : i < recs.length),
      Index.rangeGet si si.t1.view recs[i].key = .ok (some recs[i].value)) ∧
    (∀ q, (∀ r ∈ recs, r.key ≠ q) → Index.rangeGet si si.t1.view q = .ok none) :=
  C12_rangeget_exact c02Statement recs si hnew hrange htotal

/-- **C12 (Get), unconditional.**  One offset per key: `Get` + key-verifying reader returns the
    stored record for every indexed key and not found for every other string. -/
theorem C12_get_exact_full (recs : List Record) (si : SlimIndex) (hnew : Index.new recs = .ok si)
    (hrange : ∀ r ∈ recs, InI64 r.offset) (hadj : AdjDistinct recs) :
    (∀ i (hi : i < recs.length), Index.get si si.t1.view recs[i].key = .ok (some recs[i].value)) ∧
    (∀ q, (∀ r ∈ recs, r.key ≠ q) → Index.get si si.t1.view q = .ok none) :=
  C12_get_exact recs si hnew hrange hadj
    (fun q => get_total _ _ _ si.t1 (new_ok_elim hnew).1 q)

/-- **C12 (RangeGet), unconditional.**  Block offsets: `RangeGet` + key-verifying reader returns
    the stored record for every indexed key and not found for every other string. -/
theorem C12_rangeget_exact_full (recs : List Record) (si : SlimIndex)
    (hnew : Index.new recs = .ok si) (hrange : ∀ r ∈ recs, InI64 r.offset) :
    (∀ i (hi : i < recs.length),
      Index.rangeGet si si.t1.view recs[i].key = .ok (some recs[i].value)) ∧
    (∀ q, (∀ r ∈ recs, r.key ≠ q) → Index.rangeGet si si.t1.view q = .ok none) :=
  C12_rangeget_exact c02Statement recs si hnew hrange
    (fun q => rangeGet_total _ _ _ si.t1 (new_ok_elim hnew).1 q)

/-- the theorem on the block-offset example of `C12.Ex`: key 2 (`b\xe3`) shares offset 0 with
    key 1 and is de-duplicated away, yet `RangeGet` + reader return its own record -/
example : ∃ si, Index.new C12.Ex.recsBlock = .ok si ∧
    Index.rangeGet si si.t1.view [0x62, 0xe3] = .ok (some [3]) := by
  obtain ⟨si, hsi⟩ := C12.Ex.new_ok _ C12.Ex.recsBlock_built
  exact ⟨si, hsi, C12_rangeget_indexed_closed _ si hsi (by decide) 2 (by decide)⟩

#print axioms C12_rangeget_indexed_closed
#print axioms C12_rangeget_exact_closed
#print axioms C12_get_exact_full
#print axioms C12_rangeget_exact_full
