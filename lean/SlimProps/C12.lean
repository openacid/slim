import SlimProofs.IndexExact
import SlimProps.C01
import SlimProps.C09
/-
  C12 — "SlimIndex plus a key-verifying reader behaves as an exact map", at L1
  (`si.t1.view`, the record array that `NewSlimIndex` builds with default options:
  de-duplication ON, no stored prefixes).

  Records: any list accepted by `Index.new` (so the keys are strictly ascending — `build` checks
  it), offsets in the int64 range (`InI64`).

  * `C12_get_indexed`   one offset per key (adjacent records have different offsets, e.g.
                        strictly increasing): `Get` returns the stored record of every indexed key.
  * `C12_get_absent`    every other string: not found.  The index may report a false positive,
                        but the reader re-validates the key.  No hypothesis on the offsets.
  * `C12_get_exact`     both.
  * `C12_rangeget_indexed` / `C12_rangeget_absent` / `C12_rangeget_exact`
                        block offsets (ANY offsets in range — adjacent keys may share one,
                        de-duplication then drops all but the first key of a block):
                        `RangeGet` returns the stored record of every indexed key and not found
                        for every other string.  Uses C02 (`RangeGet` on every indexed key returns
                        the value supplied for it) as the explicit hypothesis `hC02`, stated
                        exactly like `C02_rangeget_indexed` of SlimProps/C02.lean;
                        SlimProps/C12Closed.lean discharges it.

  Explicit hypothesis `htotal` of the `absent` halves: the trie lookup returns normally
  (`∃ r, get si.t1.view q = .ok r`) — totality of lookups on arbitrary query strings is C10;
  SlimProps/C12Closed.lean discharges it too.  The `indexed` halves need no such hypothesis.
-/

open IndexExact Index

/-- adjacent records carry different offsets ("one offset per key") -/
def AdjDistinct (recs : List Record) : Prop :=
  ∀ i (h : i + 1 < recs.length), recs[i].offset ≠ recs[i + 1].offset

theorem AdjDistinct.of_increasing {recs : List Record}
    (h : ∀ i (h : i + 1 < recs.length), recs[i].offset < recs[i + 1].offset) : AdjDistinct recs :=
  fun i hi => Int.ne_of_lt (h i hi)

namespace C12

theorem keys_length (recs : List Record) : (keysOf recs).length = recs.length := by simp [keysOf]
theorem vals_length (recs : List Record) : (valsOf recs).length = recs.length := by simp [valsOf]

/-- with one offset per key the encoded offsets of neighbours differ (`encI64_inj`), so
    de-duplication drops no record -/
theorem kept_all {recs : List Record} (hrange : ∀ r ∈ recs, InI64 r.offset) (hadj : AdjDistinct recs)
    (dedup : Bool) (i : Nat) (hi : i < recs.length) :
    keptAt (keepMask (keysOf recs).length (some (valsOf recs)) dedup) i = true := by
  rw [keys_length, ← vals_length]
  cases i with
  | zero =>
    exact BuildInv.keepMask_zero dedup (vals_length recs ▸ Nat.ne_of_gt hi)
      (by intro vs' h; cases h; rfl)
  | succ i =>
    rw [BuildInv.keptAt_succ _ dedup i (vals_length recs ▸ hi), valsOf_getD _ _ (Nat.lt_of_succ_lt hi),
      valsOf_getD _ _ hi, bne_iff_ne.mpr, Bool.or_true]
    exact fun h => hadj i hi
      (encI64_inj (hrange _ (List.getElem_mem _)) (hrange _ (List.getElem_mem _)) h)

theorem vals_ne_nil (recs : List Record) : ∀ b ∈ valsOf recs, b ≠ [] := by
  intro b hb
  obtain ⟨r, _, rfl⟩ := List.mem_map.mp hb
  exact encI64_ne_nil _

theorem keys_ne_nil {recs : List Record} {i : Nat} (hi : i < recs.length) : keysOf recs ≠ [] := by
  intro h
  rw [← keys_length, h] at hi
  exact Nat.not_lt_zero _ hi

/-- the trie answer `some (some (encI64 o_i))` for key `i` becomes record `i` -/
theorem lookup_indexed {recs : List Record} {si : SlimIndex} (hnew : Index.new recs = .ok si)
    (hrange : ∀ r ∈ recs, InI64 r.offset) (i : Nat) (hi : i < recs.length) :
    lookup si (.ok (some (some ((valsOf recs).getD i [])))) recs[i].key =
      .ok (some recs[i].value) := by
  obtain ⟨hb, hrecs, -⟩ := new_ok_elim hnew
  have hasc := (BuildShape.build_ok_elim hb (keys_ne_nil hi)).1
  rw [lookup_some, valsOf_getD _ _ hi, leSigned_encI64 (hrange _ (List.getElem_mem hi)), hrecs,
    read_hit recs recs[i] (List.getElem_mem hi) (record_uniq hasc i hi)]

/-- Any lookup `f` of the trie (`Get` or `RangeGet`) that misses on the empty trie and whose hits
    carry a supplied value: for a string that is no key the answer is a miss, or a false positive
    that the reader rejects. -/
theorem absent {f : View → Bytes → Except Err (Option (Option Bytes))}
    (hempty : ∀ opt q, f (Trie1.empty opt).view q = .ok none)
    (hsup : ∀ keys vs opt t, build keys (some vs) opt = .ok t → keys ≠ [] → (∀ b ∈ vs, b ≠ []) →
      ∀ q x, f t.view q = .ok (some x) → ∃ b, x = some b ∧ b ∈ vs)
    {recs : List Record} {si : SlimIndex} (hnew : Index.new recs = .ok si)
    (q : Bytes) (hq : ∀ r ∈ recs, r.key ≠ q) (htotal : ∃ r, f si.t1.view q = .ok r) :
    lookup si (f si.t1.view q) q = .ok none := by
  obtain ⟨hb, hrecs, -⟩ := new_ok_elim hnew
  obtain ⟨y, hy⟩ := htotal
  rw [hy]
  cases y with
  | none => rfl
  | some x =>
    by_cases hne : keysOf recs = []
    · rw [hne] at hb
      have hb : Except.ok (Trie1.empty {}) = Except.ok si.t1 := hb
      rw [← Except.ok.inj hb, hempty] at hy
      cases hy
    · obtain ⟨b, rfl, _⟩ := hsup _ _ _ si.t1 hb hne (vals_ne_nil recs) q x hy
      rw [lookup_some, hrecs, read_miss recs _ q hq]

end C12

open C12

/-- **C12 (Get, indexed keys).**  With adjacent offsets distinct (nothing is de-duplicated away), `Get` plus
    the reader returns the stored record of every indexed key. -/
theorem C12_get_indexed (recs : List Record) (si : SlimIndex) (hnew : Index.new recs = .ok si)
    (hrange : ∀ r ∈ recs, InI64 r.offset) (hadj : AdjDistinct recs)
    (i : Nat) (hi : i < recs.length) :
    Index.get si si.t1.view recs[i].key = .ok (some recs[i].value) := by
  have hb := (new_ok_elim hnew).1
  have hk := kept_all hrange hadj ({} : Opt).dedup i hi
  have hget := (C01_get_retained _ _ _ si.t1 hb i ((keys_length recs).symm ▸ hi) hk).2
  have h0 := eltsTotal_built _ _ _ si.t1 hb (keys_ne_nil hi) (vals_ne_nil recs)
  rw [keysOf_getD _ _ hi, expectedValue, if_neg h0] at hget
  unfold Index.get
  rw [hget]
  exact lookup_indexed hnew hrange i hi

/-- **C12 (Get, every other string).**  A string that is no indexed key is reported not found (a false
    positive of the trie is rejected by the key-verifying reader), provided the trie lookup returns normally. -/
theorem C12_get_absent (recs : List Record) (si : SlimIndex) (hnew : Index.new recs = .ok si)
    (q : Bytes) (hq : ∀ r ∈ recs, r.key ≠ q)
    (htotal : ∃ r, _root_.get si.t1.view q = .ok r) :
    Index.get si si.t1.view q = .ok none :=
  absent (fun _ _ => rfl) C10_hit_supplied hnew q hq htotal

/-- **C12 (Get).**  With one offset per key, a SlimIndex with a key-verifying reader is an exact
    map: the stored record for every indexed key, not found for every other string. -/
theorem C12_get_exact (recs : List Record) (si : SlimIndex) (hnew : Index.new recs = .ok si)
    (hrange : ∀ r ∈ recs, InI64 r.offset) (hadj : AdjDistinct recs)
    (htotal : ∀ q, ∃ r, _root_.get si.t1.view q = .ok r) :
    (∀ i (hi : i < recs.length), Index.get si si.t1.view recs[i].key = .ok (some recs[i].value)) ∧
    (∀ q, (∀ r ∈ recs, r.key ≠ q) → Index.get si si.t1.view q = .ok none) :=
  ⟨fun i hi => C12_get_indexed recs si hnew hrange hadj i hi,
   fun q hq => C12_get_absent recs si hnew q hq (htotal q)⟩

/-- the statement of `C02_rangeget_indexed` (SlimProps/C02.lean), as a hypothesis -/
def C02Statement : Prop :=
  ∀ (keys : List Bytes) (vals : Option (List Bytes)) (opt : Opt) (t : Trie1),
    build keys vals opt = .ok t → keys ≠ [] → ∀ i, i < keys.length →
      _root_.rangeGet t.view (keys.getD i []) =
        .ok (some (recVal (keepMask keys.length vals opt.dedup) vals i))

/-- **C12 (RangeGet, indexed keys)**: any offsets in range, in particular block offsets shared
    by adjacent keys. -/
theorem C12_rangeget_indexed (hC02 : C02Statement) (recs : List Record) (si : SlimIndex)
    (hnew : Index.new recs = .ok si) (hrange : ∀ r ∈ recs, InI64 r.offset)
    (i : Nat) (hi : i < recs.length) :
    Index.rangeGet si si.t1.view recs[i].key = .ok (some recs[i].value) := by
  have hb := (new_ok_elim hnew).1
  have hget := hC02 _ _ _ si.t1 hb (keys_ne_nil hi) i ((keys_length recs).symm ▸ hi)
  have h0 := eltsTotal_built _ _ _ si.t1 hb (keys_ne_nil hi) (vals_ne_nil recs)
  rw [C09.eltsTotal_leaves _ _ _ _ hb (keys_ne_nil hi)] at h0
  rw [keysOf_getD _ _ hi, recVal, if_neg h0] at hget
  unfold Index.rangeGet
  rw [hget]
  exact lookup_indexed hnew hrange i hi

/-- **C12 (RangeGet, every other string).**  As `C12_get_absent`, for `RangeGet`. -/
theorem C12_rangeget_absent (recs : List Record) (si : SlimIndex) (hnew : Index.new recs = .ok si)
    (q : Bytes) (hq : ∀ r ∈ recs, r.key ≠ q)
    (htotal : ∃ r, _root_.rangeGet si.t1.view q = .ok r) :
    Index.rangeGet si si.t1.view q = .ok none :=
  absent (fun _ _ => rfl) rangeGet_hit_supplied hnew q hq htotal

/-- **C12 (RangeGet).**  With block offsets (a sparse index), `RangeGet` plus the key-verifying
    reader is an exact map. -/
theorem C12_rangeget_exact (hC02 : C02Statement) (recs : List Record) (si : SlimIndex)
    (hnew : Index.new recs = .ok si) (hrange : ∀ r ∈ recs, InI64 r.offset)
    (htotal : ∀ q, ∃ r, _root_.rangeGet si.t1.view q = .ok r) :
    (∀ i (hi : i < recs.length),
      Index.rangeGet si si.t1.view recs[i].key = .ok (some recs[i].value)) ∧
    (∀ q, (∀ r ∈ recs, r.key ≠ q) → Index.rangeGet si si.t1.view q = .ok none) :=
  ⟨fun i hi => C12_rangeget_indexed hC02 recs si hnew hrange i hi,
   fun q hq => C12_rangeget_absent recs si hnew q hq (htotal q)⟩

/-! ### non-vacuity

  Four records; a negative offset; records 1 and 2 share a block offset (used for `RangeGet`);
  the `Get` example has one offset per key.  `Index.new` succeeds by evaluation of `build` in the
  kernel. -/
namespace C12.Ex

def recsGet : List Record :=
  [⟨[0x61], -5, [1]⟩, ⟨[0x61, 0x62], 0, [2]⟩, ⟨[0x62, 0xe3], 7, [3]⟩, ⟨[0xf0], 4096, [4]⟩]

def recsBlock : List Record :=
  [⟨[0x61], -4096, [1]⟩, ⟨[0x61, 0x62], 0, [2]⟩, ⟨[0x62, 0xe3], 0, [3]⟩, ⟨[0xf0], 4096, [4]⟩]

def isOk {α : Type} : Except Err α → Bool
  | .ok _ => true
  | .error _ => false

theorem exists_of_isOk {α : Type} (e : Except Err α) (h : isOk e = true) : ∃ t, e = .ok t :=
  C01.Ex.exists_of_isOk e h

theorem new_ok (recs : List Record)
    (h : isOk (build (keysOf recs) (some (valsOf recs)) {}) = true) :
    ∃ si, Index.new recs = .ok si := by
  obtain ⟨t, ht⟩ := exists_of_isOk _ h
  exact new_ok_of_build ht

def totalOn (recs : List Record) (qs : List Bytes) : Bool :=
  match build (keysOf recs) (some (valsOf recs)) {} with
  | .error _ => false
  | .ok t => qs.all (fun q => isOk (_root_.get t.view q) && isOk (_root_.rangeGet t.view q))

-- the hypotheses of `C12_get_exact` hold for `recsGet` …
example : ∃ si, Index.new recsGet = .ok si := new_ok _ (by decide +kernel)
example : ∀ r ∈ recsGet, InI64 r.offset := by decide
example : AdjDistinct recsGet := by
  intro i hi
  have h3 : i + 1 < 4 := hi
  rcases i with _ | _ | _ | i
  · show (recsGet[0]'(by decide)).offset ≠ (recsGet[1]'(by decide)).offset; decide
  · show (recsGet[1]'(by decide)).offset ≠ (recsGet[2]'(by decide)).offset; decide
  · show (recsGet[2]'(by decide)).offset ≠ (recsGet[3]'(by decide)).offset; decide
  · omega
-- … and those of `C12_rangeget_exact` for `recsBlock` (records 1 and 2 share offset 0)
theorem recsBlock_built : isOk (build (keysOf recsBlock) (some (valsOf recsBlock)) {}) = true := by
  decide +kernel
example : ∃ si, Index.new recsBlock = .ok si := new_ok _ recsBlock_built
example : ∀ r ∈ recsBlock, InI64 r.offset := by decide
-- the lookups are total on some probe strings (absent, prefix of a key, longer than a key)
example : totalOn recsGet [[], [0x61, 0x63], [0x62], [0x62, 0xe3, 0x00], [0xff]] = true := by
  decide +kernel
example : totalOn recsBlock [[], [0x61, 0x63], [0x62], [0x62, 0xe3, 0x00], [0xff]] = true := by
  decide +kernel

end C12.Ex

#print axioms C12_get_indexed
#print axioms C12_get_absent
#print axioms C12_get_exact
#print axioms C12_rangeget_indexed
#print axioms C12_rangeget_absent
#print axioms C12_rangeget_exact
