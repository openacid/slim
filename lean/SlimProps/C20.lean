import SlimProofs.BuffersLemmas
/-
  C20 — "Building does not modify the caller's key slice, value slice or option struct.  Unmarshal
  neither modifies nor retains the input buffer: overwriting the buffer afterwards changes no answer,
  also for legacy streams whose prefixes are re-encoded during load.  Bytes returned by Marshal are
  independent of the trie: overwriting them changes neither later answers nor later Marshal output."

  What a theorem can carry here is the logic of ownership, on the machine of
  `SlimModel/Buffers.lean` whose semantics is by value (what the Go code is meant to do: build and
  load copy out of the caller's memory, `Marshal` returns a fresh slice).  Whether the Go code really
  never aliases is a fact about the runtime heap; it is tied to this machine by the correspondence
  run (`trie.new-checked`, `trie.unmarshal-scribble`, `trie.marshal-scribble`: real buffers
  overwritten with 0x00 / 0xff / random bytes after each call, every later answer and `Marshal`
  compared with the model's).  So these theorems are the model half; with respect to Go's aliasing
  semantics the property as a whole is not fully proved (DESIGN §6 C20 labels it accordingly).
-/
open Buffers

/-- Build, load and queries leave every caller buffer as it was (only `marshalInto`, which the
    caller asks to fill a buffer, and the caller's own `scribble` write one). -/
theorem C20_inputs_unchanged (s : State) (op : Op)
    (h : match op with | .scribble _ _ => False | .marshalInto _ => False | _ => True) :
    (step s op).1.bufs = s.bufs := step_bufs_unchanged s op h

/-- … in particular: after `buildFrom` every key and value buffer, after `unmarshalFrom` the input
    buffer, reads as before. -/
theorem C20_inputs_unchanged_read (s : State) (id : Nat) :
    (∀ ks vs opt, getBuf (step s (.buildFrom ks vs opt)).1.bufs id = getBuf s.bufs id) ∧
    getBuf (step s (.unmarshalFrom id)).1.bufs id = getBuf s.bufs id := by
  refine ⟨?_, rfl⟩
  intro ks vs opt
  rw [C20_inputs_unchanged s (.buildFrom ks vs opt) trivial]

/-- Non-interference: in every history in which a scribbled-over buffer is not handed back as an
    input before the machine has rewritten it (`cleanFrom`), deleting all `scribble` operations
    changes nothing the caller sees — no build or load result, no query answer, no `Marshal`
    content — and not the final instance.  (Loads of every layout go through
    `Legacy.Instance.unmarshal`, conversions included.) -/
theorem C20_noninterference (s : State) (ops : List Op) (hc : cleanFrom [] ops = true) :
    (run s ops).2 = (run s (ops.filter (fun o => !o.isScribble))).2 ∧
    (run s ops).1.inst = (run s (ops.filter (fun o => !o.isScribble))).1.inst :=
  sim_run ops [] s s (sim_refl s) hc

/-- The scribble itself is arbitrary: two histories that differ only in WHAT is written over the
    buffers show the caller the same things. -/
theorem C20_pattern_irrelevant (s : State) (ops ops' : List Op) (hc : cleanFrom [] ops = true)
    (hc' : cleanFrom [] ops' = true)
    (h : ops.filter (fun o => !o.isScribble) = ops'.filter (fun o => !o.isScribble)) :
    (run s ops).2 = (run s ops').2 := by
  rw [(C20_noninterference s ops hc).1, (C20_noninterference s ops' hc').1, h]

/-- load from buffer 1, overwrite it with 0xff, query, marshal into buffer 2, overwrite that with
    zeros, marshal again into buffer 3, query: a clean history with all kinds of operations -/
def C20.exOps : List Op :=
  [.unmarshalFrom 1, .scribble 1 .ones, .query (.get [0x61]), .marshalInto 2, .scribble 2 .zeros,
   .marshalInto 3, .scribble 3 (.cycle [7, 9]), .query (.scanFrom [] true true), .query .stat,
   .buildFrom [4, 5] (some [6, 6]) {}, .scribble 4 .zeros, .query (.search [0x62])]

example : cleanFrom [] C20.exOps = true := by decide

example : C20.exOps.filter (fun o => !o.isScribble) =
    [.unmarshalFrom 1, .query (.get [0x61]), .marshalInto 2, .marshalInto 3, .query (.scanFrom [] true true),
     .query .stat, .buildFrom [4, 5] (some [6, 6]) {}, .query (.search [0x62])] := rfl

/-- handing a scribbled buffer back as input is (rightly) not covered -/
example : cleanFrom [] [.marshalInto 1, .scribble 1 .zeros, .unmarshalFrom 1] = false := by decide
/-- … unless the machine rewrote it in between -/
example : cleanFrom [] [.scribble 1 .zeros, .marshalInto 1, .unmarshalFrom 1] = true := by decide

example : Pattern.fill (.cycle [7, 9]) 5 = [7, 9, 7, 9, 7] := rfl

example (s : State) : (run s C20.exOps).2 = (run s (C20.exOps.filter (fun o => !o.isScribble))).2 :=
  (C20_noninterference s _ (by decide)).1

#print axioms C20_inputs_unchanged
#print axioms C20_inputs_unchanged_read
#print axioms C20_noninterference
#print axioms C20_pattern_irrelevant
