import SlimProofs.InstanceLemmas
import SlimProps.C07Wire
import SlimProps.C05Wire
/-
  C07 (instance level) — "Unmarshal never loads data it cannot interpret: a stream whose header
  version is outside the compatible set … is rejected with the incompatibility error, and every
  strict prefix of a valid stream … is rejected with an error rather than a panic or a silently
  half-built index (paraphrased).  After a rejected load the instance answers lookups and scans as
  an empty trie, not as a mixture of old and new data."

  Objects: `Legacy.unmarshalMsg` / `Legacy.Instance.unmarshal` (= the complete `Unmarshal`:
  `st.inner = &Slim{}` first, then header, version check, framed reads, conversions, `st.init()`),
  `Slim.view` (= what every lookup and scan reads).  The byte-level facts are `SlimProps/C07Wire.lean`.

  `Instance.unmarshal` has two failure branches: `unmarshalMsg` fails (→ `inner = {}`), or the
  message was read completely and only `init` fails (→ `inner` = that message).  For every rejected
  input the property names — incompatible versions, strict prefixes of streams of every layout —
  it is `unmarshalMsg` that fails (`C07_rejected_*`), so the first branch applies.
-/
open Wire Frame Version Legacy EmptyView

/-- A load that `unmarshalMsg` rejects leaves the empty message, whatever the instance held. -/
theorem C07_empty_after_reject (σ : Instance) (e : Option Nat) (b : Bytes) (err : Err)
    (h : unmarshalMsg e b = .error err) :
    (Instance.unmarshal σ e b).2 = some err ∧ (Instance.unmarshal σ e b).1.inner = {} := by
  rw [Instance.unmarshal_error_inner σ e b err h]
  exact ⟨rfl, rfl⟩

theorem C07_rejected_incompatible (e : Option Nat) (buf : Bytes) (hlen : 32 ≤ buf.length)
    (hv : isCompatible (verStr (buf.take 16)) = false) :
    unmarshalMsg e buf = .error .incompatible :=
  unmarshalMsg_of_dispatch_error e buf _ (C07_incompatible_first buf hlen hv)

theorem C07_rejected_prefix (e : Option Nat) (m : SlimMsg) (hb : BodyOK (encodeSlim m)) (cut : Nat)
    (hcut : cut < (marshalSlim m).length) :
    unmarshalMsg e ((marshalSlim m).take cut) = .error .truncated :=
  unmarshalMsg_of_dispatch_error e _ _ (C07_truncated m hb cut hcut)

/-- every strict prefix of one frame with a compatible version (0.5.10 / 0.5.11 streams, and
    cuts inside the first section of the legacy layout), whatever follows -/
theorem C07_rejected_prefix_frame (e : Option Nat) (v : String) (hv : VersionOK v)
    (hc : isCompatible v = true) (body : Bytes) (hb : BodyOK body) (rest : Bytes) (cut : Nat)
    (hcut : cut < (frame v body).length) :
    unmarshalMsg e ((frame v body ++ rest).take cut) = .error .truncated :=
  unmarshalMsg_of_dispatch_error e _ _ (C07_truncated_frame v hv hc body hb rest cut hcut)

theorem C07_rejected_prefix_legacy3 (e : Option Nat) (v v2 v3 : String) (hv : VersionOK v)
    (hv2 : VersionOK v2) (hv3 : VersionOK v3) (hc : isCompatible v = true)
    (hl : isCurrentLayout v = false) (a b c : Bytes) (ha : BodyOK a) (hb : BodyOK b) (hcb : BodyOK c)
    (cut : Nat) (hcut : cut < (frame v a ++ (frame v2 b ++ frame v3 c)).length) :
    ∃ err, unmarshalMsg e ((frame v a ++ (frame v2 b ++ frame v3 c)).take cut) = .error err := by
  obtain ⟨err, h⟩ := C07_truncated_legacy3_rejected v v2 v3 hv hv2 hv3 hc hl a b c ha hb hcb cut hcut
  exact ⟨err, unmarshalMsg_of_dispatch_error e _ _ h⟩

/-- All lookups, scans, typed getters and `String()` on the state a rejected load leaves:
    not found / `(nil, nil, nil)` / an iterator that is exhausted at once / an empty scan —
    for every query, whatever the instance held before. -/
theorem C07_answers_empty (σ : Instance) (e : Option Nat) (b : Bytes) (err : Err)
    (h : unmarshalMsg e b = .error err) :
    let v := Slim.view (Instance.unmarshal σ e b).1.inner
    (∀ q, getID v q = .ok none) ∧ (∀ q, _root_.get v q = .ok none) ∧ (∀ q, rangeGet v q = .ok none) ∧
    (∀ q, search v q = .ok (none, none, none)) ∧
    (∀ start incl, Scan.newIterFrom v start incl = .ok (.walk [] [])) ∧
    (∀ withValue buf, Scan.iterNext v withValue (.walk [] buf) = .ok (.walk [] buf, none, none)) ∧
    (∀ start incl withValue keep stopAfter, Scan.scanFrom v start incl withValue keep stopAfter = .ok []) ∧
    (∀ start incl stop inclEnd withValue stopAfter,
      Scan.scanFromTo v start incl stop inclEnd withValue stopAfter = .ok []) ∧
    (∀ w q, Slim.getInt (Instance.unmarshal σ e b).1.inner w q = .ok none) ∧
    (∀ fmt, Slim.toStringSlim v fmt = .ok "") := by
  intro v
  have hi : (Instance.unmarshal σ e b).1.inner = {} := (C07_empty_after_reject σ e b err h).2
  have hv : v = Slim.view {} := by show Slim.view _ = _; rw [hi]
  have he : v.isEmpty = true := by rw [hv]; rfl
  refine ⟨getID_empty v he, get_empty v he, rangeGet_empty v he, search_empty v he,
    newIterFrom_empty v he, fun _ _ => rfl, scanFrom_empty v he, scanFromTo_empty v he, ?_, ?_⟩
  · intro w q; rw [hi]; exact getInt_empty w q
  · intro fmt; rw [hv]; exact toString_empty fmt

/-- What a rejected load does NOT reset: `levels` (and `vars == nil`-ness) stay those of the earlier
    contents, so `Stat()` afterwards reports the level table and node count of the old trie with
    `KeyCnt = 0`.  (The property speaks of lookups and scans; this is recorded because it is the one
    observable that is a mixture of old and new state.) -/
theorem C07_stat_after_reject (σ : Instance) (e : Option Nat) (b : Bytes) (err : Err)
    (h : unmarshalMsg e b = .error err) :
    (Instance.unmarshal σ e b).1.levels = σ.levels ∧ (Instance.unmarshal σ e b).1.varsNil = σ.varsNil ∧
    Slim.stat (Instance.unmarshal σ e b).1.inner (Instance.unmarshal σ e b).1.levels =
      (match σ.levels.getLast? with
       | none => .error (.panic "index out of range (levels)")
       | some (total, _, _) => .ok { levels := σ.levels, keyCnt := 0, nodeCnt := total }) := by
  rw [Instance.unmarshal_error_inner σ e b err h]
  refine ⟨rfl, rfl, ?_⟩
  simp only [Slim.stat]
  cases σ.levels.getLast? with
  | none => rfl
  | some p => obtain ⟨t, i, l⟩ := p; rfl

/-- an incompatible header followed by anything, on an instance that holds a loaded trie `m` -/
example (m : SlimMsg) (lv : List Slim.Level) :
    let σ : Instance := { inner := m, levels := lv }
    (Instance.unmarshal σ (some 4) (header "0.5.13" 5 ++ [1, 2, 3])).1.inner = {} ∧
    getID (Slim.view (Instance.unmarshal σ (some 4) (header "0.5.13" 5 ++ [1, 2, 3])).1.inner) [0x61] = .ok none := by
  intro σ
  have h : unmarshalMsg (some 4) (header "0.5.13" 5 ++ [1, 2, 3]) = .error .incompatible :=
    unmarshalMsg_of_dispatch_error _ _ _
      (C07_incompatible_header "0.5.13" version_0513.1 version_0513.2 5 (by omega) _)
  exact ⟨(C07_empty_after_reject σ _ _ _ h).2, (C07_answers_empty σ _ _ _ h).1 _⟩

example : unmarshalMsg none ((marshalSlim C05Wire.c05Example).take 40) = .error .truncated :=
  C07_rejected_prefix none _ C05Wire.c05Example_BodyOK 40 (by rw [C05_marshal_size, C05_size, C05Wire.c05Example_size]; omega)

/-- stale levels after a rejected load: an instance that held a trie with 5 nodes -/
example : Slim.stat (Instance.unmarshal { inner := {}, levels := [(0, 0, 0), (5, 2, 3)] } none []).1.inner
      (Instance.unmarshal { inner := {}, levels := [(0, 0, 0), (5, 2, 3)] } none []).1.levels
    = .ok { levels := [(0, 0, 0), (5, 2, 3)], keyCnt := 0, nodeCnt := 5 } := by
  have h : unmarshalMsg none [] = .error .truncated :=
    unmarshalMsg_of_dispatch_error _ _ _ (by
      have := C07_truncated {} emptyMsg_ok.2.2 0 (by rw [C05_marshal_size]; omega)
      simpa using this)
  rw [(C07_stat_after_reject _ none [] _ h).2.2]
  rfl

#print axioms C07_empty_after_reject
#print axioms C07_rejected_incompatible
#print axioms C07_rejected_prefix
#print axioms C07_rejected_prefix_frame
#print axioms C07_rejected_prefix_legacy3
#print axioms C07_answers_empty
#print axioms C07_stat_after_reject
