import SlimProofs.LegacyConvertEnc
import SlimProofs.LookupTotal
import SlimProofs.Transport
import SlimProofs.Refine
import SlimProofs.VLen
import SlimProofs.StatLemmas
import SlimProps.C09
import SlimProps.C02

/-
  C06 for the three-section layouts (≤ 0.5.9): the index the loader builds from the sections of an
  old stream answers exactly as the index the stream encodes.

  By `converted` (SlimProofs.LegacyConvertMain) the converted records `t'`, with `firstChild` and
  the leaf key indexes filled in (`T = fixup lk t'`), are a well-formed `ShapeOK` trie of ALL keys —
  nothing is dropped; the creator reads neither field (`encodeCreator_fixup`).  So every
  record-level theorem applies to `T` and is transported to the loader's view
  `Slim.view (Slim.encodeCreator t')` through `Transport.viewSim_encode` (`C06L3.Loaded` collects
  what is needed).  This gives `Get`, `RangeGet`, `Search` on every key, totality of every lookup
  on every query string, and `Stat`, for every variant 0.5.0 … 0.5.9 (both children encodings, leaf
  steps, the 0.5.9 index extension), every non-empty strictly ascending key list within the
  layout's `uint16` step limit (`hkl`), fixed-width values of any width `w` (value nil when `w = 0`:
  `C06L3.val`).
  Level: the three section messages (`sections3` = what `writeLegacy3` frames); the wire decoding of
  the frames is C06Legacy3Wire's business.
-/

open LegacyConvert LegacyWrite Legacy Subtree SearchDescent Transport

namespace C06L3

/-- the value a lookup reports for key `i` of a loaded three-section stream whose values have
    width `w`: nil when the width is 0 (the converted trie stores no leaf array then) -/
def val (w : Nat) (vals : List Bytes) (i : Nat) : Option Bytes :=
  if w = 0 then none else some (vals.getD i [])

theorem map_prevKept_replicate (f : Nat → Option Bytes) {n i : Nat} (hi : i ≤ n) :
    (prevKept (List.replicate n true) i).map f = if i = 0 then none else some (f (i - 1)) := by
  cases i with
  | zero => rfl
  | succ i => rw [prevKept, BuildInv.keptAt_replicate n i hi]; rfl

theorem map_nextKept_replicate (f : Nat → Option Bytes) (n i : Nat) :
    (nextKept (List.replicate n true) i).map f = if i + 1 < n then some (f (i + 1)) else none := by
  rw [nextKept, List.length_replicate]
  by_cases h : i + 1 < n
  · obtain ⟨d, hd⟩ := Nat.exists_eq_add_one_of_ne_zero (Nat.sub_ne_zero_of_lt h)
    rw [if_pos h, hd, firstKeptFrom, BuildInv.keptAt_replicate n (i + 1) h]
    rfl
  · rw [if_neg h, Nat.sub_eq_zero_of_le (Nat.le_of_not_lt h)]
    rfl

structure Loaded (keys vals : List Bytes) (w : Nat) (t' : Trie1) (T : Trie1)
    (queue : Array Subset) : Prop where
  q : QOK keys (List.replicate keys.length true) T queue
  root : queue[0]? = some { s := 0, e := keys.length, fb := 0 }
  shape : ShapeOK T
  enc : Slim.encode T = Slim.encodeCreator t'
  facts : EncodeFacts T
  elts : T.elts = some (T.leafKeyIdx.toList.map (fun k => vals.getD k []))
  cnt : T.leafKeyIdx.size = keys.length
  size : T.nodes.size = t'.nodes.size

theorem loaded (vr : Variant) (keys vals : List Bytes) (w : Nat) (ch st lv : Array32Msg)
    (hne : keys ≠ []) (hasc : strictAsc keys = true) (hlen : vals.length = keys.length)
    (hw : ∀ v ∈ vals, v.length = w) (hkl : ∀ k ∈ keys, 2 * k.length < 65535)
    (hsec : sections3 vr keys vals = .ok (ch, st, lv)) :
    ∃ t' T queue, convert ch st lv (some w) = .ok t' ∧ Loaded keys vals w t' T queue := by
  obtain ⟨t', lk, hconv, C⟩ := converted vr keys vals w ch st lv hne hasc hlen hw hkl hsec
  obtain ⟨queue, hq, hroot⟩ := (wf_iff keys _ _).mp C.wf
  have henc : Slim.encode (fixup lk t') = Slim.encodeCreator t' := by
    unfold Slim.encode
    rw [if_neg (Nat.ne_of_gt C.shape.nonempty), encodeCreator_fixup]
  exact ⟨t', fixup lk t', queue, hconv, hq, hroot, C.shape, henc, encodeFacts_of_shape _ C.shape,
    C.elts, C.cnt, fixNodes_size t'.nodes⟩

section
variable {keys vals : List Bytes} {w : Nat} {t' T : Trie1} {queue : Array Subset}

theorem Loaded.wf (L : Loaded keys vals w t' T queue) :
    WF keys (List.replicate keys.length true) T := (wf_iff _ _ _).mpr ⟨queue, L.q, L.root⟩

theorem Loaded.sim (L : Loaded keys vals w t' T queue) :
    ViewSim T.view (Slim.view (Slim.encodeCreator t')) T.nodes.size := by
  rw [← L.enc]; exact viewSim_encode T L.facts

theorem Loaded.getLeaf (L : Loaded keys vals w t' T queue) (hlen : vals.length = keys.length)
    (hw : ∀ v ∈ vals, v.length = w) (id i : Nat) (hi : i < keys.length)
    (hleaf : IsLeafOf T id i) : getLeaf T.view id = .ok (val w vals i) := by
  rw [C01.getLeaf_leaf T (some vals) hleaf L.elts]
  obtain ⟨ith, lp, _, hidx⟩ := hleaf
  have hvi : (vals.getD i []).length = w := by
    rw [List.getD_eq_getElem?_getD, List.getElem?_eq_getElem (by rw [hlen]; exact hi)]
    exact hw _ (List.getElem_mem _)
  -- the stored leaf array is nil iff all values are empty iff the width is 0
  have hz : eltsTotal (T.leafKeyIdx.toList.map (fun k => vals.getD k [])) = 0 ↔ w = 0 := by
    rw [C09.eltsTotal_eq_zero_iff]
    constructor
    · intro h
      have := h _ (List.mem_map.mpr ⟨i, Array.mem_toList_iff.mpr (Array.mem_of_getElem? hidx), rfl⟩)
      rw [this] at hvi; exact hvi.symm
    · intro h0 b hb
      obtain ⟨k, _, rfl⟩ := List.mem_map.mp hb
      rw [List.getD_eq_getElem?_getD]
      cases hk : vals[k]? with
      | none => rfl
      | some v => exact List.length_eq_zero_iff.mp ((hw v (List.mem_of_getElem? hk)).trans h0)
  simp only [expectedValue, val, hz]

end

end C06L3

/-!
  `sections3 vr keys vals = .ok (ch, st, lv)` are the three sections an old writer of variant `vr`
  produced, `convert ch st lv (some w) = .ok t'` is the loader's conversion (it always succeeds:
  `C06_convert_ok_legacy3`), and `Slim.view (Slim.encodeCreator t')` the view the loader ends with. -/

section cor
variable (vr : Variant) (keys vals : List Bytes) (w : Nat) (ch st lv : Array32Msg)
  (hne : keys ≠ []) (hasc : strictAsc keys = true) (hlen : vals.length = keys.length)
  (hw : ∀ v ∈ vals, v.length = w) (hkl : ∀ k ∈ keys, 2 * k.length < 65535)
  (hsec : sections3 vr keys vals = .ok (ch, st, lv))
include hne hasc hlen hw hkl hsec

theorem C06_convert_ok_legacy3 : ∃ t', convert ch st lv (some w) = .ok t' := by
  obtain ⟨t', _, _, h, _⟩ := C06L3.loaded vr keys vals w ch st lv hne hasc hlen hw hkl hsec
  exact ⟨t', h⟩

variable (t' : Trie1) (hconv : convert ch st lv (some w) = .ok t')
include hconv

theorem C06L3.loaded_of : ∃ T queue, C06L3.Loaded keys vals w t' T queue := by
  obtain ⟨t'', T, queue, h, L⟩ := C06L3.loaded vr keys vals w ch st lv hne hasc hlen hw hkl hsec
  rw [hconv] at h
  cases h
  exact ⟨T, queue, L⟩

/-- **C06 (Get, three-section layouts).**  Every indexed key is found, with its own value. -/
theorem C06_get_legacy3 (i : Nat) (hi : i < keys.length) :
    get (Slim.view (Slim.encodeCreator t')) (keys.getD i []) = .ok (some (C06L3.val w vals i)) := by
  obtain ⟨T, queue, L⟩ := C06L3.loaded_of vr keys vals w ch st lv hne hasc hlen hw hkl hsec t' hconv
  obtain ⟨id, ith, lp, hget, hnd, hidx⟩ :=
    getID_kept keys _ T hasc L.wf i hi (BuildInv.keptAt_replicate _ _ hi)
  have hleaf := L.getLeaf hlen hw id i hi ⟨ith, lp, hnd, hidx⟩
  apply get_le L.sim
  exact Agree.get_of_getID _ _ (some id) _ hget (Agree.leafOf_some _ _ _ hleaf)

/-- **C06 (RangeGet).**  Every indexed key is found by `RangeGet`, with its own value. -/
theorem C06_rangeget_legacy3 (i : Nat) (hi : i < keys.length) :
    rangeGet (Slim.view (Slim.encodeCreator t')) (keys.getD i [])
      = .ok (some (C06L3.val w vals i)) := by
  obtain ⟨T, queue, L⟩ := C06L3.loaded_of vr keys vals w ch st lv hne hasc hlen hw hkl hsec t' hconv
  obtain ⟨l, id, r, hsid, hleaf, _, _⟩ :=
    searchID_kept keys _ T hasc L.wf i hi (BuildInv.keptAt_replicate _ _ hi)
  apply rangeGet_le L.sim
  exact Agree.rangeGet_of _ _ l (some id) r _ hsid (Agree.leafOf_some _ _ _ (L.getLeaf hlen hw id i hi hleaf))

/-- **C06 (Search).**  On every indexed key `Search` returns the values of its exact neighbours
    in the key list (nil at either end) and of the key itself. -/
theorem C06_search_legacy3 (i : Nat) (hi : i < keys.length) :
    search (Slim.view (Slim.encodeCreator t')) (keys.getD i []) =
      .ok (if i = 0 then none else some (C06L3.val w vals (i - 1)),
           some (C06L3.val w vals i),
           if i + 1 < keys.length then some (C06L3.val w vals (i + 1)) else none) := by
  obtain ⟨T, queue, L⟩ := C06L3.loaded_of vr keys vals w ch st lv hne hasc hlen hw hkl hsec t' hconv
  obtain ⟨l, id, r, hsid, hleaf, hlres, hrres⟩ :=
    searchID_kept keys _ T hasc L.wf i hi (BuildInv.keptAt_replicate _ _ hi)
  apply search_le L.sim
  rw [← C06L3.map_prevKept_replicate (C06L3.val w vals) (Nat.le_of_lt hi),
    ← C06L3.map_nextKept_replicate (C06L3.val w vals)]
  exact Agree.search_of_searchID _ _ l (some id) r _ _ _ hsid
    (C09.leafOf_left (fun id j hj => L.getLeaf hlen hw id j (Nat.lt_trans hj hi)) hlres)
    (Agree.leafOf_some _ _ _ (L.getLeaf hlen hw id i hi hleaf))
    (by rw [nextKept, List.length_replicate]
        exact C09.leafOf_rightAt (L.getLeaf hlen hw) hi hrres)

/-- **C06 (totality).**  On the loaded index every lookup returns normally for every query string. -/
theorem C06_total_legacy3 (q : Bytes) :
    (∃ a, getID (Slim.view (Slim.encodeCreator t')) q = .ok a) ∧
    (∃ a, get (Slim.view (Slim.encodeCreator t')) q = .ok a) ∧
    (∃ a, rangeGet (Slim.view (Slim.encodeCreator t')) q = .ok a) ∧
    (∃ a, search (Slim.view (Slim.encodeCreator t')) q = .ok a) := by
  obtain ⟨T, queue, L⟩ := C06L3.loaded_of vr keys vals w ch st lv hne hasc hlen hw hkl hsec t' hconv
  obtain ⟨a1, h1, _⟩ := Agree.getID_total_wf L.q L.root hasc q
  obtain ⟨a2, h2⟩ := LookupTotal.get_total_wf L.q L.root hasc L.shape q
  obtain ⟨a3, h3⟩ := LookupTotal.rangeGet_total_wf L.q L.root hasc L.shape q
  obtain ⟨a4, h4⟩ := LookupTotal.search_total_wf L.q L.root hasc L.shape q
  exact ⟨⟨a1, getID_le L.sim q a1 h1⟩, ⟨a2, get_le L.sim q a2 h2⟩,
    ⟨a3, rangeGet_le L.sim q a3 h3⟩, ⟨a4, search_le L.sim q a4 h4⟩⟩

end cor

section cor2
variable (vr : Variant) (keys vals : List Bytes) (w : Nat) (ch st lv : Array32Msg)
  (hne : keys ≠ []) (hasc : strictAsc keys = true) (hlen : vals.length = keys.length)
  (hw : ∀ v ∈ vals, v.length = w) (hkl : ∀ k ∈ keys, 2 * k.length < 65535)
  (hsec : sections3 vr keys vals = .ok (ch, st, lv))
  (t' : Trie1) (hconv : convert ch st lv (some w) = .ok t')
include hne hasc hlen hw hkl hsec hconv

open Slim Refine StatLemmas in
/-- **C06 (Stat).**  `init` succeeds on the loaded message and `Stat` reports exactly `n` keys
    (and as many nodes as the conversion made). -/
theorem C06_keycnt_legacy3 :
    ∃ lvl, initLevels (encodeCreator t') = .ok lvl ∧
      stat (encodeCreator t') lvl
        = .ok { levels := lvl, keyCnt := keys.length, nodeCnt := t'.nodes.size } := by
  obtain ⟨T, queue, L⟩ := C06L3.loaded_of vr keys vals w ch st lv hne hasc hlen hw hkl hsec t' hconv
  -- every node is inner or a leaf, and the leaves are the keys
  have hkeys : (innersBefore T.nodes T.nodes.size).length + keys.length = T.nodes.size := by
    rw [← L.cnt, L.shape.leafCnt, Nat.add_comm]
    exact leaves_add_inners T.nodes T.nodes.size (Nat.le_refl _)
  obtain ⟨cs, _, _, _, h⟩ := initLevels_encode (.of_qok L.q L.shape)
  have hstat := (stat_levels L.shape.nonempty cs hkeys).2
  rw [L.enc] at h hstat
  exact ⟨_, h, L.size ▸ hstat⟩

end cor2

namespace C06L3.Ex

def keys : List Bytes := [[0x61], [0x61, 0x62], [0x61, 0x80, 0x01], [0x62, 0xff], [0xf0]]
def vals : List Bytes := [[1], [2], [3], [4], [5]]
/-- the 0.5.9 variant: bitmap children, extended index bitmaps -/
def vr : Variant := { header := "0.5.9", bitmapChild := true, extendedIdx := true }
/-- the 0.5.0 variant: uint32 children, steps also on leaves -/
def vr0 : Variant := { header := "1.0.0", leafSteps := true }

/-- the hypotheses are satisfiable for both children encodings ("a" is a prefix of "ab": an old
    node that is inner and leaf), and by the theorems the loaded index finds "ab" with its value and
    returns the exact neighbours of "a\x80\x01" -/
example : ∀ v ∈ [vr, vr0], ∃ ch st lv t', sections3 v keys vals = .ok (ch, st, lv) ∧
    convert ch st lv (some 1) = .ok t' ∧
    get (Slim.view (Slim.encodeCreator t')) [0x61, 0x62] = .ok (some (some [2])) ∧
    search (Slim.view (Slim.encodeCreator t')) [0x61, 0x80, 0x01]
      = .ok (some (some [2]), some (some [3]), some (some [4])) := by
  intro v hv
  have hne : keys ≠ [] := by decide
  have hasc : strictAsc keys = true := by decide
  have hlen : vals.length = keys.length := rfl
  have hw : ∀ x ∈ vals, x.length = 1 := by decide
  have hkl : ∀ k ∈ keys, 2 * k.length < 65535 := by decide
  have hvar : v = vr ∨ v = vr0 := by simpa using hv
  obtain ⟨⟨ch, st, lv⟩, hs⟩ := C01.Ex.exists_of_isOk (sections3 v keys vals) (by
    rcases hvar with rfl | rfl <;> decide +kernel)
  obtain ⟨t', ht'⟩ := C06_convert_ok_legacy3 v keys vals 1 ch st lv hne hasc hlen hw hkl hs
  exact ⟨ch, st, lv, t', hs, ht',
    C06_get_legacy3 v keys vals 1 ch st lv hne hasc hlen hw hkl hs t' ht' 1 (by decide),
    C06_search_legacy3 v keys vals 1 ch st lv hne hasc hlen hw hkl hs t' ht' 2 (by decide)⟩

end C06L3.Ex

#print axioms C06_convert_ok_legacy3
#print axioms C06_get_legacy3
#print axioms C06_rangeget_legacy3
#print axioms C06_search_legacy3
#print axioms C06_total_legacy3
#print axioms C06_keycnt_legacy3
