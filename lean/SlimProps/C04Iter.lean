import SlimProps.C03
import SlimProofs.CutSpec
import SlimProofs.IterMain
import SlimProofs.IterScan
import SlimProofs.LeafCount
/-
  SlimProps.C04Iter — scans on Complete tries (the positive half of C04; the refusal clause and
  `C04_exhausted_stable` are in SlimProps.C04).

  `C04_getGEPath` — for every successful `build` with `opt.complete = true` and every
  start string, `getGEPath` returns normally; its path is the root-to-leaf id path
  (`IterLemmas.RootPath`) of the smallest retained key `≥ start` (`IterLemmas.FirstGE`), the empty
  path if every retained key is below `start`, and `eq` says whether that key is `start` itself.
  (`getGEPath_exact` states it with the `Cut` of `start` among the kept keys; `C04.geRes_of_cut`
  reads this form off, and `Cut.spec_scanFrom` says which entries a scan from a cut selects.)

  `C04.yields_sim` — the run of the iterator call by call, through any view that simulates
  `t.view`; the three theorems below are read off it at `t.view`, and so are their forms for the
  encoded message (SlimProps.L2c) and for a loaded 0.5.10 message (`C06_allpref_scan`).

  `C04_iter` — `NewIter(start, incl)` returns normally and ANY number `k` of `next()` calls yields
  `Spec.scanFrom R start incl` (R = `retained keys vals opt.dedup`), i.e. the retained keys
  `≥ start` (`> start` if exclusive) in ascending order, each once, as `(key bytes, value)` with
  value = nil when values are not requested or none are stored, else the entry's encoded value
  (`C04.item`), followed by `(nil, nil)` on every later call (`IterStack.expect`).  Key reassembly is part of it: the yielded key bytes are the entry's key
  (`IterStack.descend_spec` with the buffer invariant `BufAgree`; the model's panic
  `reslice beyond len` is never reached).

  `C04_scanFrom` — the callback sequence of `ScanFrom` is `Spec.scanFrom R start incl`
  (as `C04.pair`: key bytes and value), cut by `takeWhile` of the caller's bound test and
  truncated after the `stopAfter`-th item (`IterScan.truncate`; `none`/`some 0`: the callback never
  returns false); the fuel `nodeCnt + 2` of the model suffices (at most one item per leaf:
  `build_leavesBefore`).  `C04_scanFromTo` — with the end bound and both end inclusivities the
  sequence is `Spec.scanFromTo R start incl stop inclEnd`, truncated the same way.
-/

open IterLemmas Subtree SearchDescent Exact Scan

theorem C04.geRes_of_cut {keys : List Bytes} {keep : List Bool} {t : Trie1} {start : Bytes} {a b : Nat}
    {p : GEPath} (c : Cut keys keep start a b) (hp : GEPos keep keys.length t a b p) :
    GERes keys keep t start p := by
  -- below the first kept key from `a` on, the kept keys are those before `a`
  have hlow : ∀ m, (∀ t', a ≤ t' → t' < m → keptAt keep t' = false) →
      ∀ t', t' < m → keptAt keep t' = true → bytesLt (keys.getD t' []) start = true :=
    fun m hgap t' h1 h2 => c.below t' (Nat.lt_of_not_le fun h => by
      rw [hgap t' h h1] at h2; cases h2) h2
  rcases hp with ⟨m, id, ⟨ham, hmn, hkm, hgap⟩, hleaf, hroot, heq⟩ | ⟨hno, hpath, heq⟩
  · refine Or.inl ⟨m, id, ⟨hmn, hkm, ?_, hlow m hgap⟩, hleaf, hroot, heq.trans ?_⟩
    · rw [c.lt_iff hmn hkm]
      exact decide_eq_false (Nat.not_lt.mpr ham)
    · by_cases hmb : m < b
      · rw [decide_eq_true hmb, c.inside ham hmb, beq_self_eq_true]
      · rw [decide_eq_false hmb]
        exact (beq_eq_false_iff_ne.mpr (c.outside hmn hkm (Or.inr (Nat.le_of_not_lt hmb)))).symm
  · exact Or.inr ⟨hlow _ hno, hpath, heq⟩

/-- **C04.**  `getGEPath` finds the path to the first retained key `≥ start`. -/
theorem C04_getGEPath (keys : List Bytes) (vals : Option (List Bytes)) (opt : Opt) (t : Trie1)
    (hb : build keys vals opt = .ok t) (hc : opt.complete = true) (start : Bytes) :
    ∃ p, getGEPath t.view start = .ok p ∧
      GERes keys (keepMask keys.length vals opt.dedup) t start p := by
  rcases BuildShape.build_nil_or hb with ⟨rfl, rfl⟩ | hne
  · refine ⟨{ path := [], eq := false }, rfl, Or.inr ⟨?_, rfl, rfl⟩⟩
    intro t' h; exact absurd h (Nat.not_lt_zero _)
  · obtain ⟨hwf, hopt⟩ := build_wf keys vals opt t hb hne
    obtain ⟨hin, hlf⟩ := C09.complete_opt hc
    rw [← hopt] at hin hlf
    obtain ⟨p, a, b, hp, hcut, hpos⟩ :=
      getGEPath_exact keys _ t (build_pre keys vals opt t hb hne).1 hwf hin hlf start
    exact ⟨p, hp, C04.geRes_of_cut hcut hpos⟩

namespace C04

/-- the item `next()` yields for a retained entry: key bytes and, if requested, the value
    (nil when every retained value is empty or none were supplied) -/
def item (R : List Entry) (wv : Bool) (e : Entry) : Option Bytes × Option Bytes :=
  (some e.1, if wv then (if eltsTotal (R.map (fun e => e.2.getD [])) = 0 then none else e.2)
             else none)

/-- what the callback receives for a retained entry -/
def pair (R : List Entry) (wv : Bool) (e : Entry) : Bytes × Option Bytes :=
  (e.1, (item R wv e).2)

theorem pair_entryAt (keys : List Bytes) (vals : Option (List Bytes)) (keep : List Bool)
    (hv : ∀ vs, vals = some vs → vs.length = keys.length) (wv : Bool) (i : Nat) :
    pair ((LeafCount.keptIn keep 0 keys.length).map (C09.entryAt keys vals)) wv (C09.entryAt keys vals i)
      = IterStack.yieldOf keys (recVal keep vals) wv i := by
  have h := C09.shownVal_entryAt keys vals keep hv (some i)
  simp only [Option.map_some, shownVal, valOf, Option.some.injEq] at h
  unfold pair item IterStack.yieldOf
  rw [h]
  rfl

theorem leavesBefore_le (nodes : Array Node) (j : Nat) : leavesBefore nodes j ≤ j := by
  unfold leavesBefore
  calc _ ≤ (nodes.toList.take j).length := List.length_filter_le _ _
    _ ≤ j := by rw [List.length_take]; exact Nat.min_le_left _ _

theorem retained_le_nodes (keys : List Bytes) (vals : Option (List Bytes)) (opt : Opt) (t : Trie1)
    (hb : build keys vals opt = .ok t) :
    (retained keys vals opt.dedup).length ≤ t.nodes.size := by
  by_cases hne : keys = []
  · subst hne; rw [C09.retained_nil]; exact Nat.zero_le _
  · rw [← build_leavesBefore keys vals opt t hb hne]
    exact leavesBefore_le _ _

/-- A Complete built trie read through any view `V` that simulates its record view (`t.view` itself,
    the view of the encoded message, the view of a loaded 0.5.10 message): `NewIter(start, incl)`
    returns an iterator that yields the entries of `Spec.scanFrom R start incl`, fewer than the fuel
    of `ScanFrom` (at most one item per leaf). -/
theorem yields_sim (keys : List Bytes) (vals : Option (List Bytes)) (opt : Opt) (t : Trie1)
    (hb : build keys vals opt = .ok t) (hc : opt.complete = true) {V : View}
    (hsim : Transport.ViewSim t.view V t.nodes.size) (start : Bytes) (incl wv : Bool) :
    ∃ s, newIterFrom V start incl = .ok s ∧
      IterStack.Yields V wv s
        ((Spec.scanFrom (retained keys vals opt.dedup) start incl).map
          (pair (retained keys vals opt.dedup) wv)) ∧
      ((Spec.scanFrom (retained keys vals opt.dedup) start incl).map
        (pair (retained keys vals opt.dedup) wv)).length < V.nodeCnt + 2 := by
  rcases BuildShape.build_nil_or hb with ⟨rfl, rfl⟩ | hne
  · rw [C09.retained_nil]
    exact ⟨.walk [] [], Transport.newIterFrom_le hsim start incl _ rfl,
      .done (Transport.iterNext_le hsim _ _ _ rfl), Nat.succ_pos _⟩
  · obtain ⟨hwf, hopt⟩ := build_wf keys vals opt t hb hne
    obtain ⟨hasc, hv⟩ := build_pre keys vals opt t hb hne
    obtain ⟨hin, hlf⟩ := C09.complete_opt hc
    rw [← hopt] at hin hlf
    have hget := C09.getLeaf_of_build keys vals opt t hb hne
    refine (?_ : ∃ s, _ ∧ _).imp fun s h => ⟨h.1, h.2, ?_⟩
    · rw [C09.retained_eq keys vals opt.dedup hv]
      generalize keepMask keys.length vals opt.dedup = keep at hwf hget ⊢
      have hval : IterStack.ValOK t (recVal keep vals) := fun id ith lp m h1 h2 =>
        (C01.getLeaf_eq_leafBytes t h1).symm.trans (hget id m ⟨ith, lp, h1, h2⟩)
      obtain ⟨a, b, hcut, s, hs, hy⟩ :=
        iter_exact keys keep t hasc hwf hin hlf (recVal keep vals) hval start incl wv
      refine ⟨s, Transport.newIterFrom_le hsim start incl s hs, ?_⟩
      rw [hcut.spec_scanFrom vals incl, List.map_map]
      exact (List.map_congr_left fun i _ => pair_entryAt keys vals keep hv wv i) ▸ hy.le hsim
    · rw [List.length_map]
      exact Nat.lt_succ_of_le (Nat.le_succ_of_le (Nat.le_trans (List.length_filter_le _ _)
        (Nat.le_trans (retained_le_nodes keys vals opt t hb) hsim.cnt)))

end C04

/-- **C04 (iterator).**  On a Complete trie, `NewIter(start, incl)` followed by `k` calls of
    `next()` yields the first `k` entries of `Spec.scanFrom R start incl` (as `C04.item`), padded
    with `(nil, nil)` once the entries are exhausted — for every `start`, both inclusivities,
    with and without values, every `k`. -/
theorem C04_iter (keys : List Bytes) (vals : Option (List Bytes)) (opt : Opt) (t : Trie1)
    (hb : build keys vals opt = .ok t) (hc : opt.complete = true)
    (start : Bytes) (incl wv : Bool) :
    ∃ s, newIterFrom t.view start incl = .ok s ∧
      ∀ k, iterTake t.view wv k s =
        .ok (IterStack.expect k ((Spec.scanFrom (retained keys vals opt.dedup) start incl).map
          (C04.item (retained keys vals opt.dedup) wv))) := by
  obtain ⟨s, hs, hy, _⟩ := C04.yields_sim keys vals opt t hb hc (Transport.viewSim_refl t) start incl wv
  refine ⟨s, hs, fun k => ?_⟩
  rw [hy.take k, List.map_map]
  rfl

namespace C04

theorem stream (keys : List Bytes) (vals : Option (List Bytes)) (opt : Opt) (t : Trie1)
    (hb : build keys vals opt = .ok t) (hc : opt.complete = true)
    (start : Bytes) (incl wv : Bool) :
    ∃ s, newIterFrom t.view start incl = .ok s ∧
      IterScan.Stream t.view wv s
        ((Spec.scanFrom (retained keys vals opt.dedup) start incl).map
          (pair (retained keys vals opt.dedup) wv)) := by
  obtain ⟨s, hs, hy, _⟩ := yields_sim keys vals opt t hb hc (Transport.viewSim_refl t) start incl wv
  exact ⟨s, hs, hy.take⟩

theorem bound_eq (stop : Bytes) (inclEnd : Bool) (k : Bytes) :
    (match cmpBytes k stop with
      | .lt => true
      | .eq => inclEnd
      | .gt => false) = (if inclEnd then bytesLe k stop else bytesLt k stop) := by
  unfold bytesLe bytesLt
  cases cmpBytes k stop <;> cases inclEnd <;> rfl

/-- `ScanFromTo` is `ScanFrom` with the end bound as the callback's test: on any view on which
    `ScanFrom` passes the entries of `Spec.scanFrom`, `ScanFromTo` passes those of `Spec.scanFromTo` -/
theorem scanFromTo_of {V : View} {R : List Entry} {start : Bytes} {incl wv : Bool}
    {stopAfter : Option Nat}
    (h : ∀ keepFn, scanFrom V start incl wv keepFn stopAfter = .ok (IterScan.truncate stopAfter
      (((Spec.scanFrom R start incl).map (pair R wv)).takeWhile (fun y => keepFn y.1))))
    (stop : Bytes) (inclEnd : Bool) :
    scanFromTo V start incl stop inclEnd wv stopAfter = .ok (IterScan.truncate stopAfter
      ((Spec.scanFromTo R start incl stop inclEnd).map (pair R wv))) := by
  unfold scanFromTo
  rw [h]
  unfold Spec.scanFromTo
  rw [List.takeWhile_map]
  congr 4
  funext e
  exact bound_eq stop inclEnd e.1

end C04

/-- **C04 (ScanFrom).**  On a Complete trie the items passed to the callback of `ScanFrom` are the
    entries of `Spec.scanFrom R start incl`, in order, as long as the wrapper's bound test `keepFn`
    holds, up to and including the `stopAfter`-th item. -/
theorem C04_scanFrom (keys : List Bytes) (vals : Option (List Bytes)) (opt : Opt) (t : Trie1)
    (hb : build keys vals opt = .ok t) (hc : opt.complete = true)
    (start : Bytes) (incl wv : Bool) (keepFn : Bytes → Bool) (stopAfter : Option Nat) :
    scanFrom t.view start incl wv keepFn stopAfter =
      .ok (IterScan.truncate stopAfter
        (((Spec.scanFrom (retained keys vals opt.dedup) start incl).map
          (C04.pair (retained keys vals opt.dedup) wv)).takeWhile (fun y => keepFn y.1))) := by
  obtain ⟨s, hs, hy, hf⟩ := C04.yields_sim keys vals opt t hb hc (Transport.viewSim_refl t) start incl wv
  exact IterScan.scanFrom_of_yields hs hy hf keepFn stopAfter

/-- **C04 (ScanFromTo).**  With an end bound the callback sequence is
    `Spec.scanFromTo R start incl stop inclEnd`, up to and including the `stopAfter`-th item. -/
theorem C04_scanFromTo (keys : List Bytes) (vals : Option (List Bytes)) (opt : Opt) (t : Trie1)
    (hb : build keys vals opt = .ok t) (hc : opt.complete = true)
    (start : Bytes) (incl : Bool) (stop : Bytes) (inclEnd wv : Bool) (stopAfter : Option Nat) :
    scanFromTo t.view start incl stop inclEnd wv stopAfter =
      .ok (IterScan.truncate stopAfter
        ((Spec.scanFromTo (retained keys vals opt.dedup) start incl stop inclEnd).map
          (C04.pair (retained keys vals opt.dedup) wv))) :=
  C04.scanFromTo_of (fun _ => C04_scanFrom keys vals opt t hb hc start incl wv _ stopAfter) stop inclEnd

/-- on the example trie of C03 (Complete, record 1 de-duplicated): from "ab" (a dropped key) the
    path leads to the leaf of "a\x80\x01" and `eq = false`; from "b\xff" it is an exact hit; above
    the last key the path is empty -/
example : ∃ t, build C03.exKeys (some C03.exVals) C03.exOpt = .ok t ∧ C03.exOpt.complete = true ∧
    (getGEPath t.view [0x61, 0x62]).toOption.map (·.eq) = some false ∧
    (getGEPath t.view [0x62, 0xff]).toOption.map (·.eq) = some true ∧
    (getGEPath t.view [0xff]).toOption.map (·.path) = some [] := by
  -- one evaluation of `build` serves the success test and the three queries
  have h : (fun tt : Trie1 => (build C03.exKeys (some C03.exVals) C03.exOpt).toBool = true ∧
      (getGEPath tt.view [0x61, 0x62]).toOption.map (·.eq) = some false ∧
      (getGEPath tt.view [0x62, 0xff]).toOption.map (·.eq) = some true ∧
      (getGEPath tt.view [0xff]).toOption.map (·.path) = some [])
      (match build C03.exKeys (some C03.exVals) C03.exOpt with
        | .ok t => t | .error _ => default) := by decide +kernel
  match hb : build C03.exKeys (some C03.exVals) C03.exOpt with
  | .ok t =>
    have hb' : build C03.exKeys (some C03.exVals) C03.exOpt = .ok t := hb
    rw [hb'] at h
    exact ⟨t, rfl, by decide, h.2⟩
  | .error e => rw [hb] at h; cases h.1

/-- by the theorems, on the same trie: five `next()` calls after `NewIter("ab", inclusive)` with
    values yield the three retained entries above the dropped key "ab", then `(nil, nil)` twice;
    `ScanFromTo("a" exclusive, "b\xff" inclusive)` without values passes two keys to the callback;
    `ScanFrom("")` with a callback that stops at the first item passes one -/
example : ∃ t, build C03.exKeys (some C03.exVals) C03.exOpt = .ok t ∧
    (∃ s, newIterFrom t.view [0x61, 0x62] true = .ok s ∧
      iterTake t.view true 5 s = .ok
        [(some [0x61, 0x80, 0x01], some [2]), (some [0x62, 0xff], some [2, 0]),
         (some [0xf0], some [3]), (none, none), (none, none)]) ∧
    scanFromTo t.view [0x61] false [0x62, 0xff] true false none =
      .ok [([0x61, 0x80, 0x01], none), ([0x62, 0xff], none)] ∧
    scanFrom t.view [] true true (fun _ => true) (some 1) = .ok [([0x61], some [1])] := by
  obtain ⟨t, (hb : build C03.exKeys (some C03.exVals) C03.exOpt = .ok t)⟩ := C01.Ex.built_complete
  have hc : C03.exOpt.complete = true := by decide
  refine ⟨t, hb, ?_, ?_, ?_⟩
  · obtain ⟨s, hs, htake⟩ := C04_iter _ _ _ t hb hc [0x61, 0x62] true true
    refine ⟨s, hs, ?_⟩
    rw [htake 5]
    refine congrArg Except.ok ?_
    decide +kernel
  · rw [C04_scanFromTo _ _ _ t hb hc]
    refine congrArg Except.ok ?_
    decide +kernel
  · rw [C04_scanFrom _ _ _ t hb hc]
    refine congrArg Except.ok ?_
    decide +kernel

#print axioms C04_getGEPath
#print axioms C04_iter
#print axioms C04_scanFrom
#print axioms C04_scanFromTo
