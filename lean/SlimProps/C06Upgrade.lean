import SlimProofs.UpgradeMsg
import SlimProofs.UpgradeConvert
import SlimProofs.UpgradeEmpty
import SlimProps.C06Legacy3Wire
import SlimProps.C05
import SlimProofs.EncodeAt
/-
  C06 ∘ C05 — the upgrade path: an index loaded from a legacy stream and then written with the
  current writer (`Marshal`) loads again and is the same index.

  Objects: `Legacy.Instance.unmarshal` (the complete `Unmarshal`), `marshalSlim` (`Marshal` =
  `pbcmpl.Marshal(w, st.inner)` with the current version string; a total function of `st.inner`, so
  "Marshal succeeds" needs no statement), `unmarshalDispatch` (the byte-level half of `Unmarshal`),
  `Slim.view` / `Slim.stat` / `Slim.toStringSlim` (everything a query reads).

  `C06_upgrade_0510` and `C06_upgrade_3section` conclude, for
  `r := Instance.unmarshal σ (some w) stream` (the legacy load) and `bytes := marshalSlim r.1.inner`:
  the legacy load succeeds; what `r.1.inner` is (below); `bytes` is a current-layout (0.5.12)
  stream that carries the loaded message itself (no conversion runs on the second load); and
  loading `bytes` into any instance with any encoder gives exactly the state the legacy load
  produced — the same message field for field, the same level table.

  The message is reproduced exactly, not up to anything:
   * 0.5.10 / 0.5.11: `r.1.inner = wordSelectMsg (Slim.encode t) (retired (Slim.encodeCreator t))`:
     today's message of the trie, except that the `SelectIndex` of the prefix position bitmaps
     holds the word indexes the old stream carried (`pos >> 6`, DESIGN §2.2) and the three retired
     scalar fields 12 / 13 / 15 sit in `XXX_unrecognized`.  The loader never recomputes a select
     index and `Marshal` writes `st.inner` as it is, so the upgraded stream still carries word-index
     select tables and the retired fields; the second load yields the identical message, which
     answers identically (`select32R64` only uses the table as a lower bound — C06View).
     An upgraded stream is therefore not the stream a fresh 0.5.12 build of the same keys writes
     (`C06_upgrade_0510_not_fresh`), but it is stable from then on (`C06_upgrade_0510_answers`).
   * three-section layouts: `r.1.inner = Slim.encodeCreator t'`, the creator's message of the
     converted records `t'` — a current-format message (bit-position select tables, no unknown
     bytes) of at most `2n − 1` nodes.

  Hypotheses: those of `C06_load_legacy_0510` / `C06_load_legacy_3section`, plus
   * 0.5.10 / 0.5.11 only: `hre`, `BodyOK` of the re-marshalled body (`make([]byte, n)` of the frame
     reader can allocate it), stated on `(Instance.unmarshal σ (some w) stream).1.inner`; by
     `C06_upgrade_0510_hre` that is the instance-independent message
     `wordSelectMsg (Slim.encode t) (retired …)`.  `hre` is assumed: no theorem derives it from
     the other hypotheses, although they bound today's body by 2^40 against the limit of 2^48
     (`InputCore.protoSizeSlim_encodeCreator_le`) and the loaded message differs from today's by
     the retired fields and by select entries that are no larger.
   * three-section: nothing.  `hwn : w·(2n+1) < 2^31` implies `w < 2^31`, which the re-marshalled
     message needs (the current layout stores the value width in `VLenArray.FixedSize`, an int32,
     which the three-section layouts did not store), and the body bound follows from `hcount` and
     `hwn`: the converted records are `Refine.Small` (`LegacyConvert.Converted.small`).
-/
open Wire Frame Version Legacy LegacyWrite LegacyConvert Refine

/-- Everything a query of any kind reads from an instance: the view of the message (lookups, scans,
    `String()`), and message + level table (`Stat`).  Two instance states agree on all of it. -/
structure SameAnswers (a b : Instance) : Prop where
  view : Slim.view a.inner = Slim.view b.inner
  getID : ∀ q, getID (Slim.view a.inner) q = getID (Slim.view b.inner) q
  get : ∀ q, get (Slim.view a.inner) q = get (Slim.view b.inner) q
  rangeGet : ∀ q, rangeGet (Slim.view a.inner) q = rangeGet (Slim.view b.inner) q
  search : ∀ q, search (Slim.view a.inner) q = search (Slim.view b.inner) q
  scanFrom : ∀ start incl withValue keep stopAfter,
    Scan.scanFrom (Slim.view a.inner) start incl withValue keep stopAfter
      = Scan.scanFrom (Slim.view b.inner) start incl withValue keep stopAfter
  scanFromTo : ∀ start incl stop inclEnd withValue stopAfter,
    Scan.scanFromTo (Slim.view a.inner) start incl stop inclEnd withValue stopAfter
      = Scan.scanFromTo (Slim.view b.inner) start incl stop inclEnd withValue stopAfter
  getInt : ∀ wd q, Slim.getInt a.inner wd q = Slim.getInt b.inner wd q
  stat : Slim.stat a.inner a.levels = Slim.stat b.inner b.levels
  string : ∀ fmt, Slim.toStringSlim (Slim.view a.inner) fmt = Slim.toStringSlim (Slim.view b.inner) fmt
  marshal : marshalSlim a.inner = marshalSlim b.inner

theorem SameAnswers.of_eq {a b : Instance} (h : a = b) : SameAnswers a b := by
  subst h
  exact ⟨rfl, fun _ => rfl, fun _ => rfl, fun _ => rfl, fun _ => rfl, fun _ _ _ _ _ => rfl,
    fun _ _ _ _ _ _ => rfl, fun _ _ => rfl, rfl, fun _ => rfl, rfl⟩

/-- the generic step, the same for every legacy layout: a load that succeeded with a message that is
    well formed, in normal form and fits a frame survives `Marshal` → `Unmarshal` unchanged, into
    any instance.  The load result `r` is a variable, so that the upgrade theorems are this one at
    `r := Instance.unmarshal σ e stream` and `Instance.unmarshal` is never unfolded to project. -/
theorem upgrade_reload {r : Instance × Option Err} {m : SlimMsg} {lv : List Slim.Level}
    (hr : r = (⟨m, lv, false⟩, none)) (hwf : m.WF) (hnf : m.NF)
    (hb : BodyOK (encodeSlim m)) (hlv : Slim.initLevels m = .ok lv) :
    r.2 = none ∧ r.1.varsNil = false ∧ r.1.inner = m ∧
    unmarshalDispatch (marshalSlim r.1.inner) = .ok (.current r.1.inner) ∧
    ∀ (σ' : Instance) (e' : Option Nat),
      Instance.unmarshal σ' e' (marshalSlim r.1.inner) = (⟨r.1.inner, r.1.levels, false⟩, none) := by
  subst hr
  exact ⟨rfl, rfl, rfl, C05_unmarshal_marshal m hwf hnf hb,
    fun σ' e' => Instance.unmarshal_marshal σ' e' m hwf hnf hb lv hlv⟩

/-- a reload that reproduces message and level table of a state whose `vars` flag is clear
    reproduces the state, hence every answer, and marshals to the same bytes -/
theorem answers_of_reload {r r' : Instance × Option Err} (hv : r.1.varsNil = false)
    (hr' : r' = (⟨r.1.inner, r.1.levels, false⟩, none)) :
    r'.2 = none ∧ r'.1 = r.1 ∧ SameAnswers r'.1 r.1 ∧ marshalSlim r'.1.inner = marshalSlim r.1.inner := by
  have heq : r'.1 = r.1 := by rw [hr', ← hv]
  exact ⟨by rw [hr'], heq, SameAnswers.of_eq heq, by rw [heq]⟩

/-- **C06 upgrade, 0.5.10 / 0.5.11 (nopref / innpref / allpref).**  Under the hypotheses of
    `C06_load_legacy_0510` (plus the allocation bound `hre` on the re-marshalled body): the legacy
    stream loads; the loaded message is today's message of the trie with the stream's word-index
    select tables and the retired fields as unknown bytes; what `Marshal` writes for it is a
    current-layout stream carrying that very message; and loading those bytes into any instance,
    with any encoder, gives exactly the loaded state (same message, same levels). -/
theorem C06_upgrade_0510 (mode ver : String) (keys vals : List Bytes) (opt : Opt) (t : Trie1)
    (w : Nat) (stream : Bytes)
    (hmode : optOfMode mode = some opt) (hver : ver = "0.5.10" ∨ ver = "0.5.11")
    (hwr : write0510 mode ver keys vals = .ok stream)
    (hb : build keys (some vals) opt = .ok t) (hk : keys ≠ []) (hsm : Small t)
    (hbody : BodyOK (to0510 (Slim.encodeCreator t)))
    (hw : 0 < w) (hvw : ∀ v ∈ vals, v.length = w) (σ : Instance)
    (hre : BodyOK (encodeSlim (Instance.unmarshal σ (some w) stream).1.inner)) :
    let r := Instance.unmarshal σ (some w) stream
    let bytes := marshalSlim r.1.inner
    r.2 = none ∧ r.1.varsNil = false ∧
    r.1.inner = wordSelectMsg (Slim.encode t) (retired (Slim.encodeCreator t)) ∧
    unmarshalDispatch bytes = .ok (.current r.1.inner) ∧
    ∀ (σ' : Instance) (e' : Option Nat),
      Instance.unmarshal σ' e' bytes = (⟨r.1.inner, r.1.levels, false⟩, none) := by
  obtain ⟨lv, hlv, hinst⟩ := loaded_0510 mode ver keys vals opt t w stream hmode hver hwr hb hk hsm hbody
    hw hvw σ
  obtain ⟨hwf, hnf⟩ := loaded0510_WF_NF (build_shape keys (some vals) opt t hb hk) hsm
  rw [hinst] at hre
  exact upgrade_reload hinst hwf hnf hre hlv

/-- **Every answer is preserved by the upgrade, and the upgraded stream is stable.**  For the state `r'`
    of any instance after loading the upgraded bytes: the load succeeds, `r'.1 = r.1` (message,
    level table, `vars` flag), so `Slim.view`, every lookup, every scan, `getInt`, `Stat` and
    `String()` answer exactly as the legacy-loaded instance did (`SameAnswers`), and marshalling
    again reproduces the upgraded bytes. -/
theorem C06_upgrade_0510_answers (mode ver : String) (keys vals : List Bytes) (opt : Opt) (t : Trie1)
    (w : Nat) (stream : Bytes)
    (hmode : optOfMode mode = some opt) (hver : ver = "0.5.10" ∨ ver = "0.5.11")
    (hwr : write0510 mode ver keys vals = .ok stream)
    (hb : build keys (some vals) opt = .ok t) (hk : keys ≠ []) (hsm : Small t)
    (hbody : BodyOK (to0510 (Slim.encodeCreator t)))
    (hw : 0 < w) (hvw : ∀ v ∈ vals, v.length = w) (σ : Instance)
    (hre : BodyOK (encodeSlim (Instance.unmarshal σ (some w) stream).1.inner))
    (σ' : Instance) (e' : Option Nat) :
    let r := Instance.unmarshal σ (some w) stream
    let bytes := marshalSlim r.1.inner
    let r' := Instance.unmarshal σ' e' bytes
    r'.2 = none ∧ r'.1 = r.1 ∧ SameAnswers r'.1 r.1 ∧ marshalSlim r'.1.inner = bytes := by
  obtain ⟨_, h2, _, _, h5⟩ := C06_upgrade_0510 mode ver keys vals opt t w stream hmode hver hwr hb hk hsm
    hbody hw hvw σ hre
  exact answers_of_reload h2 (h5 σ' e')

/-- After the upgrade the reloaded instance satisfies the whole conclusion of `C06_load_legacy_0510`
    (retained keys found with their values, exact retained neighbours, `RangeGet` of every indexed
    key, totality of every lookup, `Stat` = retained key count), for every instance and encoder the
    upgraded bytes are loaded into. -/
theorem C06_upgrade_0510_lookups (mode ver : String) (keys vals : List Bytes) (opt : Opt) (t : Trie1)
    (w : Nat) (stream : Bytes)
    (hmode : optOfMode mode = some opt) (hver : ver = "0.5.10" ∨ ver = "0.5.11")
    (hwr : write0510 mode ver keys vals = .ok stream)
    (hb : build keys (some vals) opt = .ok t) (hk : keys ≠ []) (hsm : Small t)
    (hbody : BodyOK (to0510 (Slim.encodeCreator t)))
    (hw : 0 < w) (hvw : ∀ v ∈ vals, v.length = w) (σ : Instance)
    (hre : BodyOK (encodeSlim (Instance.unmarshal σ (some w) stream).1.inner))
    (σ' : Instance) (e' : Option Nat) :
    let r' := Instance.unmarshal σ' e' (marshalSlim (Instance.unmarshal σ (some w) stream).1.inner)
    let v := Slim.view r'.1.inner
    let mask := keepMask keys.length (some vals) opt.dedup
    r'.2 = none ∧ r'.1.varsNil = false ∧
    (∀ i, i < keys.length → keptAt mask i = true →
      get v (keys.getD i []) = .ok (some (expectedValue (some vals) t i)) ∧
      search v (keys.getD i []) =
        .ok (valOf mask (some vals) (prevKept mask i), valOf mask (some vals) (some i),
             valOf mask (some vals) (nextKept mask i))) ∧
    (∀ i, i < keys.length → rangeGet v (keys.getD i []) = .ok (some (recVal mask (some vals) i))) ∧
    (∀ q, (∃ a, getID v q = .ok a) ∧ (∃ a, get v q = .ok a) ∧ (∃ a, rangeGet v q = .ok a) ∧
      (∃ a, search v q = .ok a)) ∧
    (∃ nodeCnt, Slim.stat r'.1.inner r'.1.levels
      = .ok { levels := r'.1.levels, keyCnt := (retained keys (some vals) opt.dedup).length,
              nodeCnt := nodeCnt }) := by
  have h := C06_upgrade_0510_answers mode ver keys vals opt t w stream hmode hver hwr hb hk
    hsm hbody hw hvw σ hre σ' e'
  have g := C06_load_legacy_0510 mode ver keys vals opt t w stream hmode hver hwr hb hk
    hsm hbody hw hvw σ
  dsimp only at h g ⊢
  -- the reloaded state as a variable: the kernel would evaluate `Instance.unmarshal` to project from it
  generalize Instance.unmarshal σ' e' _ = r' at h ⊢
  obtain ⟨h1, h2, _, _⟩ := h
  obtain ⟨_, g2, g3, g4, g5, g6⟩ := g
  rw [h2]
  exact ⟨h1, g2, g3, g4, g5, g6⟩

/-- The allocation hypothesis `hre` does not depend on the instance: it is a statement about the
    builder's message of the trie (word-index select tables, retired fields kept). -/
theorem C06_upgrade_0510_hre (mode ver : String) (keys vals : List Bytes) (opt : Opt) (t : Trie1)
    (w : Nat) (stream : Bytes)
    (hmode : optOfMode mode = some opt) (hver : ver = "0.5.10" ∨ ver = "0.5.11")
    (hwr : write0510 mode ver keys vals = .ok stream)
    (hb : build keys (some vals) opt = .ok t) (hk : keys ≠ []) (hsm : Small t)
    (hbody : BodyOK (to0510 (Slim.encodeCreator t)))
    (hw : 0 < w) (hvw : ∀ v ∈ vals, v.length = w) (σ : Instance) :
    (Instance.unmarshal σ (some w) stream).1.inner
      = wordSelectMsg (Slim.encode t) (retired (Slim.encodeCreator t)) := by
  obtain ⟨lv, _, hinst⟩ := loaded_0510 mode ver keys vals opt t w stream hmode hver hwr hb hk hsm hbody
    hw hvw σ
  rw [hinst]

/-- The retired fields are never empty: field 13 (`ShortMinusInner = ShortSize − 17`, negative for
    every builder output) is always written. -/
theorem retired_ne_nil (cur : SlimMsg) (hss : cur.shortSize ≤ 16) : retired cur ≠ [] := by
  intro h
  unfold retired at h
  have h13 := (List.append_eq_nil_iff.mp (List.append_eq_nil_iff.mp h).2).1
  have hv : int32Varint ((cur.shortSize : Int) - Slim.innerSize) ≠ 0 := by
    unfold int32Varint Slim.innerSize
    split <;> omega
  rw [encVarintF, if_neg hv] at h13
  exact tag_ne_nil 13 0 (List.append_eq_nil_iff.mp h13).1

/-- **An upgraded 0.5.10 / 0.5.11 stream is not the stream a fresh 0.5.12 build of the same keys
    writes**: it still carries the retired fields (and the word-index select tables), so the bytes
    differ — while every answer is the same (`C06_upgrade_0510_lookups`) and the bytes are stable from
    then on (`C06_upgrade_0510_answers`). -/
theorem C06_upgrade_0510_not_fresh (mode ver : String) (keys vals : List Bytes) (opt : Opt) (t : Trie1)
    (w : Nat) (stream : Bytes)
    (hmode : optOfMode mode = some opt) (hver : ver = "0.5.10" ∨ ver = "0.5.11")
    (hwr : write0510 mode ver keys vals = .ok stream)
    (hb : build keys (some vals) opt = .ok t) (hk : keys ≠ []) (hsm : Small t)
    (hbody : BodyOK (to0510 (Slim.encodeCreator t)))
    (hw : 0 < w) (hvw : ∀ v ∈ vals, v.length = w) (σ : Instance)
    (hre : BodyOK (encodeSlim (Instance.unmarshal σ (some w) stream).1.inner)) :
    marshalSlim (Instance.unmarshal σ (some w) stream).1.inner ≠ marshalSlim (Slim.encode t) := by
  intro heq
  obtain ⟨_, _, h3, h4, _⟩ := C06_upgrade_0510 mode ver keys vals opt t w stream hmode hver hwr hb hk hsm
    hbody hw hvw σ hre
  obtain ⟨f1, f2, f3⟩ := C05_encode_wf keys (some vals) opt t hb hsm
  -- both messages are what the dispatch reads back from the same bytes, so they are equal …
  rw [heq, C05_unmarshal_marshal _ f1 f2 f3, h3] at h4
  have hu := congrArg SlimMsg.unrecognized (Loaded.current.inj (Except.ok.inj h4))
  -- … but only one of them carries unknown bytes
  have hs : ShapeOK t := build_shape keys (some vals) opt t hb hk
  rw [encode_eq t (Nat.ne_of_gt hs.nonempty), encodeCreator_unrecognized] at hu
  refine retired_ne_nil _ ?_ hu.symm
  rw [enc_shortSize]
  exact Nat.le_trans (eShortSize_le t) (by decide)

/-- **C06 upgrade, three-section layouts.**  Under the hypotheses of `C06_load_legacy_3section`
    and nothing else (no allocation hypothesis: the body bound is proved): the legacy stream loads; the loaded message
    is the creator's message of the converted records (a current-format message without unknown
    bytes); what `Marshal` writes for it is a current-layout stream carrying that very message; and
    loading those bytes into any instance, with any encoder, gives exactly the loaded state. -/
theorem C06_upgrade_3section (variant : String) (keys vals : List Bytes) (w : Nat) (stream : Bytes)
    (hwr : writeLegacy3 variant keys vals = .ok stream)
    (hne : keys ≠ []) (hasc : strictAsc keys = true) (hlen : vals.length = keys.length)
    (hw : ∀ v ∈ vals, v.length = w) (hkl : ∀ k ∈ keys, 2 * k.length < 65535)
    (hcount : 32 * keys.length + 143 < 2 ^ 31) (hwn : w * (2 * keys.length + 1) < 2 ^ 31)
    (σ : Instance) :
    let r := Instance.unmarshal σ (some w) stream
    let bytes := marshalSlim r.1.inner
    r.2 = none ∧ r.1.varsNil = false ∧
    (∃ vr ch st lv t', parseVariant variant = some vr ∧ sections3 vr keys vals = .ok (ch, st, lv) ∧
      convert ch st lv (some w) = .ok t' ∧ r.1.inner = Slim.encodeCreator t' ∧
      t'.nodes.size + 1 ≤ 2 * keys.length) ∧
    r.1.inner.unrecognized = [] ∧
    unmarshalDispatch bytes = .ok (.current r.1.inner) ∧
    ∀ (σ' : Instance) (e' : Option Nat),
      Instance.unmarshal σ' e' bytes = (⟨r.1.inner, r.1.levels, false⟩, none) := by
  obtain ⟨vr, ch, st, lv, hp, hsec, _⟩ := writeLegacy3_inv variant keys vals stream hwr
  obtain ⟨hbc, hbs, hbl⟩ := sections3_bodyOK vr keys vals w ch st lv hsec hcount hw hwn
  obtain ⟨t', lk, hconv, C⟩ := converted vr keys vals w ch st lv hne hasc hlen hw hkl hsec
  obtain ⟨_, lvl, hl, hinst, _⟩ := C06_load_legacy3 variant vr keys vals w ch st lv stream hp hsec hwr
    hne hasc hlen hw hkl hcount hbc hbs hbl t' hconv σ
  obtain ⟨hwf, hnf, hre', hsz⟩ := convert_msg_ok C hw hcount hwn
  obtain ⟨h1, h2, h3, h4, h5⟩ := upgrade_reload hinst hwf hnf hre' hl
  exact ⟨h1, h2, ⟨vr, ch, st, lv, t', hp, hsec, hconv, h3, hsz⟩, h3 ▸ encodeCreator_unrecognized t', h4, h5⟩

/-- **Every answer is preserved by the upgrade, and the upgraded stream is stable** (three-section
    layouts): `r'.1 = r.1` for the state `r'` of any instance after loading the upgraded bytes, so
    every lookup, scan, `getInt`, `Stat`, `String()` answers as the legacy-loaded instance did, and
    marshalling again reproduces the upgraded bytes. -/
theorem C06_upgrade_3section_answers (variant : String) (keys vals : List Bytes) (w : Nat)
    (stream : Bytes)
    (hwr : writeLegacy3 variant keys vals = .ok stream)
    (hne : keys ≠ []) (hasc : strictAsc keys = true) (hlen : vals.length = keys.length)
    (hw : ∀ v ∈ vals, v.length = w) (hkl : ∀ k ∈ keys, 2 * k.length < 65535)
    (hcount : 32 * keys.length + 143 < 2 ^ 31) (hwn : w * (2 * keys.length + 1) < 2 ^ 31)
    (σ σ' : Instance) (e' : Option Nat) :
    let r := Instance.unmarshal σ (some w) stream
    let bytes := marshalSlim r.1.inner
    let r' := Instance.unmarshal σ' e' bytes
    r'.2 = none ∧ r'.1 = r.1 ∧ SameAnswers r'.1 r.1 ∧ marshalSlim r'.1.inner = bytes := by
  obtain ⟨_, h2, _, _, _, h5⟩ := C06_upgrade_3section variant keys vals w stream hwr hne hasc hlen hw hkl
    hcount hwn σ
  exact answers_of_reload h2 (h5 σ' e')

/-- After the upgrade the reloaded instance satisfies the whole conclusion of
    `C06_load_legacy_3section` (every key found with its value by `Get` and `RangeGet`, exact
    neighbours, totality of every lookup, `Stat` = all `n` keys), for every instance and encoder the
    upgraded bytes are loaded into. -/
theorem C06_upgrade_3section_lookups (variant : String) (keys vals : List Bytes) (w : Nat)
    (stream : Bytes)
    (hwr : writeLegacy3 variant keys vals = .ok stream)
    (hne : keys ≠ []) (hasc : strictAsc keys = true) (hlen : vals.length = keys.length)
    (hw : ∀ v ∈ vals, v.length = w) (hkl : ∀ k ∈ keys, 2 * k.length < 65535)
    (hcount : 32 * keys.length + 143 < 2 ^ 31) (hwn : w * (2 * keys.length + 1) < 2 ^ 31)
    (σ σ' : Instance) (e' : Option Nat) :
    let r' := Instance.unmarshal σ' e' (marshalSlim (Instance.unmarshal σ (some w) stream).1.inner)
    let v := Slim.view r'.1.inner
    r'.2 = none ∧ r'.1.varsNil = false ∧
    (∀ i, i < keys.length →
      get v (keys.getD i []) = .ok (some (C06L3.val w vals i)) ∧
      rangeGet v (keys.getD i []) = .ok (some (C06L3.val w vals i)) ∧
      search v (keys.getD i []) =
        .ok (if i = 0 then none else some (C06L3.val w vals (i - 1)),
             some (C06L3.val w vals i),
             if i + 1 < keys.length then some (C06L3.val w vals (i + 1)) else none)) ∧
    (∀ q, (∃ a, getID v q = .ok a) ∧ (∃ a, get v q = .ok a) ∧ (∃ a, rangeGet v q = .ok a) ∧
      (∃ a, search v q = .ok a)) ∧
    (∃ nodeCnt, Slim.stat r'.1.inner r'.1.levels
      = .ok { levels := r'.1.levels, keyCnt := keys.length, nodeCnt := nodeCnt }) := by
  have h := C06_upgrade_3section_answers variant keys vals w stream hwr hne hasc hlen hw hkl
    hcount hwn σ σ' e'
  have g := C06_load_legacy_3section variant keys vals w stream hwr hne hasc hlen hw hkl
    hcount hwn σ
  dsimp only at h g ⊢
  generalize Instance.unmarshal σ' e' _ = r' at h ⊢
  obtain ⟨h1, h2, _, _⟩ := h
  obtain ⟨_, g2, g3, g4, g5⟩ := g
  rw [h2]
  exact ⟨h1, g2, g3, g4, g5⟩

/-- **C06 upgrade, the empty key set, every legacy layout.**  The stream an old writer produced for
    no keys loads (as the empty trie: `C06_load_legacy_3section_empty`, `C06_load_legacy_0510_empty`);
    what `Marshal` writes for the loaded instance loads again into any instance, with any encoder, as
    exactly the same state; it is again the empty trie. -/
theorem C06_upgrade_empty (stream : Bytes) (e : Option Nat) (σ : Instance)
    (hwr : (∃ variant vals, writeLegacy3 variant [] vals = .ok stream) ∨
      (∃ mode ver opt vals, optOfMode mode = some opt ∧ (ver = "0.5.10" ∨ ver = "0.5.11") ∧
        write0510 mode ver [] vals = .ok stream)) :
    let r := Instance.unmarshal σ e stream
    let bytes := marshalSlim r.1.inner
    r.2 = none ∧
    unmarshalDispatch bytes = .ok (.current r.1.inner) ∧
    ∀ (σ' : Instance) (e' : Option Nat),
      Instance.unmarshal σ' e' bytes = (r.1, none) ∧
      EmptyLoaded (Instance.unmarshal σ' e' bytes) := by
  -- in both families the loaded message `m` has no `NodeTypeBM`, is well formed and small
  have key : ∃ m, unmarshalMsg e stream = .ok m ∧ m.nodeTypeBM = none ∧ m.WF ∧ m.NF ∧
      BodyOK (encodeSlim m) := by
    rcases hwr with ⟨variant, vals, hwr⟩ | ⟨mode, ver, opt, vals, hmode, hver, hwr⟩
    · exact ⟨_, unmarshalMsg_legacy3_empty variant vals stream hwr e,
        encodeCreator_emptyConverted_nodeTypeBM, emptyConverted_msg_ok⟩
    · rw [write0510_nil mode ver opt vals stream hmode hver hwr]
      exact ⟨{}, (C06_load_0510_empty ver hver e σ).1, rfl, emptyMsg_ok⟩
  obtain ⟨m, hm, hn, hwf, hnf, hbody⟩ := key
  have hlv : Slim.initLevels m = .ok [(0, 0, 0)] := initLevels_of_none m hn
  obtain ⟨h1, h2, h3, h4, h5⟩ :=
    upgrade_reload (Instance.unmarshal_of_levels σ e stream m _ hm hlv) hwf hnf hbody hlv
  dsimp only
  refine ⟨h1, h4, fun σ' e' => ⟨by rw [h5 σ' e', ← h2], ?_⟩⟩
  rw [h3]
  exact emptyLoaded_of σ' e' _ m (unmarshalMsg_marshal e' m hwf hnf hbody) hn

namespace C06Up

open C06L3.Ex in
/-- the 0.5.9 stream (bitmap children, extended index bitmaps) of five keys — "a" is a prefix of
    "ab" — satisfies every hypothesis of `C06_upgrade_3section`: loaded into any instance, marshalled
    with the current writer and loaded into any other instance with any encoder, the state is the
    same, "ab" is found with `[2]`, 5 keys are reported, and the bytes are stable -/
example (σ σ' : Instance) (e' : Option Nat) : ∃ stream, writeLegacy3 "0.5.9" keys vals = .ok stream ∧
    let r := Instance.unmarshal σ (some 1) stream
    let r' := Instance.unmarshal σ' e' (marshalSlim r.1.inner)
    r'.2 = none ∧ r'.1 = r.1 ∧ marshalSlim r'.1.inner = marshalSlim r.1.inner ∧
    get (Slim.view r'.1.inner) [0x61, 0x62] = .ok (some (some [2])) ∧
    (∃ n, Slim.stat r'.1.inner r'.1.levels = .ok { levels := r'.1.levels, keyCnt := 5, nodeCnt := n }) := by
  obtain ⟨stream, hs⟩ := C01.Ex.exists_of_isOk (writeLegacy3 "0.5.9" keys vals) (by decide +kernel)
  have h := C06_upgrade_3section_answers "0.5.9" keys vals 1 stream hs (by decide) (by decide) rfl
    (by decide) (by decide) (by decide) (by decide) σ σ' e'
  have g := C06_upgrade_3section_lookups "0.5.9" keys vals 1 stream hs (by decide) (by decide) rfl
    (by decide) (by decide) (by decide) (by decide) σ σ' e'
  exact ⟨stream, hs, h.1, h.2.1, h.2.2.2, (g.2.2.1 1 (by decide)).1, g.2.2.2.2⟩

/-- a single key "k" ↦ [7] in the oldest variant (0.5.0: uint32 children, steps on leaves) -/
example (σ σ' : Instance) (e' : Option Nat) : ∃ stream, writeLegacy3 "0.5.0" [[0x6b]] [[7]] = .ok stream ∧
    get (Slim.view (Instance.unmarshal σ' e'
      (marshalSlim (Instance.unmarshal σ (some 1) stream).1.inner)).1.inner) [0x6b] = .ok (some (some [7])) := by
  obtain ⟨stream, hs⟩ := C01.Ex.exists_of_isOk (writeLegacy3 "0.5.0" [[0x6b]] [[7]]) (by decide +kernel)
  have g := C06_upgrade_3section_lookups "0.5.0" [[0x6b]] [[7]] 1 stream hs (by decide) (by decide) rfl
    (by decide) (by decide) (by decide) (by decide) σ σ' e'
  exact ⟨stream, hs, (g.2.2.1 0 (by decide)).1⟩

/-- no key, a three-section variant and a 0.5.10 mode: the hypotheses of `C06_upgrade_empty` hold -/
example (σ σ' : Instance) (e e' : Option Nat) : ∃ stream, writeLegacy3 "0.5.4" [] [] = .ok stream ∧
    EmptyLoaded (Instance.unmarshal σ' e' (marshalSlim (Instance.unmarshal σ e stream).1.inner)) := by
  obtain ⟨stream, hs⟩ := C01.Ex.exists_of_isOk (writeLegacy3 "0.5.4" [] []) (by decide +kernel)
  exact ⟨stream, hs, ((C06_upgrade_empty stream e σ (Or.inl ⟨_, _, hs⟩)).2.2 σ' e').2⟩

example (σ σ' : Instance) (e e' : Option Nat) : ∃ stream, write0510 "innpref" "0.5.11" [] [] = .ok stream ∧
    EmptyLoaded (Instance.unmarshal σ' e' (marshalSlim (Instance.unmarshal σ e stream).1.inner)) := by
  obtain ⟨stream, hs⟩ := C01.Ex.exists_of_isOk (write0510 "innpref" "0.5.11" [] []) (by decide +kernel)
  exact ⟨stream, hs, ((C06_upgrade_empty stream e σ
    (Or.inr ⟨"innpref", "0.5.11", { inner := true }, [], by decide, Or.inr rfl, hs⟩)).2.2 σ' e').2⟩

open C06L3.Ex in
/-- the allpref-0.5.10 stream of the same five keys (stored inner prefixes with a position bitmap,
    leaf prefixes, the three retired fields) satisfies every hypothesis of `C06_upgrade_0510`,
    `hre` included: the reloaded state is the loaded state, 5 retained keys are reported, every
    search is total, the bytes are stable, and they are NOT the bytes of a fresh 0.5.12 build -/
example (σ σ' : Instance) (e' : Option Nat) : ∃ stream t, write0510 "allpref" "0.5.10" keys vals = .ok stream ∧
    build keys (some vals) { inner := true, leaf := true } = .ok t ∧
    let r := Instance.unmarshal σ (some 1) stream
    let r' := Instance.unmarshal σ' e' (marshalSlim r.1.inner)
    r'.2 = none ∧ r'.1 = r.1 ∧ marshalSlim r'.1.inner = marshalSlim r.1.inner ∧
    marshalSlim r.1.inner ≠ marshalSlim (Slim.encode t) ∧
    (∃ n, Slim.stat r'.1.inner r'.1.levels = .ok { levels := r'.1.levels, keyCnt := 5, nodeCnt := n }) ∧
    ∀ q, ∃ a, search (Slim.view r'.1.inner) q = .ok a := by
  have hopt : optOfMode "allpref" = some { inner := true, leaf := true } := by decide +kernel
  have h : ((build keys (some vals) { inner := true, leaf := true }).toOption.map (fun t =>
      decide ((encodeSlim (wordSelectMsg (Slim.encode t) (retired (Slim.encodeCreator t)))).length
        ≤ maxAlloc))) = some true := by
    rw [encode_eq_eval, encodeCreator_eq_eval]; decide +kernel
  have hret : (retained keys (some vals) true).length = 5 := by decide
  match hb : build keys (some vals) { inner := true, leaf := true } with
  | .error e => rw [hb] at h; cases h
  | .ok t =>
    rw [hb] at h
    simp only [Except.toOption, Option.map_some, Option.some.injEq, decide_eq_true_eq] at h
    have hk : keys ≠ [] := by decide
    have hvw : ∀ v ∈ vals, v.length = 1 := by decide
    have hsm := small_of_input _ _ _ t hb (by decide)
    have h2 := bodyOK_0510_of_input _ _ _ t hb hk (by decide)
    have hstream := C06_write0510_stream "allpref" "0.5.10" keys vals _ t hopt (Or.inl rfl) hk hb
    have hre : BodyOK (encodeSlim (Instance.unmarshal σ (some 1)
        (frame "0.5.10" (to0510 (Slim.encode t)))).1.inner) := by
      rw [C06_upgrade_0510_hre "allpref" "0.5.10" keys vals _ t 1 _ hopt (Or.inl rfl) hstream hb hk
        hsm h2 Nat.one_pos hvw σ]
      exact h
    have ha := C06_upgrade_0510_answers "allpref" "0.5.10" keys vals _ t 1 _ hopt (Or.inl rfl) hstream hb hk
      hsm h2 Nat.one_pos hvw σ hre σ' e'
    have hl := C06_upgrade_0510_lookups "allpref" "0.5.10" keys vals _ t 1 _ hopt (Or.inl rfl) hstream hb hk
      hsm h2 Nat.one_pos hvw σ hre σ' e'
    have hn := C06_upgrade_0510_not_fresh "allpref" "0.5.10" keys vals _ t 1 _ hopt (Or.inl rfl) hstream hb hk
      hsm h2 Nat.one_pos hvw σ hre
    obtain ⟨_, _, _, _, l5, l6⟩ := hl
    refine ⟨_, t, hstream, rfl, ha.1, ha.2.1, ha.2.2.2, hn, ?_, fun q => (l5 q).2.2.2⟩
    obtain ⟨n, hn'⟩ := l6
    exact ⟨n, by rw [hn']; simp only [hret]⟩

end C06Up

#print axioms C06_upgrade_0510
#print axioms C06_upgrade_0510_answers
#print axioms C06_upgrade_0510_lookups
#print axioms C06_upgrade_0510_hre
#print axioms C06_upgrade_0510_not_fresh
#print axioms C06_upgrade_3section
#print axioms C06_upgrade_3section_answers
#print axioms C06_upgrade_3section_lookups
#print axioms C06_upgrade_empty
