import SlimModel.Readers
import SlimProofs.ReadersLemmas
import SlimProofs.EncodeAt
import SlimProps.Bridge.C11
/-
  Property C11 — a SlimTrie is safely shareable between concurrent readers.

  WHAT IS PROVED HERE (the logic).  `Readers.step` (SlimModel/Readers.lean) is one read call —
  Get, GetID, RangeGet, Search, GetI8/16/32/64, Stat, String, Marshal, NewIter, next(), ScanFrom,
  ScanFromTo — defined as the sequential model function on `Slim.view shared.inner`, i.e. the very
  functions the other property theorems are about.  Then:

  * `C11_frame`        no read call changes the shared instance;
  * `C11_interleave`   for EVERY schedule of ANY number of threads, the answers a thread receives
                       (and the iterators it ends up with) are exactly those it gets when its own
                       calls run alone on the same instance; hence (`C11_schedule_irrelevant`) two
                       schedules of the same per-thread programs are indistinguishable to every thread;
  * `C11_iterators_independent(_created)`  the yields of an iterator are those of the same number
                       of `next()` calls on that iterator alone, whatever else — `next()` on other
                       iterators of the same thread included — is interleaved; for iterators of other
                       threads this is `C11_interleave`.

  These are trivial GIVEN the frame property; the content of C11 is that the GO CODE has the frame
  property.  That is not a theorem about the model; it is tied to the code in two ways:

  (a) tie 1, `C11_no_shared_writes` = `Bridge.readPathWrites : Generated.readPathWrites = []`.
      `harness/cmd/extract` (go/ast + go/types) lists every assignment, inc/dec, append-to and
      copy-into target in every function reachable from the read APIs whose root object is
      reachable from the shared `*SlimTrie` (`*SlimTrie`, `*Slim`, `*Bitmap`, `*VLenArray`,
      `*slimVars`, `[]levelInfo`, their slices).  The list is regenerated from the source by the
      check; it is empty.  That is the frame property at the level of memory writes: a cached
      query session, scan buffer or lazily converted prefix inside the shared structure would
      appear in it.
  (b) tie 2, `harness/cmd/race`: 2..32 goroutines mixing every read API on one shared instance
      (fresh, loaded from current bytes, loaded from legacy bytes) in a `-race` build with
      randomized yielding; every answer is compared with the sequential one.

  WHAT NO THEOREM HERE EXHIBITS.  The Go memory model (a step is a whole call; finer interleavings
  are indistinguishable only for code without shared writes — the premise (a) checks, not a
  consequence), torn or stale reads of words written before the instance was published (the
  instance must be handed to the readers with a happens-before edge: goroutine start, channel,
  mutex), compiler or CPU reordering, the completeness of the static write extraction (reflection,
  `unsafe`, assembly and writes inside dependencies' code are outside its view) and of the race
  detector (it only sees the executions it is shown).  `Reset`/`Unmarshal` are writers and are not
  read operations.
-/
namespace C11
open Readers

/-- tie 1: the extractor finds no write to shared memory on any read path. -/
theorem C11_no_shared_writes : Generated.readPathWrites = [] := Bridge.readPathWrites

/-- **Frame**: a read call returns the shared instance it was given. -/
theorem C11_frame (sh : Shared) (loc : Local) (op : ReadOp) : (step sh loc op).1 = sh :=
  step_shared sh loc op

theorem C11_frame_run (sh : Shared) (locs : Locals) (sched : Schedule) :
    (run sh locs sched).1 = sh := run_shared sh locs sched

/-- **Interleaving**: in every schedule, thread `t` receives exactly the answers, and ends with
    exactly the iterators, that its own calls produce when run alone from the same shared state. -/
theorem C11_interleave (sh : Shared) (locs : Locals) (sched : Schedule) (t : ThreadId) :
    answersOf t (run sh locs sched).2.2 = (runAlone sh (locs t) (opsOf t sched)).2.2 ∧
    (run sh locs sched).2.1 t = (runAlone sh (locs t) (opsOf t sched)).2.1 :=
  run_thread sh t sched locs

/-- Two schedules that give every thread the same program are indistinguishable to every thread. -/
theorem C11_schedule_irrelevant (sh : Shared) (locs : Locals) (s₁ s₂ : Schedule)
    (h : ∀ t, opsOf t s₁ = opsOf t s₂) (t : ThreadId) :
    answersOf t (run sh locs s₁).2.2 = answersOf t (run sh locs s₂).2.2 := by
  rw [(C11_interleave sh locs s₁ t).1, (C11_interleave sh locs s₂ t).1, h t]

/-- **Iterators are independent**: what iterator `a` of thread `t` yields during any schedule is
    what the same number of `next()` calls yield on that iterator alone — whatever `next()` calls on
    other iterators (of this thread or of others) and whatever other read calls are interleaved. -/
theorem C11_iterators_independent (sh : Shared) (locs : Locals) (sched : Schedule) (t : ThreadId)
    (a : Nat) (it : Iter) (h : (locs t)[a]? = some it) :
    yields a (opsOf t sched) (answersOf t (run sh locs sched).2.2)
      = (runAlone sh [it] (List.replicate (nextCalls a (opsOf t sched)) (.next 0))).2.2 := by
  rw [(C11_interleave sh locs sched t).1]
  exact yields_alone sh a (opsOf t sched) (locs t) it h

/-- The same for an iterator created during the schedule: if thread `t`'s program is
    `pre ++ NewIter(start, incl, wv) :: post` and `NewIter` succeeds with state `s`, the iterator gets
    the next free index and its yields during `post` are those of the fresh iterator alone. -/
theorem C11_iterators_independent_created (sh : Shared) (locs : Locals) (sched : Schedule)
    (t : ThreadId) (pre post : List ReadOp) (start : Bytes) (incl wv : Bool) (s : Scan.IterState)
    (hprog : opsOf t sched = pre ++ .newIter start incl wv :: post)
    (hnew : Scan.newIterFrom (Slim.view sh.inner) start incl = .ok s) :
    let loc₁ := (runAlone sh (locs t) pre).2.1
    let postAnswers := (runAlone sh (loc₁ ++ [{ st := s, withValue := wv }]) post).2.2
    answersOf t (run sh locs sched).2.2
      = (runAlone sh (locs t) pre).2.2 ++ Answer.iter (.ok loc₁.length) :: postAnswers ∧
    yields loc₁.length post postAnswers
      = (runAlone sh [{ st := s, withValue := wv }]
          (List.replicate (nextCalls loc₁.length post) (.next 0))).2.2 := by
  intro loc₁ postAnswers
  constructor
  · rw [(C11_interleave sh locs sched t).1, hprog, (runAlone_append sh (locs t) pre _).1]
    congr 1
    simp only [runAlone, step, hnew]
    rfl
  · exact yields_alone sh loc₁.length post _ _ (by simp)

/-! ## non-vacuity: a concrete Complete trie, two threads, one interleaving -/

namespace Ex

def keys : List Bytes := [[0x61], [0x61, 0x62], [0x62, 0xe3]]
def vals : List Bytes := [[1], [2], [3]]

/-- `NewSlimTrie(enc, keys, vals, Opt{Complete})` as a shared instance (`{}` if anything failed;
    `built` below shows it did not) -/
def shared : Shared :=
  match build keys (some vals) { dedup := true, inner := true, leaf := true } with
  | .ok t =>
    match Legacy.Instance.init (Slim.encode t) with
    | .ok i => i
    | .error _ => {}
  | .error _ => {}

/-- thread 0: a lookup, then an iterator from the start with values -/
def prog0 : List ReadOp := [.get [0x61, 0x62], .newIter [] true true, .next 0, .next 0, .next 0]
/-- thread 1: an iterator from "ab" (excluded) without values, a lookup in between -/
def prog1 : List ReadOp := [.newIter [0x61, 0x62] false false, .next 0, .getID [0x62, 0xe3], .next 0]

def sched : Schedule :=
  [(1, .newIter [0x61, 0x62] false false), (0, .get [0x61, 0x62]), (0, .newIter [] true true),
   (1, .next 0), (0, .next 0), (1, .getID [0x62, 0xe3]), (0, .next 0), (1, .next 0), (0, .next 0)]

/-- a decidable rendering of the answers of interest -/
def show1 : Answer → Option (Option Bytes × Option Bytes)
  | .item (.ok p) => some p
  | .value (.ok (some v)) => some (none, v)
  | .id (.ok (some n)) => some (some [UInt8.ofNat n], none)
  | _ => none

def check (sh : Shared) : Bool :=
  sh.levels.length == 4 &&
  (runAlone sh [] prog0).2.2.map show1 ==
    [some (none, some [2]), none, some (some [0x61], some [1]), some (some [0x61, 0x62], some [2]),
     some (some [0x62, 0xe3], some [3])] &&
  (runAlone sh [] prog1).2.2.map show1 ==
    [none, some (some [0x62, 0xe3], none), some (some [2], none), some (none, none)] &&
  (answersOf 0 (run sh (fun _ => []) sched).2.2).map show1 == (runAlone sh [] prog0).2.2.map show1 &&
  (answersOf 1 (run sh (fun _ => []) sched).2.2).map show1 == (runAlone sh [] prog1).2.2.map show1 &&
  -- thread 0's iterator (created by its second call) yields the three keys with their values
  (yields 0 prog0 (answersOf 0 (run sh (fun _ => []) sched).2.2)).map show1 ==
    [some (some [0x61], some [1]), some (some [0x61, 0x62], some [2]), some (some [0x62, 0xe3], some [3])]

/-- the trie is built (3 levels below the root entry) and the model computes, on the interleaved
    schedule, exactly the sequential answers of each program (kernel evaluation of the executable
    model: bit-level `Slim.view` of the encoded message) -/
theorem built : check shared = true := by
  -- `rw [shared]`, not `unfold shared`: the kernel checks a definitional unfolding under `check`
  -- by evaluating both sides, with the slow `encode`
  rw [shared, Refine.encode_eq_eval]
  decide +kernel

theorem progs : opsOf 0 sched = prog0 ∧ opsOf 1 sched = prog1 := by decide +kernel

/-- … and that is what the theorem says for this schedule, for both threads (for any shared
    instance; `built` evaluates both sides on the concrete one) -/
example (sh : Shared) :
    answersOf 0 (run sh (fun _ => []) sched).2.2 = (runAlone sh [] prog0).2.2 ∧
    answersOf 1 (run sh (fun _ => []) sched).2.2 = (runAlone sh [] prog1).2.2 := by
  have h0 := (C11_interleave sh (fun _ => []) sched 0).1
  have h1 := (C11_interleave sh (fun _ => []) sched 1).1
  rw [progs.1] at h0
  rw [progs.2] at h1
  exact ⟨h0, h1⟩

end Ex

end C11

#print axioms C11.C11_no_shared_writes
#print axioms C11.C11_frame
#print axioms C11.C11_frame_run
#print axioms C11.C11_interleave
#print axioms C11.C11_schedule_irrelevant
#print axioms C11.C11_iterators_independent
#print axioms C11.C11_iterators_independent_created
#print axioms C11.Ex.built
