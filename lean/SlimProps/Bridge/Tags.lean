import Generated.Facts
import SlimModel.WireSchema
/-
  SlimProps.Bridge.Tags — tie 1, fact group "tags" of lean/Generated/Facts.lean (regenerated from /repo's
  working tree by harness/cmd/extract on every run).  One module per fact group: when the extractor
  cannot find a group's facts, or a fact changed, only this module stops compiling and only the
  properties that rely on it report the broken tie.
-/
namespace Bridge

/-! ### protobuf struct tags (C05, C06): field numbers, wire types, packedness -/
def tagStr (msg : String) (t : Wire.FieldTag) : String :=
  msg ++ "." ++ t.name ++ "=" ++ toString t.num ++ "," ++ t.wire ++ "," ++ (if t.packedRep then "rep,packed" else "opt")

def modelTags : List String :=
  Wire.array32Schema.map (tagStr "Array32") ++ Wire.bitmapSchema.map (tagStr "Bitmap") ++
  Wire.bitsSchema.map (tagStr "Bits") ++ Wire.slimSchema.map (tagStr "Slim") ++
  Wire.vlenArraySchema.map (tagStr "VLenArray")

def utf8 (s : String) : List UInt8 := s.toByteArray.data.toList

theorem utf8_inj {s t : String} (e : utf8 s = utf8 t) : s = t :=
  String.toByteArray_inj.mp (ByteArray.ext (Array.ext' e))

/-- every tag in the Go source is a tag of the model's schema tables and vice versa -/
theorem protoTags : (∀ t ∈ Generated.protoTags, t ∈ modelTags) ∧ (∀ t ∈ modelTags, t ∈ Generated.protoTags) := by
  -- membership is decided on the UTF-8 bytes (cheaper for the kernel than comparing `String`s) and by the kernel
  -- alone (plain `decide` would evaluate it in the elaborator first, at three times the price)
  have h : (∀ b ∈ Generated.protoTags.map utf8, b ∈ modelTags.map utf8) ∧
      (∀ b ∈ modelTags.map utf8, b ∈ Generated.protoTags.map utf8) := by
    decide +kernel
  have back : ∀ {l₁ l₂ : List String}, (∀ b ∈ l₁.map utf8, b ∈ l₂.map utf8) → ∀ t ∈ l₁, t ∈ l₂ := by
    intro l₁ l₂ h t ht
    obtain ⟨s, hs, e⟩ := List.mem_map.mp (h _ (List.mem_map_of_mem ht))
    exact utf8_inj e ▸ hs
  exact ⟨back h.1, back h.2⟩

end Bridge
