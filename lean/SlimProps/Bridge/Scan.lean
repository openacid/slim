import Generated.Facts
/-
  SlimProps.Bridge.Scan — tie 1, fact group "scan" of lean/Generated/Facts.lean (regenerated from /repo's
  working tree by harness/cmd/extract on every run).  TEXTUAL fingerprints (advisory: a rewrite of the
  source changes the text although nothing else changes; `check` then notes the stale fingerprint and
  skips this module with a NOTE instead of reporting a violation).  One module per fact group, so that
  only this module stops compiling.
-/
namespace Bridge

/-! ### queries (the small pure functions `encStep`, `decStep`, `getLabelIdxOfKey`, `GetI8..64` are tied
    SEMANTICALLY in SlimProps/BridgeSem.lean: translated by harness/cmd/extract/translate.go, proved equal to
    the model's definitions for all arguments) -/
/-- the refusal guard of `getGEPath` (`Slim.view.scanOK`) -/
theorem scanGuard : Generated.scanGuard =
    "st.inner.InnerPrefixes == nil || st.inner.InnerPrefixes.PositionBM == nil || st.inner.LeafPrefixes == nil" := rfl


end Bridge
