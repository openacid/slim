import Generated.Facts
import SlimModel.Version
/-
  SlimProps.Bridge.Versions — tie 1, fact group "versions" of lean/Generated/Facts.lean (regenerated from /repo's
  working tree by harness/cmd/extract on every run).  TEXTUAL fingerprints (advisory: a rewrite of the
  source changes the text although nothing else changes; `check` then notes the stale fingerprint and
  skips this module with a NOTE instead of reporting a violation).  One module per fact group, so that
  only this module stops compiling.
-/
namespace Bridge

/-! ### versions (C07): the compatible set and the three dispatch predicates of `Unmarshal` -/
theorem slimtrieVersion : Generated.slimtrieVersion = Version.slimtrieVersion := rfl
theorem compatibleVersions : Generated.compatibleVersions = Version.compatibleSpecs := rfl
theorem unmarshalCurrentSpec : Generated.unmarshalCurrentSpec = Version.currentLayoutSpecs := rfl
theorem unmarshalBefore000512Spec : Generated.unmarshalBefore000512Spec = Version.before000512Specs := rfl
theorem before000510Spec : Generated.before000510Spec = Version.before000510Specs := rfl


end Bridge
