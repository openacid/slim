import Generated.Facts
/-
  SlimProps.Bridge.Index — tie 1, fact group "index" of lean/Generated/Facts.lean (regenerated from /repo's
  working tree by harness/cmd/extract on every run).  TEXTUAL fingerprints (advisory: a rewrite of the
  source changes the text although nothing else changes; `check` then notes the stale fingerprint and
  skips this module with a NOTE instead of reporting a violation).  One module per fact group, so that
  only this module stops compiling.
-/
namespace Bridge

/-! ### package index (`Index.get` / `Index.rangeGet` / `Index.new`) -/
theorem indexGetCalls : Generated.indexGetCalls = ["si.SlimTrie.Get", "si.DataReader.Read"] := rfl
theorem indexRangeGetCalls : Generated.indexRangeGetCalls = ["si.SlimTrie.RangeGet", "si.DataReader.Read"] := rfl
theorem indexNewSlimTrieArgs : Generated.indexNewSlimTrieArgs = ["encode.I64{}", "keys", "offsets"] := rfl


end Bridge
