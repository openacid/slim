import Generated.Facts
/-
  SlimProps.Bridge.NewSlim — tie 1, fact group "newslim + bmorder" of lean/Generated/Facts.lean (regenerated from /repo's
  working tree by harness/cmd/extract on every run).  TEXTUAL fingerprints (advisory: a rewrite of the
  source changes the text although nothing else changes; `check` then notes the stale fingerprint and
  skips this module with a NOTE instead of reporting a violation).  One module per fact group, so that
  only this module stops compiling.
-/
namespace Bridge

/-! ### newSlim -/
/-- `keys[i] >= keys[i+1]` rejects: accepted lists are strictly ascending (`strictAsc`, `bytesLt`) -/
theorem orderCheckOp : Generated.orderCheckOp = ">=" := rfl
/-- `prefCnt > 10` (`buildStep`: `decide (prefCnt … > 10)`) -/
theorem bigThreshold : (Generated.bigThresholdOp, Generated.bigThreshold) = (">", 10) := rfl
/-- the 16-bit step guard (`buildStep`: `!c.opt.inner && decide (ws - o.fb > 0xffff)`; positions / 4) -/
theorem stepGuard :
    Generated.stepGuard = "!*opt.InnerPrefix && (wordStart-o.fromKeyBit)>>2 > 0xffff" := rfl
/-- the comparator of `sortedBMCounts` (`Slim.insertSorted`: count desc, bitmap desc) -/
theorem bmCountOrder : Generated.bmCountOrder =
    "{ if ss[i].cnt == ss[j].cnt { return ss[i].bitmap17 > ss[j].bitmap17 } return ss[i].cnt > ss[j].cnt }" := rfl


end Bridge
