import SlimProofs.Legacy0510View
import SlimProps.L2
import SlimProps.L2c
import SlimProps.C18
/-
  C06, view half for 0.5.10 / 0.5.11 streams: every answer of the instance that holds the loaded
  message.

  After `Unmarshal` of a 0.5.10 / 0.5.11 stream the instance holds
  `wordSelectMsg (Slim.encode t) u` (`u` = the retired fields kept as unknown bytes); `V0510 t u` is
  its view.  `select32R64` tolerates word-index select tables and every other field is today's
  field (`getNode_wordSelect`), so for every `u` the view simulates the record-level view of the
  built trie, every lookup returns exactly what it returns on the records, and the statements of
  C01 (`C06_get_0510`, `C06_get_bytes_0510`), C02 (`C06_rangeget_0510`), C09 (`C06_search_0510`),
  C10 (`C06_total_0510`), C03 / C04 for Complete (`C06_allpref_exact`, `C06_allpref_scan`) and C18
  (`C06_stat_0510`) carry over.  They hold for any options (the 0.5.10 writers use default,
  InnerPrefix, Complete).
-/

open Transport Legacy Legacy0510

abbrev V0510 (t : Trie1) (u : Bytes) : View := Slim.view (wordSelectMsg (Slim.encode t) u)

theorem viewSim_built0510 (keys : List Bytes) (vals : Option (List Bytes)) (opt : Opt) (t : Trie1)
    (hb : build keys vals opt = .ok t) (u : Bytes) :
    ViewSim t.view (V0510 t u) t.nodes.size := by
  apply viewSim_wordSelect t u (viewSim_built keys vals opt t hb)
  intro hne
  have hk : keys ≠ [] := by
    intro h; subst h
    rw [BuildShape.build_nil vals opt t hb] at hne
    exact hne rfl
  exact build_shape keys vals opt t hb hk

/-- the same, stated on `Slim.encodeCreator t` (what `load_0510_msg` produces) for a non-empty
    key list -/
theorem viewSim_loaded0510_built (keys : List Bytes) (vals : Option (List Bytes)) (opt : Opt)
    (t : Trie1) (hb : build keys vals opt = .ok t) (hne : keys ≠ []) (u : Bytes) :
    ViewSim t.view (Slim.view (wordSelectMsg (Slim.encodeCreator t) u)) t.nodes.size :=
  viewSim_loaded0510 t (build_shape keys vals opt t hb hne)
    (encodeFacts_of_build keys vals opt t hb hne) u

theorem C06_getNode_0510 (keys : List Bytes) (vals : Option (List Bytes)) (opt : Opt) (t : Trie1)
    (hb : build keys vals opt = .ok t) (hne : keys ≠ []) (u : Bytes) (id : Nat)
    (hid : id < t.nodes.size) :
    Slim.getNode (wordSelectMsg (Slim.encodeCreator t) u) id = .ok t.nodes[id] :=
  getNode_loaded0510 t (build_shape keys vals opt t hb hne) u id hid

section eqs
variable (keys : List Bytes) (vals : Option (List Bytes)) (opt : Opt) (t : Trie1)
  (hb : build keys vals opt = .ok t) (u : Bytes)
include hb

theorem V0510_getID_eq (q : Bytes) : getID (V0510 t u) q = getID t.view q :=
  (getID_le (viewSim_built0510 keys vals opt t hb u) q).eq_of_ok
    (getID_total keys vals opt t hb q).choose_spec.1

theorem V0510_get_eq (q : Bytes) : get (V0510 t u) q = get t.view q :=
  (get_le (viewSim_built0510 keys vals opt t hb u) q).eq_of_ok
    (get_total keys vals opt t hb q).choose_spec

theorem V0510_searchID_eq (q : Bytes) : searchID (V0510 t u) q = searchID t.view q :=
  (searchID_le (viewSim_built0510 keys vals opt t hb u) q).eq_of_ok
    (searchID_total keys vals opt t hb q).choose_spec.1

theorem V0510_rangeGet_eq (q : Bytes) : rangeGet (V0510 t u) q = rangeGet t.view q :=
  (rangeGet_le (viewSim_built0510 keys vals opt t hb u) q).eq_of_ok
    (rangeGet_total keys vals opt t hb q).choose_spec

theorem V0510_search_eq (q : Bytes) : search (V0510 t u) q = search t.view q :=
  (search_le (viewSim_built0510 keys vals opt t hb u) q).eq_of_ok
    (search_total keys vals opt t hb q).choose_spec

end eqs

theorem C06_get_0510 (keys : List Bytes) (vals : Option (List Bytes)) (opt : Opt) (t : Trie1)
    (hb : build keys vals opt = .ok t) (u : Bytes) (i : Nat) (hi : i < keys.length)
    (hk : keptAt (keepMask keys.length vals opt.dedup) i = true) :
    (∃ id, getID (V0510 t u) (keys.getD i []) = .ok (some id)) ∧
    get (V0510 t u) (keys.getD i []) = .ok (some (expectedValue vals t i)) := by
  rw [V0510_getID_eq keys vals opt t hb, V0510_get_eq keys vals opt t hb]
  exact C01_get_retained keys vals opt t hb i hi hk

theorem C06_get_bytes_0510 (keys : List Bytes) (vals : Option (List Bytes)) (opt : Opt) (t : Trie1)
    (hb : build keys vals opt = .ok t) (u : Bytes) (i : Nat) (hi : i < keys.length)
    (hk : keptAt (keepMask keys.length vals opt.dedup) i = true) :
    ∃ r, get (V0510 t u) (keys.getD i []) = .ok (some r) ∧
      (vals = none → r = none) ∧ (∀ vs, vals = some vs → r.getD [] = vs.getD i []) := by
  rw [V0510_get_eq keys vals opt t hb]
  exact C01_get_retained_bytes keys vals opt t hb i hi hk

theorem C06_rangeget_0510 (keys : List Bytes) (vals : Option (List Bytes)) (opt : Opt) (t : Trie1)
    (hb : build keys vals opt = .ok t) (hne : keys ≠ []) (u : Bytes)
    (i : Nat) (hi : i < keys.length) :
    rangeGet (V0510 t u) (keys.getD i []) =
      .ok (some (recVal (keepMask keys.length vals opt.dedup) vals i)) := by
  rw [V0510_rangeGet_eq keys vals opt t hb]
  exact C02_rangeget_indexed keys vals opt t hb hne i hi

theorem C06_search_0510 (keys : List Bytes) (vals : Option (List Bytes)) (opt : Opt) (t : Trie1)
    (hb : build keys vals opt = .ok t) (hne : keys ≠ []) (u : Bytes)
    (m : Nat) (hm : m < keys.length)
    (hk : keptAt (keepMask keys.length vals opt.dedup) m = true) :
    search (V0510 t u) (keys.getD m []) =
      .ok (valOf (keepMask keys.length vals opt.dedup) vals
             (prevKept (keepMask keys.length vals opt.dedup) m),
           valOf (keepMask keys.length vals opt.dedup) vals (some m),
           valOf (keepMask keys.length vals opt.dedup) vals
             (nextKept (keepMask keys.length vals opt.dedup) m)) := by
  rw [V0510_search_eq keys vals opt t hb]
  exact C09_search_retained keys vals opt t hb hne m hm hk

theorem C06_total_0510 (keys : List Bytes) (vals : Option (List Bytes)) (opt : Opt) (t : Trie1)
    (hb : build keys vals opt = .ok t) (u : Bytes) (q : Bytes) :
    (∃ a, getID (V0510 t u) q = .ok a) ∧ (∃ a, get (V0510 t u) q = .ok a) ∧
    (∃ a, searchID (V0510 t u) q = .ok a) ∧ (∃ a, rangeGet (V0510 t u) q = .ok a) ∧
    (∃ a, search (V0510 t u) q = .ok a) := by
  rw [V0510_getID_eq keys vals opt t hb, V0510_get_eq keys vals opt t hb,
    V0510_searchID_eq keys vals opt t hb, V0510_rangeGet_eq keys vals opt t hb,
    V0510_search_eq keys vals opt t hb]
  obtain ⟨a, ha, _⟩ := getID_total keys vals opt t hb q
  obtain ⟨b, hb', _⟩ := searchID_total keys vals opt t hb q
  exact ⟨⟨a, ha⟩, get_total keys vals opt t hb q, ⟨b, hb'⟩, rangeGet_total keys vals opt t hb q,
    search_total keys vals opt t hb q⟩

theorem C06_allpref_exact (keys : List Bytes) (vals : Option (List Bytes)) (opt : Opt) (t : Trie1)
    (hb : build keys vals opt = .ok t) (hc : opt.complete = true) (u : Bytes) (q : Bytes) :
    search (V0510 t u) q =
      .ok (shownVal (retained keys vals opt.dedup) (Spec.lt (retained keys vals opt.dedup) q),
           shownVal (retained keys vals opt.dedup) (Spec.get (retained keys vals opt.dedup) q),
           shownVal (retained keys vals opt.dedup) (Spec.gt (retained keys vals opt.dedup) q)) ∧
    get (V0510 t u) q =
      .ok (shownVal (retained keys vals opt.dedup) (Spec.get (retained keys vals opt.dedup) q)) ∧
    rangeGet (V0510 t u) q =
      .ok (shownVal (retained keys vals opt.dedup) (Spec.le (retained keys vals opt.dedup) q)) ∧
    ∃ e, getID (V0510 t u) q = .ok e ∧
      e.isSome = (Spec.get (retained keys vals opt.dedup) q).isSome := by
  rw [V0510_search_eq keys vals opt t hb, V0510_get_eq keys vals opt t hb,
    V0510_rangeGet_eq keys vals opt t hb, V0510_getID_eq keys vals opt t hb]
  exact ⟨C03_search keys vals opt t hb hc q, C03_get keys vals opt t hb hc q,
    C03_rangeget keys vals opt t hb hc q, C03_getID keys vals opt t hb hc q⟩

open IterLemmas Subtree SearchDescent Exact Scan in
theorem C06_allpref_scan (keys : List Bytes) (vals : Option (List Bytes)) (opt : Opt) (t : Trie1)
    (hb : build keys vals opt = .ok t) (hc : opt.complete = true) (u : Bytes)
    (start : Bytes) (incl wv : Bool) :
    (∃ s, newIterFrom (V0510 t u) start incl = .ok s ∧
      ∀ k, iterTake (V0510 t u) wv k s =
        .ok (IterStack.expect k ((Spec.scanFrom (retained keys vals opt.dedup) start incl).map
          (C04.item (retained keys vals opt.dedup) wv)))) ∧
    (∀ (keepFn : Bytes → Bool) (stopAfter : Option Nat),
      scanFrom (V0510 t u) start incl wv keepFn stopAfter =
        .ok (IterScan.truncate stopAfter
          (((Spec.scanFrom (retained keys vals opt.dedup) start incl).map
            (C04.pair (retained keys vals opt.dedup) wv)).takeWhile (fun y => keepFn y.1)))) ∧
    (∀ (stop : Bytes) (inclEnd : Bool) (stopAfter : Option Nat),
      scanFromTo (V0510 t u) start incl stop inclEnd wv stopAfter =
        .ok (IterScan.truncate stopAfter
          ((Spec.scanFromTo (retained keys vals opt.dedup) start incl stop inclEnd).map
            (C04.pair (retained keys vals opt.dedup) wv)))) := by
  obtain ⟨s, hs, hy, hf⟩ :=
    C04.yields_sim keys vals opt t hb hc (viewSim_built0510 keys vals opt t hb u) start incl wv
  have hfrom := IterScan.scanFrom_of_yields hs hy hf
  refine ⟨⟨s, hs, fun k => ?_⟩, hfrom, fun stop inclEnd stopAfter =>
    C04.scanFromTo_of (fun _ => hfrom _ stopAfter) stop inclEnd⟩
  rw [hy.take k, List.map_map]
  rfl

/-- the level table and `Stat` of the loaded message are those of today's message, so the C18
    totals carry over: `N` nodes and exactly the retained keys (KeyCnt is preserved) -/
theorem C06_stat_0510 (keys : List Bytes) (vals : Option (List Bytes)) (opt : Opt) (t : Trie1)
    (hb : build keys vals opt = .ok t) (hne : keys ≠ []) (u : Bytes) (lv : List Slim.Level)
    (hlv : Slim.initLevels (wordSelectMsg (Slim.encode t) u) = .ok lv) :
    Slim.initLevels (wordSelectMsg (Slim.encode t) u) = Slim.initLevels (Slim.encode t) ∧
    Slim.stat (wordSelectMsg (Slim.encode t) u) lv
      = .ok { levels := lv, keyCnt := (retained keys vals opt.dedup).length,
              nodeCnt := t.nodes.size } := by
  rw [Wire.initLevels_wordSelectMsg] at hlv
  refine ⟨Wire.initLevels_wordSelectMsg _ _, ?_⟩
  rw [stat_wordSelect]
  exact (C18_totals keys vals opt t hb hne lv hlv).2.2

namespace C06View.Ex

/-- on the 3-key input of `L2.Ex`, any options, any retired bytes: the loaded instance finds the
    retained key `b\xe3` with its value, and every lookup of every query returns normally -/
example (o : Opt) (u : Bytes) : ∃ t, build L2.Ex.keys (some L2.Ex.vals) o = .ok t ∧
    (∃ r, get (V0510 t u) [0x62, 0xe3] = .ok (some r) ∧ r.getD [] = [2]) ∧
    ∀ q, ∃ a, search (V0510 t u) q = .ok a := by
  obtain ⟨t, ht⟩ := L2.Ex.build_ok o
  have hk : keptAt (keepMask L2.Ex.keys.length (some L2.Ex.vals) o.dedup) 2 = true := by
    cases o.dedup <;> decide
  obtain ⟨r, hr, _, hv⟩ := C06_get_bytes_0510 L2.Ex.keys (some L2.Ex.vals) o t ht u 2 (by decide) hk
  exact ⟨t, ht, ⟨r, hr, hv L2.Ex.vals rfl⟩,
    fun q => (C06_total_0510 L2.Ex.keys (some L2.Ex.vals) o t ht u q).2.2.2.2⟩

/-- Complete mode: a full scan of the loaded instance yields the two retained entries -/
example (u : Bytes) : ∃ t, build L2.Ex.keys (some L2.Ex.vals) L2c.Ex.opt = .ok t ∧
    Scan.scanFrom (V0510 t u) [] true true (fun _ => true) none =
      .ok [([0x61], some [1]), ([0x62, 0xe3], some [2])] := by
  obtain ⟨t, ht⟩ := L2.Ex.build_ok L2c.Ex.opt
  refine ⟨t, ht, ?_⟩
  rw [(C06_allpref_scan _ _ _ t ht (by decide) u [] true true).2.1]
  exact congrArg Except.ok (by decide +kernel)

end C06View.Ex

#print axioms viewSim_built0510
#print axioms viewSim_loaded0510_built
#print axioms C06_getNode_0510
#print axioms C06_get_0510
#print axioms C06_get_bytes_0510
#print axioms C06_rangeget_0510
#print axioms C06_search_0510
#print axioms C06_total_0510
#print axioms C06_allpref_exact
#print axioms C06_allpref_scan
#print axioms C06_stat_0510
