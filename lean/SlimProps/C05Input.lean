import SlimProps.Loaded
import SlimProofs.InputSmall
/-
  C05 (trie / instance level), stated on the USER'S INPUT.

  The trie-level theorems of `SlimProps/C05.lean` and `SlimProps/Loaded.lean` carry the hypothesis
  `Refine.Small t` (every int32 counter of the built message fits, the protobuf body can be
  allocated) — a hypothesis about the intermediate object `t`, not about what the caller of
  `NewSlimTrie` supplies.  Here it follows from the decidable predicate on keys and values

      InputSmall keys vals  :=  514·|keys| + (total key bytes) + (total value bytes) + 64 < 2^31

  (`SlimProofs/InputSmall.lean`, `small_of_input`), and the hypothesis `hlevels` (`st.init()`
  succeeds) is discharged by `C18_initLevels_ok`.  What is left: `hb : build keys vals opt = .ok t`
  (it NAMES the result of the construction; `C08_accept` says when it exists) and `InputSmall`.

  The bound allows, for instance, 10^6 keys of 1 KiB with 8-byte values, 10^5 keys of 16 KiB, or
  4·10^6 short keys.
-/
open Wire Frame Version Legacy Refine

section input
variable (keys : List Bytes) (vals : Option (List Bytes)) (opt : Opt) (t : Trie1)
  (hb : build keys vals opt = .ok t) (hi : InputSmall keys vals)
include hb hi

theorem C05_encode_wf_input :
    (Slim.encode t).WF ∧ (Slim.encode t).NF ∧ BodyOK (encodeSlim (Slim.encode t)) :=
  C05_encode_wf keys vals opt t hb (small_of_input keys vals opt t hb hi)

/-- **C05 round trip, from the input**: `Unmarshal(Marshal(t))` is the built message; the instance
    is the freshly initialised one whatever it held before. -/
theorem C05_roundtrip_input (encSize : Option Nat) (st : Instance) :
    unmarshalMsg encSize (marshalSlim (Slim.encode t)) = .ok (Slim.encode t) ∧
    ∃ lv, Slim.initLevels (Slim.encode t) = .ok lv ∧
      Instance.unmarshal st encSize (marshalSlim (Slim.encode t))
        = ({ inner := Slim.encode t, levels := lv, varsNil := false }, none) := by
  obtain ⟨lv, hlv⟩ := C18_initLevels_ok keys vals opt t hb
  have h := C05_roundtrip keys vals opt t hb (small_of_input keys vals opt t hb hi) encSize lv hlv st
  exact ⟨h.1, lv, hlv, h.2⟩

/-- **C05 answers identical, from the input**: the loaded instance has the built message, the same
    view (all that the query code reads), the freshly computed level table and the same `Stat`. -/
theorem C05_answers_identical_input (σ : Instance) (encSize : Option Nat) :
    ∃ lv, Slim.initLevels (Slim.encode t) = .ok lv ∧
      (loadedFrom σ t encSize).inner = Slim.encode t ∧
      Slim.view (loadedFrom σ t encSize).inner = Slim.view (Slim.encode t) ∧
      (loadedFrom σ t encSize).levels = lv ∧ (loadedFrom σ t encSize).varsNil = false ∧
      Slim.stat (loadedFrom σ t encSize).inner (loadedFrom σ t encSize).levels
        = Slim.stat (Slim.encode t) lv :=
  C05_answers_identical_built keys vals opt t hb (small_of_input keys vals opt t hb hi) σ encSize

/-- **C05 byte stability, from the input**: re-marshalling the loaded instance reproduces the bytes. -/
theorem C05_stable_trie_input (encSize : Option Nat) (st : Instance) :
    marshalSlim (Instance.unmarshal st encSize (marshalSlim (Slim.encode t))).1.inner
      = marshalSlim (Slim.encode t) := by
  obtain ⟨lv, hlv⟩ := C18_initLevels_ok keys vals opt t hb
  exact C05_stable_trie keys vals opt t hb (small_of_input keys vals opt t hb hi) encSize lv hlv st

/-- **C05 size, from the input**: the stream is the 32-byte header plus the advertised protobuf
    size, and that size can be allocated by the reader (`≤ maxAlloc`). -/
theorem C05_size_trie_input :
    (marshalSlim (Slim.encode t)).length = 32 + protoSizeSlim (Slim.encode t) ∧
    protoSizeSlim (Slim.encode t) ≤ maxAlloc := by
  refine ⟨C05_size_trie t, ?_⟩
  have := (small_of_input keys vals opt t hb hi).body
  unfold BodyOK at this
  rw [protoSizeSlim_eq]
  exact this

/-- **C05 no residue, from the input**: after ANY history of loads and resets, loading the bytes of
    a built trie succeeds, and the resulting state does not depend on the initial contents nor on
    the earlier operations (likewise after `Reset`). -/
theorem C05_no_residue_input (σ σ' : Instance) (ops ops' : List Op) (e : Option Nat) :
    (Instance.unmarshal (run σ ops) e (marshalSlim (Slim.encode t))).2 = none ∧
    run σ (ops ++ [.unmarshal e (marshalSlim (Slim.encode t))])
      = run σ' (ops' ++ [.unmarshal e (marshalSlim (Slim.encode t))]) ∧
    run σ (ops ++ [.reset]) = run σ' (ops' ++ [.reset]) := by
  obtain ⟨_, lv, _, hload⟩ := C05_roundtrip_input keys vals opt t hb hi e (run σ ops)
  have hok : (Instance.unmarshal (run σ ops) e (marshalSlim (Slim.encode t))).2 = none := by
    rw [hload]
  exact ⟨hok, C05_no_residue σ σ' ops ops' e _ hok⟩

end input

/-! ### non-vacuity

  The example input of `C05.ex_hyps` (3 keys, stored prefixes, values) is `InputSmall` by
  evaluation, `build` succeeds on it, and every theorem above applies. -/

example : InputSmall C05.exKeys (some C05.exVals) := by decide

example (st : Instance) : ∃ t, build C05.exKeys (some C05.exVals) C05.exOpt = .ok t ∧
    unmarshalMsg (some 1) (marshalSlim (Slim.encode t)) = .ok (Slim.encode t) ∧
    (Instance.unmarshal st (some 1) (marshalSlim (Slim.encode t))).2 = none := by
  obtain ⟨t, _, hb, _⟩ := C05.ex_hyps
  obtain ⟨h1, lv, _, h2⟩ := C05_roundtrip_input _ _ _ t hb (by decide) (some 1) st
  exact ⟨t, hb, h1, by rw [h2]⟩

example (σ : Instance) : ∃ t, build C05.exKeys (some C05.exVals) C05.exOpt = .ok t ∧
    Slim.view (loadedFrom σ t none).inner = Slim.view (Slim.encode t) ∧
    marshalSlim (Instance.unmarshal σ none (marshalSlim (Slim.encode t))).1.inner
      = marshalSlim (Slim.encode t) ∧
    (marshalSlim (Slim.encode t)).length = 171 := by
  obtain ⟨t, _, hb, _, _, hlen⟩ := C05.ex_hyps
  obtain ⟨_, _, _, hv, _⟩ := C05_answers_identical_input _ _ _ t hb (by decide) σ none
  exact ⟨t, hb, hv, C05_stable_trie_input _ _ _ t hb (by decide) none σ, hlen⟩

/-- `C05_no_residue_input`: load garbage, reset, then load a built trie — succeeds, and gives the
    same state as loading into a fresh instance -/
example : ∃ t, build C05.exKeys (some C05.exVals) C05.exOpt = .ok t ∧
    run {} ([.unmarshal none [1, 2, 3], .reset] ++ [.unmarshal (some 4) (marshalSlim (Slim.encode t))])
      = run {} ([] ++ [.unmarshal (some 4) (marshalSlim (Slim.encode t))]) := by
  obtain ⟨t, _, hb, _⟩ := C05.ex_hyps
  exact ⟨t, hb, (C05_no_residue_input _ _ _ t hb (by decide) {} {} _ [] (some 4)).2.1⟩

#print axioms C05_encode_wf_input
#print axioms C05_roundtrip_input
#print axioms C05_answers_identical_input
#print axioms C05_stable_trie_input
#print axioms C05_size_trie_input
#print axioms C05_no_residue_input
