import SlimProofs.Legacy3Wire
import SlimProofs.Legacy3Size
import SlimProofs.UpgradeEmpty
import SlimProps.C06Legacy3
import SlimProps.C06Wire
import SlimProps.C06View
import SlimProps.C07Wire
/-
  C06 (bytes → instance, every legacy layout) — "data written by every older compatible version
  loads and answers correctly": the streams of the reconstructed writers (`LegacyWrite.writeLegacy3`
  for 0.5.0 … 0.5.9, `LegacyWrite.write0510` for 0.5.10 / 0.5.11; their Go twins reproduce all 97
  archived files byte for byte) go through the model's complete `Unmarshal`
  (`Legacy.Instance.unmarshal`: header, version dispatch, framed reads, protobuf decoding, the
  in-memory conversions, `init`) and the resulting instance answers as the property demands.

  The link bytes → sections for the three-section layouts is `C06_dispatch_legacy3`,
  `C06_load_legacy3`, `C06_truncated_legacy3_stream`; both families end in a theorem of the same
  shape, `C06_load_legacy_3section` and `C06_load_legacy_0510` (lookups of every indexed / retained
  key, totality of every lookup on every query, `Stat`).

  Limits assumed for the three-section family, all about `keys`, `vals`, `w` only:
   * `hkl`     keys within the `uint16` step of the layout;
   * `hcount`  `32 · n + 143 < 2^31`: the old trie has at most `2n + 1` nodes
               (`buildOld_size_le`) and the children section stores 16 bits per inner node with
               int32 counters (`BMElts.N`, the rank indexes) — beyond that Go's own fields overflow;
   * `hwn`     `w · (2n + 1) < 2^31`: the value width and the leaf byte offsets are int32 in Go
               (`vlenArray.FixedSize = int32(prevSize)` in `newVLenArray`,
               `from := ithElt * va.FixedSize` in `VLenArray.get`) while the model keeps them in
               `Nat`; beyond 2^31 model and code differ.  The bound also lets the frame
               reader allocate the leaves section (`make([]byte, n)`); the other two sections are
               bounded by `hcount` alone (`sections3_bodyOK`).
  For the 0.5.10 family: `Refine.Small t` and `BodyOK` of the body as in `C06Wire` (C06Input
  discharges both from the input); the values are described by `hw : 0 < w` and
  `hvw : ∀ v ∈ vals, v.length = w` alone (`build_elts_fixed`).
  The empty key set (excluded by `hne`, `hk`) is `C06_load_legacy_3section_empty` /
  `C06_load_legacy_0510_empty`; the single-key set is an instance of the general theorem
  (`C06_load_legacy_3section_single`).
-/
open Wire Frame Version Legacy LegacyWrite LegacyConvert Refine

/-- bytes → sections: the stream `writeLegacy3` produced dispatches to the `legacy3` branch of
    `Unmarshal` with exactly the three messages `sections3` made (the writer's messages are
    well-formed without unknown bytes: `sections3_WF`, proved from their construction). -/
theorem C06_dispatch_legacy3 (variant : String) (vr : Variant) (keys vals : List Bytes)
    (ch st lv : Array32Msg) (stream : Bytes)
    (hp : parseVariant variant = some vr) (hsec : sections3 vr keys vals = .ok (ch, st, lv))
    (hwr : writeLegacy3 variant keys vals = .ok stream)
    (hcount : 32 * keys.length + 143 < 2 ^ 31)
    (hbc : BodyOK (encodeArray32 ch)) (hbs : BodyOK (encodeArray32 st)) (hbl : BodyOK (encodeArray32 lv)) :
    stream = frame vr.header (encodeArray32 ch) ++ (frame vr.header (encodeArray32 st) ++
        frame vr.header (encodeArray32 lv)) ∧
    unmarshalDispatch stream = .ok (.legacy3 vr.header ch st lv) := by
  obtain ⟨vr', ch', st', lv', hp', hsec', hs⟩ := writeLegacy3_inv variant keys vals stream hwr
  rw [hp] at hp'
  cases hp'
  rw [hsec] at hsec'
  cases hsec'
  refine ⟨hs, ?_⟩
  rw [hs]
  exact dispatch_legacy3 vr keys vals ch st lv (parseVariant_header variant vr hp) hsec
    hcount hbc hbs hbl

section load
variable (variant : String) (vr : Variant) (keys vals : List Bytes) (w : Nat) (ch st lv : Array32Msg)
  (stream : Bytes)
  (hp : parseVariant variant = some vr) (hsec : sections3 vr keys vals = .ok (ch, st, lv))
  (hwr : writeLegacy3 variant keys vals = .ok stream)
  (hne : keys ≠ []) (hasc : strictAsc keys = true) (hlen : vals.length = keys.length)
  (hw : ∀ v ∈ vals, v.length = w) (hkl : ∀ k ∈ keys, 2 * k.length < 65535)
  (hcount : 32 * keys.length + 143 < 2 ^ 31)
  (hbc : BodyOK (encodeArray32 ch)) (hbs : BodyOK (encodeArray32 st)) (hbl : BodyOK (encodeArray32 lv))
  (t' : Trie1) (hconv : convert ch st lv (some w) = .ok t')
include hp hsec hwr hne hasc hlen hw hkl hcount hbc hbs hbl hconv

/-- the complete `Unmarshal`: `st.inner` afterwards is the creator's message of the converted
    trie, and the instance is the freshly initialised one, whatever it held. -/
theorem C06_load_legacy3 (σ : Instance) :
    unmarshalMsg (some w) stream = .ok (Slim.encodeCreator t') ∧
    ∃ lvl, Slim.initLevels (Slim.encodeCreator t') = .ok lvl ∧
      Instance.unmarshal σ (some w) stream
        = ({ inner := Slim.encodeCreator t', levels := lvl, varsNil := false }, none) ∧
      Slim.stat (Slim.encodeCreator t') lvl
        = .ok { levels := lvl, keyCnt := keys.length, nodeCnt := t'.nodes.size } := by
  have hd := (C06_dispatch_legacy3 variant vr keys vals ch st lv stream hp hsec hwr hcount hbc hbs hbl).2
  have hm : unmarshalMsg (some w) stream = .ok (Slim.encodeCreator t') := by
    unfold unmarshalMsg
    rw [hd]
    show (convert ch st lv (some w) >>= fun t => pure (Slim.encodeCreator t)) = _
    rw [hconv]
    rfl
  obtain ⟨lvl, hl, hstat⟩ := C06_keycnt_legacy3 vr keys vals w ch st lv hne hasc hlen hw hkl hsec t' hconv
  exact ⟨hm, lvl, hl, Instance.unmarshal_of_levels σ _ _ _ lvl hm hl, hstat⟩

end load

/-- **C06, three-section layouts (0.5.0 … 0.5.9), from the bytes.**  For every variant, every
    non-empty strictly ascending key list within the layout's limits, one value of width `w` per
    key: loading the writer's stream into any instance succeeds, and the instance then finds every
    key with its value (`Get`, `RangeGet`), returns the exact neighbours (`Search`), answers every
    lookup of every query string normally, and `Stat` reports all `n` keys (nothing is dropped:
    these layouts had no de-duplication). -/
theorem C06_load_legacy_3section (variant : String) (keys vals : List Bytes) (w : Nat) (stream : Bytes)
    (hwr : writeLegacy3 variant keys vals = .ok stream)
    (hne : keys ≠ []) (hasc : strictAsc keys = true) (hlen : vals.length = keys.length)
    (hw : ∀ v ∈ vals, v.length = w) (hkl : ∀ k ∈ keys, 2 * k.length < 65535)
    (hcount : 32 * keys.length + 143 < 2 ^ 31) (hwn : w * (2 * keys.length + 1) < 2 ^ 31)
    (σ : Instance) :
    let r := Instance.unmarshal σ (some w) stream
    let v := Slim.view r.1.inner
    r.2 = none ∧ r.1.varsNil = false ∧
    (∀ i, i < keys.length →
      get v (keys.getD i []) = .ok (some (C06L3.val w vals i)) ∧
      rangeGet v (keys.getD i []) = .ok (some (C06L3.val w vals i)) ∧
      search v (keys.getD i []) =
        .ok (if i = 0 then none else some (C06L3.val w vals (i - 1)),
             some (C06L3.val w vals i),
             if i + 1 < keys.length then some (C06L3.val w vals (i + 1)) else none)) ∧
    (∀ q, (∃ a, getID v q = .ok a) ∧ (∃ a, get v q = .ok a) ∧ (∃ a, rangeGet v q = .ok a) ∧
      (∃ a, search v q = .ok a)) ∧
    (∃ nodeCnt, Slim.stat r.1.inner r.1.levels
      = .ok { levels := r.1.levels, keyCnt := keys.length, nodeCnt := nodeCnt }) := by
  obtain ⟨vr, ch, st, lv, hp, hsec, _⟩ := writeLegacy3_inv variant keys vals stream hwr
  obtain ⟨hbc, hbs, hbl⟩ := sections3_bodyOK vr keys vals w ch st lv hsec hcount hw hwn
  obtain ⟨t', hconv⟩ := C06_convert_ok_legacy3 vr keys vals w ch st lv hne hasc hlen hw hkl hsec
  obtain ⟨_, lvl, _, hinst, hstat⟩ := C06_load_legacy3 variant vr keys vals w ch st lv stream hp hsec hwr
    hne hasc hlen hw hkl hcount hbc hbs hbl t' hconv σ
  dsimp only
  rw [hinst]
  dsimp only
  refine ⟨rfl, rfl, ?_, ?_, ⟨_, hstat⟩⟩
  · intro i hi
    exact ⟨C06_get_legacy3 vr keys vals w ch st lv hne hasc hlen hw hkl hsec t' hconv i hi,
      C06_rangeget_legacy3 vr keys vals w ch st lv hne hasc hlen hw hkl hsec t' hconv i hi,
      C06_search_legacy3 vr keys vals w ch st lv hne hasc hlen hw hkl hsec t' hconv i hi⟩
  · intro q
    exact C06_total_legacy3 vr keys vals w ch st lv hne hasc hlen hw hkl hsec t' hconv q

/-- the state of any instance after loading the stream an old 0.5.10 / 0.5.11 writer produced for
    the keys and values of a built trie: today's message of the trie with the stream's word-index
    select tables and the retired fields as unknown bytes, and the level table of that message
    (`encode` for the message, `encodeCreator` under `retired`: the spelling of `C06_upgrade_0510`;
    the two are equal for a non-empty trie) -/
theorem loaded_0510 (mode ver : String) (keys vals : List Bytes) (opt : Opt) (t : Trie1)
    (w : Nat) (stream : Bytes)
    (hmode : optOfMode mode = some opt) (hver : ver = "0.5.10" ∨ ver = "0.5.11")
    (hwr : write0510 mode ver keys vals = .ok stream)
    (hb : build keys (some vals) opt = .ok t) (hk : keys ≠ []) (hsm : Small t)
    (hbody : BodyOK (to0510 (Slim.encodeCreator t)))
    (hw : 0 < w) (hvw : ∀ v ∈ vals, v.length = w) (σ : Instance) :
    ∃ lv, Slim.initLevels (wordSelectMsg (Slim.encode t) (retired (Slim.encodeCreator t))) = .ok lv ∧
      Instance.unmarshal σ (some w) stream
        = (⟨wordSelectMsg (Slim.encode t) (retired (Slim.encodeCreator t)), lv, false⟩, none) := by
  obtain ⟨es, helts, hne, hes⟩ := build_elts_fixed keys vals opt t w hb hk hvw
  cases hwr.symm.trans (C06_write0510_stream mode ver keys vals opt t hmode hver hk hb)
  obtain ⟨lv, hlv, hinst⟩ := C06_load_0510_instance keys vals opt t ver hver hb hk hsm hbody es w helts hw hne hes σ
  rw [encode_eq t (Nat.ne_of_gt (build_shape keys (some vals) opt t hb hk).nonempty)] at hlv hinst ⊢
  exact ⟨lv, (initLevels_wordSelectMsg _ _).trans hlv, hinst⟩

/-- **C06, 0.5.10 / 0.5.11 (nopref / innpref / allpref), from the bytes.**  Same shape: loading
    the writer's stream into any instance succeeds; every RETAINED key (these versions
    de-duplicate: `keepMask`) is found with its value, `RangeGet` answers every indexed key with the
    value of its run, `Search` returns the exact retained neighbours, every lookup of every query is
    total, and `Stat` reports exactly the retained keys.  (In `allpref` mode the instance is
    moreover an exact ordered map and scans enumerate it: `C06_allpref_exact`, `C06_allpref_scan`
    apply to the same loaded view.) -/
theorem C06_load_legacy_0510 (mode ver : String) (keys vals : List Bytes) (opt : Opt) (t : Trie1)
    (w : Nat) (stream : Bytes)
    (hmode : optOfMode mode = some opt) (hver : ver = "0.5.10" ∨ ver = "0.5.11")
    (hwr : write0510 mode ver keys vals = .ok stream)
    (hb : build keys (some vals) opt = .ok t) (hk : keys ≠ []) (hsm : Small t)
    (hbody : BodyOK (to0510 (Slim.encodeCreator t)))
    (hw : 0 < w) (hvw : ∀ v ∈ vals, v.length = w) (σ : Instance) :
    let r := Instance.unmarshal σ (some w) stream
    let v := Slim.view r.1.inner
    let mask := keepMask keys.length (some vals) opt.dedup
    r.2 = none ∧ r.1.varsNil = false ∧
    (∀ i, i < keys.length → keptAt mask i = true →
      get v (keys.getD i []) = .ok (some (expectedValue (some vals) t i)) ∧
      search v (keys.getD i []) =
        .ok (valOf mask (some vals) (prevKept mask i), valOf mask (some vals) (some i),
             valOf mask (some vals) (nextKept mask i))) ∧
    (∀ i, i < keys.length → rangeGet v (keys.getD i []) = .ok (some (recVal mask (some vals) i))) ∧
    (∀ q, (∃ a, getID v q = .ok a) ∧ (∃ a, get v q = .ok a) ∧ (∃ a, rangeGet v q = .ok a) ∧
      (∃ a, search v q = .ok a)) ∧
    (∃ nodeCnt, Slim.stat r.1.inner r.1.levels
      = .ok { levels := r.1.levels, keyCnt := (retained keys (some vals) opt.dedup).length,
              nodeCnt := nodeCnt }) := by
  obtain ⟨lv, hlv, hinst⟩ := loaded_0510 mode ver keys vals opt t w stream hmode hver hwr hb hk hsm hbody
    hw hvw σ
  dsimp only
  rw [hinst]
  dsimp only
  refine ⟨rfl, rfl, ?_, ?_, ?_, ?_⟩
  · intro i hi hkept
    exact ⟨(C06_get_0510 keys (some vals) opt t hb _ i hi hkept).2,
      C06_search_0510 keys (some vals) opt t hb hk _ i hi hkept⟩
  · intro i hi
    exact C06_rangeget_0510 keys (some vals) opt t hb hk _ i hi
  · intro q
    obtain ⟨h1, h2, _, h4, h5⟩ := C06_total_0510 keys (some vals) opt t hb _ q
    exact ⟨h1, h2, h4, h5⟩
  · exact ⟨_, (C06_stat_0510 keys (some vals) opt t hb hk _ lv hlv).2⟩

/-- A three-section stream cut anywhere before its end is rejected as truncated (the complete
    sections are the writer's own, hence decodable), and the instance is left empty. -/
theorem C06_truncated_legacy3_stream (variant : String) (vr : Variant) (keys vals : List Bytes)
    (ch st lv : Array32Msg) (stream : Bytes)
    (hp : parseVariant variant = some vr) (hsec : sections3 vr keys vals = .ok (ch, st, lv))
    (hwr : writeLegacy3 variant keys vals = .ok stream)
    (hcount : 32 * keys.length + 143 < 2 ^ 31)
    (hbc : BodyOK (encodeArray32 ch)) (hbs : BodyOK (encodeArray32 st)) (hbl : BodyOK (encodeArray32 lv))
    (e : Option Nat) (cut : Nat) (hcut : cut < stream.length) (σ : Instance) :
    unmarshalMsg e (stream.take cut) = .error .truncated ∧
    (Instance.unmarshal σ e (stream.take cut)).1.inner = {} := by
  obtain ⟨hs, _⟩ := C06_dispatch_legacy3 variant vr keys vals ch st lv stream hp hsec hwr hcount hbc hbs hbl
  obtain ⟨hvo, hcomp, hlay⟩ := version_legacy vr.header (parseVariant_header variant vr hp)
  obtain ⟨w1, w2, _, n1, n2, _⟩ := sections3_WF vr keys vals ch st lv hsec hcount
  rw [hs] at hcut ⊢
  have h := C07_truncated_legacy3_wellformed vr.header vr.header vr.header hvo hvo hvo hcomp hlay
    ch st lv hbc hbs hbl w1 n1 w2 n2 cut hcut
  have hm := unmarshalMsg_of_dispatch_error e _ _ h
  exact ⟨hm, by rw [Instance.unmarshal_error_inner σ e _ _ hm]⟩

def EmptyLoaded (r : Instance × Option Err) : Prop :=
  r.2 = none ∧ r.1.varsNil = false ∧ r.1.levels = [(0, 0, 0)] ∧
  (∀ q, getID (Slim.view r.1.inner) q = .ok none ∧ get (Slim.view r.1.inner) q = .ok none ∧
    rangeGet (Slim.view r.1.inner) q = .ok none ∧ search (Slim.view r.1.inner) q = .ok (none, none, none)) ∧
  (∀ start incl withValue keep stopAfter,
    Scan.scanFrom (Slim.view r.1.inner) start incl withValue keep stopAfter = .ok []) ∧
  Slim.stat r.1.inner r.1.levels = .ok { levels := [(0, 0, 0)], keyCnt := 0, nodeCnt := 0 }

theorem emptyLoaded_of (σ : Instance) (e : Option Nat) (stream : Bytes) (m : SlimMsg)
    (hm : unmarshalMsg e stream = .ok m) (hn : m.nodeTypeBM = none) :
    EmptyLoaded (Instance.unmarshal σ e stream) := by
  have hr := Instance.unmarshal_of_levels σ e stream m _ hm (initLevels_of_none m hn)
  have he : (Slim.view m).isEmpty = true := by
    show m.nodeTypeBM.isNone = true
    rw [hn]; rfl
  unfold EmptyLoaded
  rw [hr]
  refine ⟨rfl, rfl, rfl, ?_, ?_, stat_of_none m hn⟩
  · intro q
    exact ⟨EmptyView.getID_empty _ he q, EmptyView.get_empty _ he q, EmptyView.rangeGet_empty _ he q,
      EmptyView.search_empty _ he q⟩
  · intro start incl withValue keep stopAfter
    exact EmptyView.scanFrom_empty _ he start incl withValue keep stopAfter

theorem unmarshalMsg_legacy3_empty (variant : String) (vals : List Bytes) (stream : Bytes)
    (hwr : writeLegacy3 variant [] vals = .ok stream) (e : Option Nat) :
    unmarshalMsg e stream = .ok (Slim.encodeCreator emptyConverted) := by
  obtain ⟨vr, ch, st, lv, hp, hsec, hs⟩ := writeLegacy3_inv variant [] vals stream hwr
  cases (sections3_nil vr vals).symm.trans hsec
  have hsec' : sections3 vr [] [] = .ok (childrenMsg vr [] 0, stepsMsg [] 0, leavesMsg [] #[]) :=
    sections3_nil vr []
  obtain ⟨hbc, hbs, hbl⟩ := sections3_bodyOK vr [] [] 0 _ _ _ hsec' (by decide) (fun _ h => nomatch h) (by decide)
  obtain ⟨b1, b2, b3⟩ := sections3_nil_bitmaps vr
  have hd := dispatch_legacy3 vr [] [] _ _ _ (parseVariant_header variant vr hp) hsec'
    (by decide) hbc hbs hbl
  unfold unmarshalMsg
  rw [hs, hd]
  show (convert _ _ _ e >>= fun t => pure (Slim.encodeCreator t)) = _
  rw [convert_empty _ _ _ e b1 b2 b3]
  rfl

theorem write0510_nil (mode ver : String) (opt : Opt) (vals : List Bytes) (stream : Bytes)
    (hmode : optOfMode mode = some opt) (hver : ver = "0.5.10" ∨ ver = "0.5.11")
    (hwr : write0510 mode ver [] vals = .ok stream) : stream = frame ver [] := by
  unfold write0510 at hwr
  simp only [hmode, ver_accepted hver] at hwr
  have : (pure (frame ver []) : Except Err Bytes) = .ok stream := hwr
  cases this
  rfl

/-- **The empty key set, three-section layouts.**  For every variant, the writer's stream for
    `keys = []` (three frames whose messages hold no node) loads without error into any instance,
    with any encoder; every lookup and scan then answers as the empty trie and `Stat` reports 0 keys
    and 0 nodes (`EmptyLoaded`). -/
theorem C06_load_legacy_3section_empty (variant : String) (vals : List Bytes) (stream : Bytes)
    (hwr : writeLegacy3 variant [] vals = .ok stream) (e : Option Nat) (σ : Instance) :
    EmptyLoaded (Instance.unmarshal σ e stream) :=
  emptyLoaded_of σ e stream _ (unmarshalMsg_legacy3_empty variant vals stream hwr e)
    encodeCreator_emptyConverted_nodeTypeBM

/-- **The empty key set, 0.5.10 / 0.5.11.**  Every mode writes an empty body; it loads without
    error into any instance, which is then the empty trie. -/
theorem C06_load_legacy_0510_empty (mode ver : String) (opt : Opt) (vals : List Bytes) (stream : Bytes)
    (hmode : optOfMode mode = some opt) (hver : ver = "0.5.10" ∨ ver = "0.5.11")
    (hwr : write0510 mode ver [] vals = .ok stream) (e : Option Nat) (σ : Instance) :
    EmptyLoaded (Instance.unmarshal σ e stream) := by
  rw [write0510_nil mode ver opt vals stream hmode hver hwr]
  exact emptyLoaded_of σ e _ {} (C06_load_0510_empty ver hver e σ).1 rfl

/-- **A single key, three-section layouts**: the general theorem at `keys = [k]`, `vals = [x]`.
    The loaded instance finds `k` with `x` (nil when the width is 0), has no neighbours, and reports
    one key. -/
theorem C06_load_legacy_3section_single (variant : String) (k x : Bytes) (stream : Bytes)
    (hwr : writeLegacy3 variant [k] [x] = .ok stream) (hkl : 2 * k.length < 65535)
    (hx : x.length * 3 < 2 ^ 31) (σ : Instance) :
    let r := Instance.unmarshal σ (some x.length) stream
    let v := Slim.view r.1.inner
    r.2 = none ∧
    get v k = .ok (some (C06L3.val x.length [x] 0)) ∧
    rangeGet v k = .ok (some (C06L3.val x.length [x] 0)) ∧
    search v k = .ok (none, some (C06L3.val x.length [x] 0), none) ∧
    (∃ nodeCnt, Slim.stat r.1.inner r.1.levels = .ok { levels := r.1.levels, keyCnt := 1, nodeCnt := nodeCnt }) := by
  obtain ⟨h1, _, h3, _, h5⟩ := C06_load_legacy_3section variant [k] [x] x.length stream hwr
    (List.cons_ne_nil _ _) rfl rfl (fun v hv => by rw [List.mem_singleton.mp hv])
    (fun k' hk' => by rw [List.mem_singleton.mp hk']; exact hkl) (by decide : 32 * 1 + 143 < 2 ^ 31) hx σ
  obtain ⟨g1, g2, g3⟩ := h3 0 Nat.one_pos
  exact ⟨h1, g1, g2, g3, h5⟩

namespace C06L3W

open C06L3.Ex in
/-- the 0.5.9 stream (bitmap children, extended index bitmaps) of five keys — "a" is a prefix of
    "ab", an old node that is inner and leaf — exists and satisfies every hypothesis of
    `C06_load_legacy_3section`; hence any instance that loads it finds "ab" with value `[2]` -/
example (σ : Instance) : ∃ stream, writeLegacy3 "0.5.9" keys vals = .ok stream ∧
    (Instance.unmarshal σ (some 1) stream).2 = none ∧
    get (Slim.view (Instance.unmarshal σ (some 1) stream).1.inner) [0x61, 0x62] = .ok (some (some [2])) := by
  obtain ⟨stream, hs⟩ := C01.Ex.exists_of_isOk (writeLegacy3 "0.5.9" keys vals) (by decide +kernel)
  obtain ⟨h1, _, h3, _, _⟩ := C06_load_legacy_3section "0.5.9" keys vals 1 stream hs (by decide) (by decide) rfl
    (by decide) (by decide) (by decide) (by decide) σ
  exact ⟨stream, hs, h1, (h3 1 (by decide)).1⟩

/-- a single key "k" ↦ [7] in the oldest variant (0.5.0: uint32 children, steps on leaves) -/
example (σ : Instance) : ∃ stream, writeLegacy3 "0.5.0" [[0x6b]] [[7]] = .ok stream ∧
    get (Slim.view (Instance.unmarshal σ (some 1) stream).1.inner) [0x6b] = .ok (some (some [7])) := by
  obtain ⟨stream, hs⟩ := C01.Ex.exists_of_isOk (writeLegacy3 "0.5.0" [[0x6b]] [[7]]) (by decide +kernel)
  exact ⟨stream, hs, (C06_load_legacy_3section_single "0.5.0" [0x6b] [7] stream hs (by decide) (by decide) σ).2.1⟩

/-- no key: every three-section variant and every 0.5.10 mode produce a stream -/
example : ∀ v ∈ ["0.5.0", "0.5.3", "0.5.4", "0.5.7", "0.5.8", "0.5.9"],
    (writeLegacy3 v [] []).toBool = true := by decide +kernel
example : ∀ m ∈ ["nopref", "innpref", "allpref"], ∀ v ∈ ["0.5.10", "0.5.11"],
    (write0510 m v [] []).toBool = true := by decide +kernel

open C06L3.Ex in
/-- the allpref-0.5.10 stream of the same five keys satisfies every hypothesis of
    `C06_load_legacy_0510`; hence any instance that loads it reports the 5 retained keys and
    answers every lookup -/
example (σ : Instance) : ∃ stream, write0510 "allpref" "0.5.10" keys vals = .ok stream ∧
    (Instance.unmarshal σ (some 1) stream).2 = none ∧
    (∃ n, Slim.stat (Instance.unmarshal σ (some 1) stream).1.inner (Instance.unmarshal σ (some 1) stream).1.levels
      = .ok { levels := (Instance.unmarshal σ (some 1) stream).1.levels, keyCnt := 5, nodeCnt := n }) ∧
    ∀ q, ∃ a, search (Slim.view (Instance.unmarshal σ (some 1) stream).1.inner) q = .ok a := by
  have hopt : optOfMode "allpref" = some { inner := true, leaf := true } := by decide +kernel
  obtain ⟨t, hb⟩ := C01.Ex.exists_of_isOk (build keys (some vals) { inner := true, leaf := true })
    (by decide +kernel)
  have hret : (retained keys (some vals) true).length = 5 := by decide
  have hk : keys ≠ [] := by decide
  have hstream := C06_write0510_stream "allpref" "0.5.10" keys vals _ t hopt (Or.inl rfl) hk hb
  obtain ⟨r1, _, _, _, r5, n, hn⟩ := C06_load_legacy_0510 "allpref" "0.5.10" keys vals _ t 1 _ hopt
    (Or.inl rfl) hstream hb hk (small_of_input _ _ _ t hb (by decide))
    (bodyOK_0510_of_input _ _ _ t hb hk (by decide)) Nat.one_pos (by decide) σ
  exact ⟨_, hstream, r1, ⟨n, by rw [hn]; simp only [hret]⟩, fun q => (r5 q).2.2.2⟩

end C06L3W

#print axioms C06_dispatch_legacy3
#print axioms C06_load_legacy3
#print axioms C06_load_legacy_3section
#print axioms C06_load_legacy_0510
#print axioms C06_truncated_legacy3_stream
#print axioms C06_load_legacy_3section_empty
#print axioms C06_load_legacy_0510_empty
#print axioms C06_load_legacy_3section_single
