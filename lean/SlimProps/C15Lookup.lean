import SlimModel.Encode
import SlimProofs.Encode
/-
  SlimProps.C15Lookup — property C15 through the lookup API of package encode
  (`EncoderByKind`, `EncoderOf`, `GetSliceEltEncoder`): whatever encoder a lookup hands out is the
  fixed-width little-endian unsigned encoder OF THE KIND ASKED FOR, so C15's round trip, size agreement
  and layout hold for it; every other kind is refused with the dedicated error (nothing is handed out).
-/
namespace C15
open Encode

/-- width in bytes of the kinds that have an encoder -/
def kindWidth : Kind → Option Nat
  | .uint16 => some 2 | .uint32 => some 4 | .uint64 => some 8 | _ => none

/-- **EncoderByKind is exact**: success iff the kind is uint16/32/64, and then the codec handed out is the
    little-endian unsigned codec of exactly that width. -/
theorem C15_lookup_byKind (k : Kind) :
    match kindWidth k with
    | some w => ∃ e, encoderByKind k = .ok e ∧ e.codec = liftNat (uintCodec w)
    | none => encoderByKind k = .error .unknownEltType := by
  cases k with
  | uint16 => exact ⟨_, rfl, rfl⟩
  | uint32 => exact ⟨_, rfl, rfl⟩
  | uint64 => exact ⟨_, rfl, rfl⟩
  | _ => exact rfl

/-- the codec handed out round-trips every value of its kind with consistent sizes, also with a tail
    (C15's statement, for the encoder obtained through the lookup). -/
theorem C15_lookup_roundtrip (k : Kind) (e : Enc) (h : encoderByKind k = .ok e) :
    ∃ w, kindWidth k = some w ∧ e.codec = liftNat (uintCodec w) ∧ (uintCodec w).RoundTrips (InU w) ∧
      ∀ v, (uintCodec w).encode v = .ok (leBytes w v) := by
  have hk := C15_lookup_byKind k
  split at hk
  next w hw =>
    obtain ⟨e', he', hc⟩ := hk
    cases he'.symm.trans h
    exact ⟨w, hw, hc, uintCodec_roundTrips w, fun _ => rfl⟩
  next => cases hk.symm.trans h

/-- `EncoderOf` is `EncoderByKind` of the value's kind. -/
theorem C15_lookup_of (k : Kind) : encoderOf k = encoderByKind k := rfl

/-- `GetSliceEltEncoder`: not a slice → `ErrNotSlice`; a slice → by the element kind. -/
theorem C15_lookup_sliceElt (k : Kind) :
    getSliceEltEncoder k = match k with
      | .slice e => encoderByKind e
      | _ => .error .notSlice := by
  cases k <;> exact rfl

/-- nothing is handed out for a slice of slices, an untyped nil, a signed kind … -/
example : getSliceEltEncoder (.slice (.slice .uint32)) = .error .unknownEltType := rfl
example : getSliceEltEncoder .uint32 = .error .notSlice := rfl
example : encoderOf .invalid = .error .unknownEltType := rfl
example : encoderByKind .int32 = .error .unknownEltType := rfl
example : ∃ e, getSliceEltEncoder (.slice .uint64) = .ok e ∧ e.codec.encode (.int 258) = .ok [2, 1, 0, 0, 0, 0, 0, 0] :=
  ⟨_, rfl, rfl⟩

end C15
#print axioms C15.C15_lookup_byKind
#print axioms C15.C15_lookup_roundtrip
#print axioms C15.C15_lookup_of
#print axioms C15.C15_lookup_sliceElt
