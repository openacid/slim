import SlimProps.C03
/-
  SlimProps.C13Complete — the last clause of property C13: "Complete reports found only for
  retained keys".  A corollary of C03_getID (Complete mode is an exact map).
-/

/-- In Complete mode `GetID` reports found exactly for the retained keys, for every query string. -/
theorem C13_complete_only_retained (keys : List Bytes) (vals : Option (List Bytes)) (opt : Opt) (t : Trie1)
    (hb : build keys vals opt = .ok t) (hc : opt.complete = true) (q : Bytes) :
    (∃ id, getID t.view q = .ok (some id)) ↔
      (Spec.get (retained keys vals opt.dedup) q).isSome = true := by
  obtain ⟨e, he, hs⟩ := C03_getID keys vals opt t hb hc q
  rw [he, ← hs]
  cases e with
  | none => exact ⟨fun ⟨_, h⟩ => (by cases h), fun h => (by cases h)⟩
  | some id => exact ⟨fun _ => rfl, fun _ => ⟨id, rfl⟩⟩

#print axioms C13_complete_only_retained
