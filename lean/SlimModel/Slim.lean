import SlimModel.Bits
import SlimModel.Query
import SlimModel.ListFast
/-
  SlimModel.Slim — L2: the `Slim` protobuf message at word level.

  * `encode`  : Trie1 → SlimMsg          mirrors `creator.build` + `buildLeaves` + `newVLenArray`
                (bitmap frequency table, `sortedBMCounts`, `findMinShortSize`, the short table and the
                substitution of most-used 17-bit bitmaps, `bitmap.OfMany`, `stepToPos`, `bitstr.New`,
                `encStep`)
  * `Slim.view`: SlimMsg → View          mirrors `getNode`, `getLeafPrefix`, `VLenArray.get`,
                `getLeafIndex`, `initVars` at the same granularity as the Go code (word accesses,
                rank index lookups, the word-straddling extraction of a short bitmap)
-/

open Bits

namespace Slim

def innerSize : Nat := 17
def bigInnerSize : Nat := 257
def maxShortSize : Nat := 10

/-- `get17bitmap` / `bitmap.Of(bmindex)[0]` -/
def bm17 (labels : List Nat) : Nat := labels.foldl (fun a i => a ||| (1 <<< i)) 0

/-- `encStep` : two bytes, big endian, of the step in half-bytes (wraps at 2^16 like the Go code) -/
def encStep (n : Nat) : Bytes := [UInt8.ofNat (n / 256), UInt8.ofNat (n % 256)]

/-- `decStep`, in half-bytes -/
def decStep (b0 b1 : UInt8) : Nat := b0.toNat * 256 + b1.toNat

/-- `bitstr.New` of a stored prefix given as half-bytes -/
def bitstrOf (ns : List Nat) : Bytes :=
  unnibs ns ++ [if ns.length % 2 = 0 then 0xff else 0xf0]

/-- `bitstr.Len` / 4 -/
def bitstrLen (bs : Bytes) : Nat :=
  let last := (bs.getLast?.getD 0).toNat
  ((bs.length * 8 + popcount last) - 16) / 4

/-- half-bytes of a stored `bitstr` -/
def bitstrNibs (bs : Bytes) : List Nat := (nibs bs.dropLast).take (bitstrLen bs)

/-- `stepToPos(steps, 0)`: cumulative positions, one more than steps -/
def stepToPos (steps : List Nat) : List Nat :=
  let rec go : List Nat → Nat → List Nat
    | [], p => [p]
    | s :: ss, p => p :: go ss (p + s)
  go steps 0

/-- `newVLenArray` -/
def newVLenArray (elts : List Bytes) : Option VLenArrayMsg :=
  let sizes := elts.map List.length
  let total := sizes.sum
  if total = 0 then none else
  let nonEmptyIdx := (List.range elts.length).filter (fun i => (sizes.getD i 0) > 0)
  let nonEmptySizes := sizes.filter (· > 0)
  let allEqual := match nonEmptySizes with
    | [] => true
    | z :: zs => zs.all (· == z)
  let base : VLenArrayMsg :=
    { n := elts.length, eltCnt := nonEmptyIdx.length
      bytes := elts.flatten
      presenceBM := some (newBM nonEmptyIdx elts.length "r64") }
  if allEqual then
    -- prevSize is the size of the last non-empty element
    some { base with fixedSize := nonEmptySizes.getLast?.getD 0 }
  else
    some { base with positionBM := some (newBM (stepToPos sizes) 0 "s32") }

/-- compiled form of `newVLenArray` (`@[csimp]` below): `sizes.getD i` for every `i` walks the
    list each time; an array copy is indexed instead -/
def newVLenArrayFast (elts : List Bytes) : Option VLenArrayMsg :=
  let sizes := elts.map List.length
  let total := sizes.sum
  if total = 0 then none else
  let sizesA := sizes.toArray
  let nonEmptyIdx := (List.range elts.length).filter (fun i => (sizesA.getD i 0) > 0)
  let nonEmptySizes := sizes.filter (· > 0)
  let allEqual := match nonEmptySizes with
    | [] => true
    | z :: zs => zs.all (· == z)
  let base : VLenArrayMsg :=
    { n := elts.length, eltCnt := nonEmptyIdx.length
      bytes := elts.flatten
      presenceBM := some (newBM nonEmptyIdx elts.length "r64") }
  if allEqual then
    -- prevSize is the size of the last non-empty element
    some { base with fixedSize := nonEmptySizes.getLast?.getD 0 }
  else
    some { base with positionBM := some (newBM (stepToPos sizes) 0 "s32") }

@[csimp] theorem newVLenArray_eq_fast : @newVLenArray = @newVLenArrayFast := by
  funext elts
  unfold newVLenArray newVLenArrayFast
  simp only [List.toArray_getD_eq]

/-! ### `sortedBMCounts`, `memIncrOfShortSize`, `findMinShortSize` -/

/-- count table `innerBMCnt[nbit]`: association list bitmap ↦ count -/
def bumpCount (tbl : List (Nat × Nat)) (bm : Nat) : List (Nat × Nat) :=
  match tbl with
  | [] => [(bm, 1)]
  | (b, c) :: rest => if b = bm then (b, c + 1) :: rest else (b, c) :: bumpCount rest bm

/-- insertion into a list sorted by (count desc, bitmap desc): the comparator of `sortedBMCounts` -/
def insertSorted (x : Nat × Nat) : List (Nat × Nat) → List (Nat × Nat)
  | [] => [x]
  | y :: ys =>
    if x.2 > y.2 || (x.2 == y.2 && x.1 > y.1) then x :: y :: ys else y :: insertSorted x ys

def sortCounts (tbl : List (Nat × Nat)) : List (Nat × Nat) := tbl.foldl (fun acc x => insertSorted x acc) []

/-- `memIncrOfShortSize` (the memory delta only; the Go code ignores shortCnt).  Int: normally negative. -/
def memIncr (sorted : Array (List (Nat × Nat))) (shortSize : Nat) : Int :=
  let nShort := 2 ^ shortSize
  let rec go : Nat → Nat → Array Nat → Int → Int
    | 0, _, _, mem => mem
    | k + 1, short, ith, mem =>
      let nbit := popcount short
      let used := ith.getD nbit 0
      match (sorted.getD nbit [])[used]? with
      | some (_, cnt) =>
        go k (short + 1) (ith.modify nbit (· + 1)) (mem - ((innerSize : Int) - shortSize) * cnt)
      | none => go k (short + 1) ith mem
  go nShort 0 (Array.replicate (shortSize + 1) 0) ((nShort : Int) * 64)

/-- `findMinShortSize` -/
def findMinShortSize (sorted : Array (List (Nat × Nat))) : Nat :=
  let rec go : Nat → Nat → Nat → Int → Nat
    | 0, _, sz, _ => sz
    | k + 1, shortSize, sz, minCost =>
      let incr := memIncr sorted shortSize
      if incr < minCost then go k (shortSize + 1) shortSize incr else go k (shortSize + 1) sz minCost
  go maxShortSize 1 0 (memIncr sorted 0)

/-- the short table and the map bitmap ↦ short code (`mostUsed`) -/
def shortTable (sorted : Array (List (Nat × Nat))) (shortSize : Nat) : List Nat × List (Nat × Nat) :=
  let rec go : Nat → Nat → Array (List (Nat × Nat)) → List Nat → List (Nat × Nat) →
      List Nat × List (Nat × Nat)
    | 0, _, _, tbl, mu => (tbl.reverse, mu)
    | k + 1, short, sorted, tbl, mu =>
      let nbit := popcount short
      match sorted.getD nbit [] with
      | (bm, _) :: rest =>
        -- mostUsed[bm] = short  (a later assignment to the same key would overwrite: keys are distinct)
        go k (short + 1) (sorted.setIfInBounds nbit rest) (bm :: tbl) ((bm, short) :: mu.filter (·.1 != bm))
      | [] => go k (short + 1) sorted (0 :: tbl) mu
  go (2 ^ shortSize) 0 sorted [] []

def innerRecs (nodes : Array Node) : List InnerRec :=
  nodes.toList.filterMap (fun n => match n with | .inner r => some r | .leaf _ _ => none)

/-- `creator.build` + `buildLeaves` (also on a creator that holds no node: the legacy conversion
    of an empty trie runs it; only `NodeTypeBM` is left nil then) -/
def encodeCreator (t : Trie1) : SlimMsg :=
  let inners := innerRecs t.nodes
  let innerCnt := inners.length
  -- statistics over non-big inner nodes with at most maxShortSize labels
  let cnts : Array (List (Nat × Nat)) :=
    inners.foldl (fun (a : Array (List (Nat × Nat))) r =>
      if !r.big && r.labels.length < maxShortSize + 1
      then a.modify r.labels.length (fun tbl => bumpCount tbl (bm17 r.labels)) else a)
      (Array.replicate (maxShortSize + 1) [])
  let sorted := cnts.map sortCounts
  let shortSize := findMinShortSize sorted
  let (tbl, mostUsed) := shortTable sorted shortSize
  -- substitution
  let sub : List (List Nat × Nat × Bool) := inners.map (fun r =>
    if r.big then (r.labels, bigInnerSize, false) else
    match mostUsed.find? (·.1 == bm17 r.labels) with
    | some (_, short) => (toArray [short], shortSize, true)
    | none => (r.labels, innerSize, false))
  let shortIndex := (List.range innerCnt).filter (fun i => (sub.getD i ([], 0, false)).2.2)
  let innerIdx := (List.range t.nodes.size).filter (fun i =>
    match t.nodes[i]? with | some (.inner _) => true | _ => false)
  -- inner prefixes
  let prefIdx := (List.range innerCnt).filter (fun i =>
    match (inners.getD i default).pref with | .none => false | _ => true)
  let ips : VLenArrayMsg :=
    if t.opt.inner then
      let ps := inners.filterMap (fun r => match r.pref with
        | .stored ns => some (bitstrOf ns) | _ => none)
      { eltCnt := prefIdx.length
        presenceBM := some (newBM prefIdx innerCnt "r128")
        positionBM := some (newBM (stepToPos (ps.map List.length)) 0 "s32")
        bytes := ps.flatten }
    else
      { eltCnt := prefIdx.length
        presenceBM := some (newBM prefIdx innerCnt "r128")
        fixedSize := 2
        bytes := (inners.filterMap (fun r => match r.pref with
          | .step n => some (encStep n) | _ => none)).flatten }
  -- leaf prefixes
  let leafLps : List (Option Bytes) :=
    t.nodes.toList.filterMap (fun n => match n with | .leaf _ lp => some lp | .inner _ => none)
  -- capacity of the presence bitmap: every leaf (`c.nodeCnt - innerCnt`)
  let leafCnt := leafLps.length
  let lps : Option VLenArrayMsg :=
    if t.opt.leaf then
      let idx := (List.range leafLps.length).filter (fun i => (leafLps.getD i none).isSome)
      let ps := leafLps.filterMap id
      some { presenceBM := some (newBM idx leafCnt "r64")
             positionBM := some (newBM (stepToPos (ps.map List.length)) 0 "s32")
             bytes := ps.flatten }
    else none
  { bigInnerCnt := t.bigCnt
    shortSize := shortSize
    nodeTypeBM := if t.nodes.size = 0 then none else some (newBM innerIdx t.nodes.size "r64")
    inners := some (mk (ofMany (sub.map (·.1)) (sub.map (·.2.1))) "r128")
    shortBM := some (newBM shortIndex innerCnt "r64")
    shortTable := tbl
    innerPrefixes := some ips
    leafPrefixes := lps
    leaves := match t.elts with
      | some es => newVLenArray es
      | none => none }

/-- compiled form of `encodeCreator` (`@[csimp]` below): the three index filters read
    `l.getD i` for every `i` (quadratic in the number of nodes); array copies are indexed instead -/
def encodeCreatorFast (t : Trie1) : SlimMsg :=
  let inners := innerRecs t.nodes
  let innerCnt := inners.length
  -- statistics over non-big inner nodes with at most maxShortSize labels
  let cnts : Array (List (Nat × Nat)) :=
    inners.foldl (fun (a : Array (List (Nat × Nat))) r =>
      if !r.big && r.labels.length < maxShortSize + 1
      then a.modify r.labels.length (fun tbl => bumpCount tbl (bm17 r.labels)) else a)
      (Array.replicate (maxShortSize + 1) [])
  let sorted := cnts.map sortCounts
  let shortSize := findMinShortSize sorted
  let (tbl, mostUsed) := shortTable sorted shortSize
  -- substitution
  let sub : List (List Nat × Nat × Bool) := inners.map (fun r =>
    if r.big then (r.labels, bigInnerSize, false) else
    match mostUsed.find? (·.1 == bm17 r.labels) with
    | some (_, short) => (toArray [short], shortSize, true)
    | none => (r.labels, innerSize, false))
  let subA := sub.toArray
  let shortIndex := (List.range innerCnt).filter (fun i => (subA.getD i ([], 0, false)).2.2)
  let innerIdx := (List.range t.nodes.size).filter (fun i =>
    match t.nodes[i]? with | some (.inner _) => true | _ => false)
  -- inner prefixes
  let innersA := inners.toArray
  let prefIdx := (List.range innerCnt).filter (fun i =>
    match (innersA.getD i default).pref with | .none => false | _ => true)
  let ips : VLenArrayMsg :=
    if t.opt.inner then
      let ps := inners.filterMap (fun r => match r.pref with
        | .stored ns => some (bitstrOf ns) | _ => none)
      { eltCnt := prefIdx.length
        presenceBM := some (newBM prefIdx innerCnt "r128")
        positionBM := some (newBM (stepToPos (ps.map List.length)) 0 "s32")
        bytes := ps.flatten }
    else
      { eltCnt := prefIdx.length
        presenceBM := some (newBM prefIdx innerCnt "r128")
        fixedSize := 2
        bytes := (inners.filterMap (fun r => match r.pref with
          | .step n => some (encStep n) | _ => none)).flatten }
  -- leaf prefixes
  let leafLps : List (Option Bytes) :=
    t.nodes.toList.filterMap (fun n => match n with | .leaf _ lp => some lp | .inner _ => none)
  -- capacity of the presence bitmap: every leaf (`c.nodeCnt - innerCnt`)
  let leafCnt := leafLps.length
  let lps : Option VLenArrayMsg :=
    if t.opt.leaf then
      let leafLpsA := leafLps.toArray
      let idx := (List.range leafLps.length).filter (fun i => (leafLpsA.getD i none).isSome)
      let ps := leafLps.filterMap id
      some { presenceBM := some (newBM idx leafCnt "r64")
             positionBM := some (newBM (stepToPos (ps.map List.length)) 0 "s32")
             bytes := ps.flatten }
    else none
  { bigInnerCnt := t.bigCnt
    shortSize := shortSize
    nodeTypeBM := if t.nodes.size = 0 then none else some (newBM innerIdx t.nodes.size "r64")
    inners := some (mk (ofMany (sub.map (·.1)) (sub.map (·.2.1))) "r128")
    shortBM := some (newBM shortIndex innerCnt "r64")
    shortTable := tbl
    innerPrefixes := some ips
    leafPrefixes := lps
    leaves := match t.elts with
      | some es => newVLenArray es
      | none => none }

@[csimp] theorem encodeCreator_eq_fast : @encodeCreator = @encodeCreatorFast := by
  funext t
  unfold encodeCreator encodeCreatorFast
  simp only [List.toArray_getD_eq]

/-- `newSlim`'s result as a message: `&Slim{}` for the empty key list, else `creator.build` -/
def encode (t : Trie1) : SlimMsg :=
  if t.nodes.size = 0 then {} else encodeCreator t

/-! ### reading: `getNode` and friends -/

def sliceBytes (bs : Bytes) (a b : Nat) : Except Err Bytes :=
  if a ≤ b ∧ b ≤ bs.length then .ok ((bs.drop a).take (b - a))
  else .error (.panic "slice bounds out of range")

/-- compiled form of `sliceBytes` (`@[csimp]` below): the bounds check measures the slice it has
    cut, not the whole byte section (`bs.length` walks all of it on every read) -/
def sliceBytesFast (bs : Bytes) (a b : Nat) : Except Err Bytes :=
  if a ≤ b then
    if a = b then
      (if a ≤ bs.length then .ok [] else .error (.panic "slice bounds out of range"))
    else
      let r := (bs.drop a).take (b - a)
      if r.length = b - a then .ok r else .error (.panic "slice bounds out of range")
  else .error (.panic "slice bounds out of range")

@[csimp] theorem sliceBytes_eq_fast : @sliceBytes = @sliceBytesFast := by
  funext bs a b
  unfold sliceBytes sliceBytesFast
  by_cases hab : a ≤ b
  · rw [if_pos hab]
    by_cases he : a = b
    · subst he
      rw [if_pos rfl]
      by_cases hl : a ≤ bs.length
      · rw [if_pos hl, if_pos ⟨hab, hl⟩]; simp
      · rw [if_neg hl, if_neg (fun h => hl h.2)]
    · rw [if_neg he]
      simp only [List.length_take, List.length_drop]
      by_cases hl : b ≤ bs.length
      · rw [if_pos ⟨hab, hl⟩, if_pos (by omega)]
      · rw [if_neg (fun h => hl h.2), if_neg (by omega)]
  · rw [if_neg hab, if_neg (fun h => hab h.1)]

/-- `VLenArray.get` -/
def vlenGet (va : VLenArrayMsg) (index : Nat) : Except Err Bytes := do
  if index ≥ va.n then .error (.panic "out of bound")
  let some pres := va.presenceBM | .error (.panic "nil PresenceBM")
  let some w := pres.words[index / 64]? | .error (.panic "index out of range (presence words)")
  if !w.testBit (index % 64) then return []
  let some r := pres.rankIndex[index / 64]? | .error (.panic "index out of range (presence rank)")
  let ithElt := r + popcount (w % 2 ^ (index % 64))
  match va.positionBM with
  | none => sliceBytes va.bytes (ithElt * va.fixedSize) (ithElt * va.fixedSize + va.fixedSize)
  | some pos =>
    let (a, b) ← select32R64 pos ithElt
    sliceBytes va.bytes a b

/-- extraction of the `len`-bit field at bit offset `from` of `words` as the Go code does for a
    short node (`(w >> j) & mask`, or the two-word form when it straddles) -/
def extractShort (words : List Nat) (frm len : Nat) : Except Err Nat := do
  let j := frm % 64
  let some w := words[frm / 64]? | .error (.panic "index out of range (Inners.Words)")
  if j + len ≤ 64 then return (w >>> j) % 2 ^ len
  else
    let some w2 := words[(frm + len) / 64]? | .error (.panic "index out of range (Inners.Words)")
    return ((w >>> j) ||| ((w2 <<< (64 - j)) % 2 ^ 64 % 2 ^ len))

/-- label indexes set in bits [frm, frm+size) of `words` -/
def labelsIn (words : List Nat) (frm size : Nat) : List Nat :=
  (List.range size).filter (fun k => (words.getD ((frm + k) / 64) 0).testBit ((frm + k) % 64))

/-- compiled form of `labelsIn` (`@[csimp]` below): drop the `frm / 64` words before the node
    once instead of walking to word `(frm + k) / 64` for each of the `size` bits -/
def labelsInFast (words : List Nat) (frm size : Nat) : List Nat :=
  let ws := words.drop (frm / 64)
  (List.range size).filter (fun k => (ws.getD ((frm % 64 + k) / 64) 0).testBit ((frm % 64 + k) % 64))

@[csimp] theorem labelsIn_eq_fast : @labelsIn = @labelsInFast := by
  funext words frm size
  unfold labelsIn labelsInFast
  simp only
  apply List.filter_congr
  intro k _
  have e : frm + k = 64 * (frm / 64) + (frm % 64 + k) := by rw [← Nat.add_assoc, Nat.div_add_mod]
  rw [Bits.getD_drop_add, e, Nat.mul_add_div (by decide), Nat.mul_add_mod]

/-- `getLeafPrefix` -/
def getLeafPrefix (s : SlimMsg) (ithLeaf : Nat) : Except Err (Option Bytes) := do
  match s.leafPrefixes with
  | none => return none
  | some lp =>
    let some pres := lp.presenceBM | .error (.panic "nil PresenceBM")
    let some w := pres.words[ithLeaf / 64]? | .error (.panic "index out of range (leaf presence)")
    if !w.testBit (ithLeaf % 64) then return none
    let some r := pres.rankIndex[ithLeaf / 64]? | .error (.panic "index out of range (leaf presence rank)")
    let ithPref := r + popcount (w % 2 ^ (ithLeaf % 64))
    let some pos := lp.positionBM | .error (.panic "nil PositionBM")
    let (a, b) ← select32R64 pos ithPref
    return some (← sliceBytes lp.bytes a b)

/-- position of the label bitmap of the `ith` inner node: (from, size, short bitmap if short) -/
def innerFrom (s : SlimMsg) (ith : Nat) : Except Err (Nat × Nat × Option Nat) := do
  if ith < s.bigInnerCnt then return (ith * bigInnerSize, bigInnerSize, none)
  let some sbm := s.shortBM | .error (.panic "nil ShortBM")
  let (ithShort, isShort) ← rank64 sbm ith
  -- BigInnerOffset + innerSize*ith + ShortMinusInner*ithShort
  let frm : Int := ((bigInnerSize : Int) - innerSize) * s.bigInnerCnt + (innerSize : Int) * ith
      + ((s.shortSize : Int) - innerSize) * ithShort
  if frm < 0 then .error (.panic "negative bit offset")
  let frm := frm.toNat
  if isShort then
    let some inn := s.inners | .error (.panic "nil Inners")
    let code ← extractShort inn.words frm s.shortSize
    let some bm := s.shortTable[code]? | .error (.panic "index out of range (ShortTable)")
    return (frm, s.shortSize, some bm)
  else return (frm, innerSize, none)

/-- `getNode` -/
def getNode (s : SlimMsg) (id : Nat) : Except Err Node := do
  let some nt := s.nodeTypeBM | .error (.panic "nil NodeTypeBM")
  let (ithInner, isInner) ← rank64 nt id
  if !isInner then
    let ithLeaf := id - ithInner
    return .leaf ithLeaf (← getLeafPrefix s ithLeaf)
  let (frm, size, short) ← innerFrom s ithInner
  let some inn := s.inners | .error (.panic "nil Inners")
  let labels := match short with
    | some bm => (List.range innerSize).filter (fun k => bm.testBit k)
    | none => labelsIn inn.words frm size
  let (r0, _) ← rank128 inn frm
  -- prefix
  let some ips := s.innerPrefixes | .error (.panic "nil InnerPrefixes")
  let pref : Pref ← (do
    if ips.eltCnt = 0 then return Pref.none
    let some pres := ips.presenceBM | .error (.panic "nil PresenceBM")
    let some w := pres.words[ithInner / 64]? | .error (.panic "index out of range (prefix presence)")
    if !w.testBit (ithInner % 64) then return Pref.none
    let (ithPref, _) ← rank128 pres ithInner
    match ips.positionBM with
    | some pos =>
      let (a, b) ← select32R64 pos ithPref
      let bs ← sliceBytes ips.bytes a b
      if bs.isEmpty then .error (.panic "index out of range (bitstr.Len)")
      return Pref.stored (bitstrNibs bs)
    | none =>
      match ips.bytes[ithPref * 2]?, ips.bytes[ithPref * 2 + 1]? with
      | some b0, some b1 => return Pref.step (decStep b0 b1)
      | _, _ => .error (.panic "index out of range (decStep)"))
  return .inner { big := decide (ithInner < s.bigInnerCnt), labels := labels, firstChild := r0 + 1, pref := pref }

def nodeCount (s : SlimMsg) : Nat :=
  match s.nodeTypeBM with
  | none => 0
  | some nt => nt.words.length * 64

def view (s : SlimMsg) : View where
  isEmpty := s.nodeTypeBM.isNone
  nodeCnt := nodeCount s
  node := getNode s
  leafPrefixesOn := s.leafPrefixes.isSome
  scanOK := match s.innerPrefixes, s.leafPrefixes with
    | some ips, some _ => ips.positionBM.isSome
    | _, _ => false
  leafBytes := fun ith =>
    match s.leaves with
    | none => .ok none
    | some va => do return some (← vlenGet va ith)

end Slim

namespace Slim

/-- two's-complement value of `w` little-endian bytes -/
def leSigned (bs : Bytes) : Int :=
  let n := leVal bs
  if n < 2 ^ (8 * bs.length - 1) then (n : Int) else (n : Int) - 2 ^ (8 * bs.length)

/-- `GetI8/16/32/64` (`w` = 1,2,4,8): reads `Leaves.Bytes[ith*w : ith*w+w]` directly -/
def getInt (s : SlimMsg) (w : Nat) (key : Bytes) : Except Err (Option Int) := do
  match ← getID (view s) key with
  | none => return none
  | some id =>
    let some nt := s.nodeTypeBM | .error (.panic "nil NodeTypeBM")
    let (r, _) ← rank64 nt id
    let ith := id - r
    let some lv := s.leaves | .error (.panic "nil pointer dereference (Leaves)")
    let bs ← sliceBytes lv.bytes (ith * w) (ith * w + w)
    return some (leSigned bs)

end Slim
