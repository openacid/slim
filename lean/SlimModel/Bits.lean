import SlimModel.BitsFast
/-
  SlimModel.Bits — bitmaps as 64-bit words with rank/select indexes: the subset of
  github.com/openacid/low/bitmap that slim uses (`Of`, `OfMany`, `IndexRank64`, `IndexRank128`,
  `IndexSelect32R64`, `Rank64`, `Rank128`, `Select32R64`, `ToArray`), plus the specification
  functions they are meant to compute (`specRank`, `specBit` over the bit list).

  Words are `Nat` (< 2^64).  An out-of-range word or index access is a Go panic: `Err.panic`.
-/

namespace Bits

def mk (words : List Nat) (opt : String) : BitmapMsg :=
  match opt with
  | "r64" => { words := words, rankIndex := indexRank64 words false }
  | "r128" => { words := words, rankIndex := indexRank128 words }
  | "s32" => { words := words, rankIndex := indexRank64 words true, selectIndex := indexSelect32 words }
  | _ => { words := words }

/-- `newBM(indexes, capa, opt)` -/
def newBM (idxs : List Nat) (capa : Nat) (opt : String) : BitmapMsg := mk (ofIdx idxs capa) opt

/-- `bitmap.Rank64`: (ones below i, bit i) -/
def rank64 (b : BitmapMsg) (i : Nat) : Except Err (Nat × Bool) :=
  match b.words[i / 64]?, b.rankIndex[i / 64]? with
  | some w, some n => .ok (n + popcount (w % 2 ^ (i % 64)), w.testBit (i % 64))
  | _, _ => .error (.panic "index out of range (Rank64)")

/-- `bitmap.Rank128` -/
def rank128 (b : BitmapMsg) (i : Nat) : Except Err (Nat × Bool) :=
  match b.words[i / 64]?, b.rankIndex[(i + 64) / 128]? with
  | some w, some n =>
    let atRight := (i / 64) % 2
    -- n counts up to the pair boundary nearest to word i: for a right word it includes the word
    .ok (n - atRight * popcount w + popcount (w % 2 ^ (i % 64)), w.testBit (i % 64))
  | _, _ => .error (.panic "index out of range (Rank128)")

/-- `bitmap.Select32R64(words, sidx, ridx, i)`: (position of the i-th one, position of the next one
    or `len*64`).  The word is found by walking the rank index from the word the select index
    names; running off either index is a Go panic. -/
def select32R64 (b : BitmapMsg) (i : Nat) : Except Err (Nat × Nat) := do
  let some s0 := b.selectIndex[i / 32]? | .error (.panic "index out of range (selectIndex)")
  let rec walk : Nat → Nat → Except Err Nat
    | 0, _ => .error (.panic "index out of range (rankIndex)")
    | fuel + 1, wordI =>
      match b.rankIndex[wordI + 1]? with
      | none => .error (.panic "index out of range (rankIndex)")
      | some r => if r ≤ i then walk fuel (wordI + 1) else .ok wordI
  let wordI ← walk (b.rankIndex.length + 1) (s0 / 64)
  let some w := b.words[wordI]? | .error (.panic "index out of range (words)")
  let some base := b.rankIndex[wordI]? | .error (.panic "index out of range (rankIndex)")
  let some off := selectInWord w (i - base) | .error (.panic "select: not enough bits in word")
  let a := wordI * 64 + off
  return (a, nextOne b.words (a + 1))

/-! ### specification functions over the bit list -/

def bitsOf (words : List Nat) : List Bool :=
  words.flatMap (fun w => (List.range 64).map (fun i => w.testBit i))

def specRank (bits : List Bool) (i : Nat) : Nat := (bits.take i).count true
def specBit (bits : List Bool) (i : Nat) : Bool := bits.getD i false

/-! ### `select32R64`, compiled form

  The walk over the rank index reads `rankIndex[wordI + 1]?` in every step, an O(wordI) list
  access; the compiled form drops the first `wordI + 1` entries once and then follows the list.
  Equal by `select32R64_eq_fast` (`@[csimp]`: every later definition is compiled with it). -/

/-- the walk of `select32R64` along the rest of the rank index -/
def walkList (i : Nat) : List Nat → Nat → Nat → Except Err Nat
  | _, 0, _ => .error (.panic "index out of range (rankIndex)")
  | [], _ + 1, _ => .error (.panic "index out of range (rankIndex)")
  | r :: rs, fuel + 1, wordI => if r ≤ i then walkList i rs fuel (wordI + 1) else .ok wordI

theorem select32R64_walk_eq (b : BitmapMsg) (i fuel wordI : Nat) :
    select32R64.walk b i fuel wordI = walkList i (b.rankIndex.drop (wordI + 1)) fuel wordI := by
  induction fuel generalizing wordI with
  | zero => cases b.rankIndex.drop (wordI + 1) <;> rfl
  | succ fuel ih =>
    unfold select32R64.walk
    rcases Nat.lt_or_ge (wordI + 1) b.rankIndex.length with h | h
    · rw [List.drop_eq_getElem_cons h, List.getElem?_eq_getElem h]
      simp only [walkList]
      rw [ih (wordI + 1)]
    · rw [List.drop_of_length_le h, List.getElem?_eq_none h]
      rfl

def select32R64Fast (b : BitmapMsg) (i : Nat) : Except Err (Nat × Nat) := do
  let some s0 := b.selectIndex[i / 32]? | .error (.panic "index out of range (selectIndex)")
  let wordI ← walkList i (b.rankIndex.drop (s0 / 64 + 1)) (b.rankIndex.length + 1) (s0 / 64)
  let some w := b.words[wordI]? | .error (.panic "index out of range (words)")
  let some base := b.rankIndex[wordI]? | .error (.panic "index out of range (rankIndex)")
  let some off := selectInWord w (i - base) | .error (.panic "select: not enough bits in word")
  let a := wordI * 64 + off
  return (a, nextOne b.words (a + 1))

@[csimp] theorem select32R64_eq_fast : @select32R64 = @select32R64Fast := by
  funext b i
  unfold select32R64 select32R64Fast
  simp only [select32R64_walk_eq]

end Bits
