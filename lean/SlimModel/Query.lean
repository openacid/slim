import SlimModel.Build
/-
  SlimModel.Query — the lookup algorithms of trie/slimtrie_query.go, written once over a `View`.

  A `View` is what the query code can observe of a trie: `getNode` (decoded into a `Node`
  record), the leaf bytes, and three flags.  L1 (`Trie1.view`) reads the record array; L2
  (`SlimModel.Slim`) decodes the same records out of the bitmaps of the `Slim` message.  Every
  query theorem proved for a view transports to any view related to it by `Transport.ViewSim`
  (SlimProofs/Transport.lean).

  Control flow mirrors `GetID`, `searchID`, `leftMost`, `rightMost`, `Get`, `RangeGet`, `Search`
  one to one.  Positions are half-bytes (`i` here is the Go `i` / 4, `l` is `8*len(key)` / 4).
  Go panics are explicit `Err.panic`; loops take fuel (`nodeCnt` suffices: child ids increase).
-/

structure View where
  /-- `st.inner.NodeTypeBM == nil` -/
  isEmpty : Bool
  /-- number of nodes (fuel for every descent) -/
  nodeCnt : Nat
  /-- `getNode` -/
  node : Nat → Except Err Node
  /-- `st.inner.LeafPrefixes != nil` -/
  leafPrefixesOn : Bool
  /-- the scan guard of `getGEPath` lets the trie through -/
  scanOK : Bool
  /-- `Leaves.get(ith)`; `none` when `Leaves == nil` -/
  leafBytes : Nat → Except Err (Option Bytes)

/-- `getLabelIdxOfKey`.  A 257-bit node reads the whole byte `key[i>>3]` that CONTAINS position
    `i` (for an even `i` — always, in a built trie — this is the two half-bytes from `i`). -/
def labelIdxOfKey (kn : List Nat) (i : Nat) (big : Bool) : Nat :=
  if i < kn.length then
    if big then 1 + (kn.getD (i - i % 2) 0 * 16 + kn.getD (i - i % 2 + 1) 0) else 1 + kn.getD i 0
  else 0

/-- number of labels below `ith` : `OnesCount(bm & Mask[ithBit])` / the rank difference -/
def rankLabels (labels : List Nat) (ith : Nat) : Nat := (labels.filter (· < ith)).length

/-- `getLeftChildID`: (id of the child left of label `ith`, whether label `ith` is present).
    The child of the r-th label has id `firstChild + r`; the Go code computes `firstChild - 1 + rank`. -/
def leftChildID (r : InnerRec) (ith : Nat) : Int × Bool :=
  ((r.firstChild : Int) - 1 + rankLabels r.labels ith, r.labels.contains ith)

/-- `bitstr.StrCmpUpto(key[i>>3:], prefix)` on half-bytes -/
def cmpUpto (a p : List Nat) : Ordering := lexCmp (a.take p.length) p

def wordSize (big : Bool) : Nat := if big then 2 else 1

/-- State of `GetID` when its loop ends without `return -1`. -/
structure Reached where
  id : Nat
  i : Nat
  /-- `qr.hasLeafPrefix`, `qr.leafPrefix` as left by the last `getNode` on a leaf
      (`none` if the loop ended on the `i == l` shortcut: no leaf was read) -/
  lp : Option Bytes
  deriving Repr, DecidableEq

/-- the loop of `GetID`; `none` = `return -1` -/
def getIDLoop (v : View) (kn : List Nat) : Nat → Nat → Nat → Except Err (Option Reached)
  | 0, _, _ => .error .fuel
  | fuel + 1, eqID, i => do
    match ← v.node eqID with
    | .leaf _ lp => return some { id := eqID, i := i, lp := lp }
    | .inner r =>
      let l := kn.length
      -- inner prefix
      let step : Except Err (Option Nat) :=
        match r.pref with
        | .stored p =>
          -- `key[i>>3:]` panics iff `i>>3 > len(key)`
          if i / 2 > l / 2 then .error (.panic "slice bounds out of range: key[i>>3:]")
          else if cmpUpto (kn.drop (i - i % 2)) p != .eq then .ok none
          else .ok (some (i - i % 2 + p.length))
        | .step n => .ok (some (i + n))
        | .none => .ok (some i)
      match ← step with
      | none => return none
      | some i =>
        if i > l then return none
        let (lch, has) := leftChildID r (labelIdxOfKey kn i r.big)
        if !has then return none
        let eqID := (lch + 1).toNat
        if i = l then return some { id := eqID, i := i, lp := none }
        getIDLoop v kn fuel eqID (i + wordSize r.big)

/-- `GetID`: `none` is -1. -/
def getID (v : View) (key : Bytes) : Except Err (Option Nat) := do
  if v.isEmpty then return none
  let kn := nibs key
  match ← getIDLoop v kn (v.nodeCnt + 1) 0 0 with
  | none => return none
  | some r =>
    if v.leafPrefixesOn then
      if r.i = kn.length then
        return (if r.lp.isSome then none else some r.id)
      else
        match r.lp with
        | none => return none
        | some lp =>
          if r.i / 2 > kn.length / 2 then .error (.panic "slice bounds out of range: key[i>>3:]")
          else return (if lp == key.drop (r.i / 2) then some r.id else none)
    else return some r.id

/-- `getLeaf`: the leaf's bytes (`none`: no values stored); panics on an inner node. -/
def getLeaf (v : View) (id : Nat) : Except Err (Option Bytes) := do
  match ← v.node id with
  | .inner _ => .error (.panic "impossible!!")
  | .leaf ith _ => v.leafBytes ith

/-- `Get`: `none` = (nil,false); `some b` = (value with encoded bytes `b` (or nil), true) -/
def get (v : View) (key : Bytes) : Except Err (Option (Option Bytes)) := do
  match ← getID v key with
  | none => return none
  | some id => return some (← getLeaf v id)

/-- `leftMost` (without path recording) -/
def leftMost (v : View) : Nat → Nat → Except Err Nat
  | 0, _ => .error .fuel
  | fuel + 1, id => do
    match ← v.node id with
    | .leaf _ _ => return id
    | .inner r => leftMost v fuel r.firstChild

/-- `rightMost` -/
def rightMost (v : View) : Nat → Nat → Except Err Nat
  | 0, _ => .error .fuel
  | fuel + 1, id => do
    match ← v.node id with
    | .leaf _ _ => return id
    | .inner r => rightMost v fuel (r.firstChild + r.labels.length - 1)

/-- `cmpLeafPrefix(tail, qr)` -/
def cmpLeafPrefix (v : View) (tail : Bytes) (lp : Option Bytes) : Ordering :=
  if v.leafPrefixesOn then cmpBytes tail (lp.getD []) else .eq

/-- ids during `searchID`; -1 is `none` -/
structure SearchSt where
  lID : Option Nat := none
  eqID : Option Nat := none
  rID : Option Nat := none
  i : Nat := 0
  lp : Option Bytes := none
  deriving Repr, DecidableEq

/-- the loop of `searchID` -/
def searchLoop (v : View) (kn : List Nat) : Nat → SearchSt → Nat → Except Err SearchSt
  | 0, _, _ => .error .fuel
  | fuel + 1, st, eqID => do
    match ← v.node eqID with
    | .leaf _ lp => return { st with eqID := some eqID, lp := lp }
    | .inner r =>
      let l := kn.length
      let i := st.i
      -- returns either a final state (break) or the new i
      let step : Except Err (Sum SearchSt Nat) :=
        match r.pref with
        | .stored p =>
          if i / 2 > l / 2 then .error (.panic "slice bounds out of range: key[i>>3:]") else
          match cmpUpto (kn.drop (i - i % 2)) p with
          | .eq => .ok (.inr (i - i % 2 + p.length))
          | .lt => .ok (.inl { st with rID := some eqID, eqID := none })
          | .gt => .ok (.inl { st with lID := some eqID, eqID := none })
        | .step n =>
          if i + n > l then .ok (.inl { st with rID := some eqID, eqID := none, i := i + n })
          else .ok (.inr (i + n))
        | .none => if i > l then .ok (.inl { st with rID := some eqID, eqID := none }) else .ok (.inr i)
      match ← step with
      | .inl fin => return fin
      | .inr i =>
        let (leftChild, has) := leftChildID r (labelIdxOfKey kn i r.big)
        let chID : Int := leftChild + (if has then 1 else 0)
        let rightChild : Int := chID + 1
        let leftMostChild : Int := r.firstChild
        let rightMostChild : Int := (r.firstChild : Int) + r.labels.length - 1
        let st := { st with i := i }
        let st := if leftChild ≥ leftMostChild ∧ leftChild ≤ rightMostChild
                  then { st with lID := some leftChild.toNat } else st
        let st := if rightChild ≥ leftMostChild ∧ rightChild ≤ rightMostChild
                  then { st with rID := some rightChild.toNat } else st
        if !has then return { st with eqID := none }
        if i = l then return { st with eqID := some chID.toNat }
        searchLoop v kn fuel { st with i := i + wordSize r.big } chID.toNat

/-- `searchID` -/
def searchID (v : View) (key : Bytes) : Except Err (Option Nat × Option Nat × Option Nat) := do
  if v.isEmpty then return (none, none, none)
  let kn := nibs key
  let l := kn.length
  let st ← searchLoop v kn (v.nodeCnt + 1) {} 0
  let st :=
    match st.eqID with
    | none => st
    | some eq =>
      if st.i ≤ l then
        match cmpLeafPrefix v (key.drop (st.i / 2)) st.lp with
        | .lt => { st with rID := some eq, eqID := none }
        | .gt => { st with lID := some eq, eqID := none }
        | .eq => st
      else st
  let lID ← match st.lID with
    | none => pure none
    | some id => do pure (some (← rightMost v (v.nodeCnt + 1) id))
  let rID ← match st.rID with
    | none => pure none
    | some id => do pure (some (← leftMost v (v.nodeCnt + 1) id))
  return (lID, st.eqID, rID)

/-- `RangeGet` -/
def rangeGet (v : View) (key : Bytes) : Except Err (Option (Option Bytes)) := do
  let (lID, eqID, _) ← searchID v key
  match eqID with
  | some id => return some (← getLeaf v id)
  | none =>
    match lID with
    | none => return none
    | some id => return some (← getLeaf v id)

/-- `Search`: each component `none` = nil interface (no such id), `some b` = leaf value bytes -/
def search (v : View) (key : Bytes) :
    Except Err (Option (Option Bytes) × Option (Option Bytes) × Option (Option Bytes)) := do
  let (lID, eqID, rID) ← searchID v key
  let f : Option Nat → Except Err (Option (Option Bytes)) := fun o =>
    match o with
    | none => pure none
    | some id => do pure (some (← getLeaf v id))
  return (← f lID, ← f eqID, ← f rID)

/-! ### the L1 view -/

def eltsTotal (elts : List Bytes) : Nat := (elts.map List.length).sum

def Trie1.view (t : Trie1) : View where
  isEmpty := t.nodes.size == 0
  nodeCnt := t.nodes.size
  node := fun id =>
    match t.nodes[id]? with
    | some n => .ok n
    | none => .error (.panic "node id out of range")
  leafPrefixesOn := t.opt.leaf
  scanOK := t.opt.inner && t.opt.leaf
  leafBytes := fun ith =>
    match t.elts with
    | none => .ok none
    | some es =>
      -- newVLenArray returns nil when every element is empty
      if eltsTotal es = 0 then .ok none else
      match es[ith]? with
      | some b => .ok (some b)
      | none => .error (.panic "out of bound")

/-- compiled form of `Trie1.view` (`@[csimp]` below): `eltsTotal es = 0` adds up the lengths of
    all values on every leaf read; `es.all List.isEmpty` stops at the first non-empty one -/
def Trie1.viewFast (t : Trie1) : View where
  isEmpty := t.nodes.size == 0
  nodeCnt := t.nodes.size
  node := fun id =>
    match t.nodes[id]? with
    | some n => .ok n
    | none => .error (.panic "node id out of range")
  leafPrefixesOn := t.opt.leaf
  scanOK := t.opt.inner && t.opt.leaf
  leafBytes := fun ith =>
    match t.elts with
    | none => .ok none
    | some es =>
      -- newVLenArray returns nil when every element is empty
      if es.all List.isEmpty then .ok none else
      match es[ith]? with
      | some b => .ok (some b)
      | none => .error (.panic "out of bound")

theorem eltsTotal_eq_zero_iff (es : List Bytes) : eltsTotal es = 0 ↔ es.all List.isEmpty = true := by
  unfold eltsTotal
  induction es with
  | nil => simp
  | cons e es ih =>
    simp only [List.map_cons, List.sum_cons, List.all_cons, Bool.and_eq_true]
    rw [← ih]
    cases e with
    | nil => simp
    | cons b bs => simp

@[csimp] theorem Trie1.view_eq_fast : @Trie1.view = @Trie1.viewFast := by
  funext t
  unfold Trie1.view Trie1.viewFast
  congr 1
  funext ith
  cases t.elts with
  | none => rfl
  | some es =>
    simp only
    by_cases h : eltsTotal es = 0
    · rw [if_pos h, if_pos ((eltsTotal_eq_zero_iff es).mp h)]
    · rw [if_neg h, if_neg (fun h' => h ((eltsTotal_eq_zero_iff es).mpr h'))]
