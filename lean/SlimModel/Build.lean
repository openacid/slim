import SlimModel.Spec
import SlimModel.ListFast
/-
  SlimModel.Build — L1: the trie as the breadth-first array of node records that
  `newSlim` (trie/slimtrie_create.go) produces, before it is packed into bitmaps.

  Positions are in half-bytes (Go bit position / 4).  Node ids are BFS indexes, exactly the ids
  of the Go code (`GetID` returns them), so L1 and the bit level L2 share ids.

  Mirrors, line by line: the order check, `newToKeep`, the BFS loop over the append-only queue,
  `sigbits.CountPrefixes` (first-difference positions of adjacent keys), the big/small decision
  (`prefCnt > 10`), `bmtree.PathsOf` over the kept keys, the two scanning loops that find the run
  of keys of each label, `setPrefix`/`setLeafPrefix`, and the 16-bit step guard (ErrStepTooLong).
-/

/-- What an inner node stores about the single-branch run leading to its branching position. -/
inductive Pref where
  | none                        -- no run (branching right at the node's start)
  | step (n : Nat)              -- only the length of the run, in half-bytes (`encStep`)
  | stored (ns : List Nat)      -- the run itself as half-bytes, starting at the byte that
                                -- contains the node's start (`bitstr.New`)
  deriving Repr, DecidableEq, Inhabited

structure InnerRec where
  big : Bool                    -- 257-bit node (8-bit labels) or 17-bit node (4-bit labels)
  labels : List Nat             -- label indexes present, ascending: 0 = key ends here, 1+w = word w
  firstChild : Nat              -- id of the child of the first label; children are contiguous
  pref : Pref
  deriving Repr, DecidableEq, Inhabited

inductive Node where
  | inner (r : InnerRec)
  | leaf (ith : Nat) (lp : Option Bytes)   -- ordinal among leaves; stored tail of the key, if any
  deriving Repr, DecidableEq, Inhabited

/-- `subset`: keys[s:e), examined from half-byte position `fb` on. -/
structure Subset where
  s : Nat
  e : Nat
  fb : Nat
  deriving Repr, DecidableEq, Inhabited

/-- length of the longest common prefix -/
def lcp : List Nat → List Nat → Nat
  | a :: as, b :: bs => if a = b then lcp as bs + 1 else 0
  | _, _ => 0

/-- `bmtree.PathOf` + `PathToIndex` for bitmap sizes 17 / 257: the label index of a key at
    position `ws`: 0 if the key ends there, else 1 + the 4-bit (8-bit) word. -/
def labelAt (k : List Nat) (ws : Nat) (big : Bool) : Nat :=
  match k[ws]? with
  | none => 0
  | some a => if big then 1 + (a * 16 + k.getD (ws + 1) 0) else 1 + a

/-- compiled form of `labelAt` (`@[csimp]` below): one walk to position `ws` instead of two -/
def labelAtFast (k : List Nat) (ws : Nat) (big : Bool) : Nat :=
  match k.drop ws with
  | [] => 0
  | a :: rest => if big then 1 + (a * 16 + rest.headD 0) else 1 + a

@[csimp] theorem labelAt_eq_fast : @labelAt = @labelAtFast := by
  funext k ws big
  unfold labelAt labelAtFast
  rcases Nat.lt_or_ge ws k.length with h | h
  · rw [List.drop_eq_getElem_cons h, List.getElem?_eq_getElem h]
    simp only
    have : k.getD (ws + 1) 0 = (k.drop (ws + 1)).headD 0 := by
      rw [List.headD_eq_head?_getD, List.head?_drop, List.getD_eq_getElem?_getD]
    rw [this]
  · rw [List.drop_of_length_le h, List.getElem?_eq_none h]

/-- `bmtree.PathLen` of a label, in half-bytes -/
def labelLen (label : Nat) (big : Bool) : Nat :=
  if label = 0 then 0 else if big then 2 else 1

/-- `bmtree.PathsOf(…, dedup = true)`: drop adjacent repetitions -/
def dedupAdj : List Nat → List Nat
  | a :: b :: rest => if a = b then dedupAdj (b :: rest) else a :: dedupAdj (b :: rest)
  | l => l

structure BCtx where
  kn : Array (List Nat)       -- half-bytes of every key
  kb : Array Bytes            -- the keys
  keep : Array Bool           -- `tokeep`
  lcps : Array Nat            -- `sigbits.FirstDiffBits` / 4 : lcps[t] = lcp kn[t] kn[t+1]
  opt : Opt

def mkLcps : List (List Nat) → List Nat
  | a :: b :: rest => lcp a b :: mkLcps (b :: rest)
  | _ => []

/-- `CountPrefixes`' first result (`min` of the first-difference positions of keys[s:e)) -/
def minLcp (c : BCtx) (s e : Nat) : Nat :=
  ((List.range' (s + 1) (e - 1 - (s + 1))).map (fun t => c.lcps.getD t 0)).foldl min (c.lcps.getD s 0)

/-- `prefCounts[8-(wordStart&7)]`: 1 + number of adjacent pairs that first differ inside the byte
    that contains `ws` -/
def prefCnt (c : BCtx) (s e ws : Nat) : Nat :=
  1 + ((List.range' s (e - 1 - s)).filter (fun t => c.lcps.getD t 0 / 2 == ws / 2)).length

def keyLabel (c : BCtx) (ws : Nat) (big : Bool) (t : Nat) : Nat :=
  labelAt (c.kn.getD t []) ws big

/-- labels of the kept keys of keys[s:e), adjacent repetitions removed (`labelPaths`) -/
def keptLabels (c : BCtx) (s e ws : Nat) (big : Bool) : List Nat :=
  dedupAdj (((List.range' s (e - s)).filter (fun t => c.keep.getD t false)).map (keyLabel c ws big))

/-- first `t` in [s, e) where `p t` fails (else `e`); `n` is the distance still to scan -/
def scanWhile (p : Nat → Bool) : Nat → Nat → Nat
  | 0, s => s
  | n + 1, s => if p s then scanWhile p n (s + 1) else s

/-- The two inner loops of `newSlim`: for every label, skip to the first key carrying it, then
    extend the run while keys carry it. -/
def childRuns (lab : Nat → Nat) (e : Nat) : List Nat → Nat → List (Nat × Nat × Nat)
  | [], _ => []
  | l :: ls, s =>
    let s' := scanWhile (fun t => lab t != l) (e - s) s
    let j := scanWhile (fun t => lab t == l) (e - (s' + 1)) (s' + 1)
    (l, s', j) :: childRuns lab e ls j

structure BSt where
  isBig : Bool := true
  bigCnt : Nat := 0
  queue : Array Subset
  nodes : Array Node := #[]
  leafKeyIdx : Array Nat := #[]     -- `leafIndexes` (recorded here even without values)

/-- `bitstr.New(key, from, to)` as half-bytes: from the start of the byte containing `fb` up to `ws` -/
def storedPrefix (k : List Nat) (fb ws : Nat) : List Nat :=
  (k.take ws).drop (fb - fb % 2)

/-- One iteration of the BFS loop for queue entry `o` (its index is the node id). -/
def buildStep (c : BCtx) (st : BSt) (o : Subset) : Except Err BSt :=
  if o.e - o.s = 1 then
    -- leaf: addLeafIndex + setLeafPrefix
    let tail := (c.kb.getD o.s []).drop (o.fb / 2)
    let lp := if c.opt.leaf && !tail.isEmpty then some tail else none
    .ok { st with nodes := st.nodes.push (.leaf st.leafKeyIdx.size lp)
                  leafKeyIdx := st.leafKeyIdx.push o.s }
  else
    let ws0 := minLcp c o.s o.e
    -- big / small decision
    let goBig := st.isBig && decide (prefCnt c o.s o.e ws0 > 10)
    let ws := if goBig then ws0 - ws0 % 2 else ws0
    if ws < o.fb then .error (.panic "wordStart smaller than o.fromKeyBit") else
    if !c.opt.inner && decide (ws - o.fb > 0xffff) then .error .stepTooLong else
    let labels := keptLabels c o.s o.e ws goBig
    let pref :=
      if ws - o.fb = 0 then Pref.none
      else if c.opt.inner then Pref.stored (storedPrefix (c.kn.getD o.s []) o.fb ws)
      else Pref.step (ws - o.fb)
    let node := Node.inner { big := goBig, labels := labels, firstChild := st.queue.size, pref := pref }
    let kids := (childRuns (keyLabel c ws goBig) o.e labels o.s).map
      (fun (l, s', j) => ({ s := s', e := j, fb := ws + labelLen l goBig } : Subset))
    .ok { st with isBig := goBig
                  bigCnt := if goBig then st.bigCnt + 1 else st.bigCnt
                  queue := st.queue ++ kids.toArray
                  nodes := st.nodes.push node }

/-- `for i := 0; i < len(queue); i++` with the queue growing; fuel = upper bound on node count. -/
def buildLoop (c : BCtx) : Nat → Nat → BSt → Except Err BSt
  | 0, i, st => if i < st.queue.size then .error .fuel else .ok st
  | fuel + 1, i, st =>
    if h : i < st.queue.size then
      match buildStep c st st.queue[i] with
      | .ok st' => buildLoop c fuel (i + 1) st'
      | .error e => .error e
    else .ok st

/-- The L1 trie. -/
structure Trie1 where
  opt : Opt
  nodes : Array Node
  bigCnt : Nat
  leafKeyIdx : Array Nat
  /-- `some` iff values were supplied: the encoded value of every leaf, in leaf order
      (`selectByIndexes(leafIndexes, bytesValues)`) -/
  elts : Option (List Bytes)
  deriving Repr, Inhabited

def Trie1.empty (opt : Opt) : Trie1 :=
  { opt := opt, nodes := #[], bigCnt := 0, leafKeyIdx := #[], elts := none }

/-- `newSlim`: keys, optional encoded values, normalized options. -/
def build (keys : List Bytes) (vals : Option (List Bytes)) (opt : Opt) : Except Err Trie1 :=
  let n := keys.length
  if n = 0 then .ok (Trie1.empty opt) else
  if !strictAsc keys then .error .outOfOrder else
  match vals with
  | some vs => if vs.length ≠ n then .error (.panic "len(keys) must equal len(values)") else go n
  | none => go n
where
  go (n : Nat) : Except Err Trie1 :=
    let kns := keys.map nibs
    let c : BCtx :=
      { kn := kns.toArray, kb := keys.toArray, keep := (keepMask n vals opt.dedup).toArray
        lcps := (mkLcps kns).toArray, opt := opt }
    match buildLoop c (2 * n) 0 { queue := #[{ s := 0, e := n, fb := 0 }] } with
    | .error e => .error e
    | .ok st =>
      .ok { opt := opt, nodes := st.nodes, bigCnt := st.bigCnt, leafKeyIdx := st.leafKeyIdx
            elts := vals.map (fun vs => st.leafKeyIdx.toList.map (fun i => vs.getD i [])) }

/-- compiled form of `build` (`@[csimp]` below): selecting the values of the leaves reads
    `vs.getD i` for every leaf (quadratic in the number of keys); an array copy is indexed instead -/
def buildFast (keys : List Bytes) (vals : Option (List Bytes)) (opt : Opt) : Except Err Trie1 :=
  let n := keys.length
  if n = 0 then .ok (Trie1.empty opt) else
  if !strictAsc keys then .error .outOfOrder else
  match vals with
  | some vs => if vs.length ≠ n then .error (.panic "len(keys) must equal len(values)") else go n
  | none => go n
where
  go (n : Nat) : Except Err Trie1 :=
    let kns := keys.map nibs
    let c : BCtx :=
      { kn := kns.toArray, kb := keys.toArray, keep := (keepMask n vals opt.dedup).toArray
        lcps := (mkLcps kns).toArray, opt := opt }
    match buildLoop c (2 * n) 0 { queue := #[{ s := 0, e := n, fb := 0 }] } with
    | .error e => .error e
    | .ok st =>
      .ok { opt := opt, nodes := st.nodes, bigCnt := st.bigCnt, leafKeyIdx := st.leafKeyIdx
            elts := vals.map (fun vs =>
              let vsA := vs.toArray
              st.leafKeyIdx.toList.map (fun i => vsA.getD i [])) }

theorem build_go_eq_fast (keys : List Bytes) (vals : Option (List Bytes)) (opt : Opt) (n : Nat) :
    build.go keys vals opt n = buildFast.go keys vals opt n := by
  unfold build.go buildFast.go
  simp only [List.toArray_getD_eq]

@[csimp] theorem build_eq_fast : @build = @buildFast := by
  funext keys vals opt
  unfold build buildFast
  simp only [build_go_eq_fast]
