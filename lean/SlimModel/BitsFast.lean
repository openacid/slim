import SlimModel.BitsCore
/-
  SlimModel.BitsFast — faster implementations of four functions of `SlimModel.BitsCore`, each
  proved equal to the specification and registered with `@[csimp]`, so that every definition
  compiled after this module (`Bits.mk`, `Bits.select32R64`, `Slim.encodeCreator`, …) runs the
  fast code while every theorem stays about the original definition.

    nextOne        bit-by-bit scan with an O(i/64) `List.getD` per bit
                   → drop `pos/64` words once, scan the first word, skip zero words
    toArray        the same pattern over the whole bitmap → one pass over the words
    indexSelect32  `List.getD (k*32)` for every `k` → array access
    ofMany         `acc ++ chunk` in a loop (copies `acc` every time) → collect the chunks, flatten

  Core Lean only (the model is linked into `slimdriver`).
-/

namespace Bits

/-! ### helpers -/

/-- bit `i − base` of the words, counted from bit position `base` -/
def bitFrom (ws : List Nat) (base i : Nat) : Bool :=
  (ws.getD ((i - base) / 64) 0).testBit ((i - base) % 64)

theorem bitFrom_head (w : Nat) (ws : List Nat) (base i : Nat) (h1 : base ≤ i) (h2 : i < base + 64) :
    bitFrom (w :: ws) base i = w.testBit (i - base) := by
  obtain ⟨d, rfl⟩ := Nat.exists_eq_add_of_le h1
  have hd : d < 64 := Nat.lt_of_add_lt_add_left h2
  unfold bitFrom
  rw [Nat.add_sub_cancel_left, Nat.div_eq_of_lt hd, Nat.mod_eq_of_lt hd, List.getD_cons_zero]

theorem bitFrom_tail (w : Nat) (ws : List Nat) (base i : Nat) (h : base + 64 ≤ i) :
    bitFrom (w :: ws) base i = bitFrom ws (base + 64) i := by
  obtain ⟨d, rfl⟩ := Nat.exists_eq_add_of_le h
  unfold bitFrom
  rw [Nat.add_sub_cancel_left, Nat.add_assoc, Nat.add_sub_cancel_left,
    Nat.add_div_left _ (by decide), Nat.add_mod_left, List.getD_cons_succ]

theorem getD_drop_add (l : List Nat) (a j : Nat) : (l.drop a).getD j 0 = l.getD (a + j) 0 := by
  rw [List.getD_eq_getElem?_getD, List.getD_eq_getElem?_getD, List.getElem?_drop]

/-- from word `q` on, the bits are those of the list without its first `q` words -/
theorem bitFrom_drop (ws : List Nat) (q i : Nat) (h : q * 64 ≤ i) :
    (ws.getD (i / 64) 0).testBit (i % 64) = bitFrom (ws.drop q) (q * 64) i := by
  obtain ⟨d, rfl⟩ := Nat.exists_eq_add_of_le h
  unfold bitFrom
  rw [Nat.add_sub_cancel_left, getD_drop_add, Nat.mul_comm q 64, Nat.mul_add_div (by decide),
    Nat.mul_add_mod]

theorem range'_split (s a b : Nat) : List.range' s (a + b) = List.range' s a ++ List.range' (s + a) b := by
  rw [List.range'_append_1]

theorem range'_shift (base lo n : Nat) :
    List.range' (base + lo) n = (List.range' lo n).map (base + ·) := by
  rw [List.map_add_range']

/-! ### `nextOne` -/

/-- first set bit of `w` among the bits `[lo, 64)` -/
def findBitFrom (w lo : Nat) : Option Nat :=
  (List.range' lo (64 - lo)).find? (fun j => w.testBit j)

theorem findBitFrom_zero (lo : Nat) : findBitFrom 0 lo = none := by
  unfold findBitFrom
  rw [List.find?_eq_none]
  intro x _; simp

/-- first set bit of the words, the head word starting at bit position `base` -/
def nextOneGo : List Nat → Nat → Option Nat
  | [], _ => none
  | w :: ws, base =>
    if w = 0 then nextOneGo ws (base + 64)
    else match findBitFrom w 0 with
      | some j => some (base + j)
      | none => nextOneGo ws (base + 64)

/-- the set positions of a word list from bit `lo` of its head word on: those of that word, then
    those of the other words.  Both scans rest on it (`nextOne` takes the first, `toArray` all). -/
theorem filter_words (w : Nat) (ws : List Nat) (base lo : Nat) (hlo : lo ≤ 64) :
    (List.range' (base + lo) ((w :: ws).length * 64 - lo)).filter (bitFrom (w :: ws) base)
      = ((List.range' lo (64 - lo)).filter (fun j => w.testBit j)).map (base + ·)
        ++ (List.range' (base + 64) (ws.length * 64)).filter (bitFrom ws (base + 64)) := by
  rw [List.length_cons, Nat.succ_mul, Nat.add_sub_assoc hlo, Nat.add_comm _ (64 - lo), range'_split,
    List.filter_append, Nat.add_assoc base lo, Nat.add_sub_cancel' hlo, range'_shift, List.filter_map]
  congr 1
  · congr 1
    apply List.filter_congr
    intro j hj
    rw [List.mem_range'_1, Nat.add_sub_cancel' hlo] at hj
    rw [Function.comp_apply, bitFrom_head w ws base _ (Nat.le_add_right _ _) (Nat.add_lt_add_left hj.2 _),
      Nat.add_sub_cancel_left]
  · apply List.filter_congr
    intro i hi
    exact bitFrom_tail w ws base i (List.mem_range'_1.mp hi).1

/-- `nextOneGo` returns the first set position (the `find?` of `nextOne` is `head?` of `filter`) -/
theorem nextOneGo_spec (ws : List Nat) (base : Nat) :
    nextOneGo ws base = ((List.range' base (ws.length * 64)).filter (bitFrom ws base)).head? := by
  induction ws generalizing base with
  | nil => rfl
  | cons w ws ih =>
    have h := filter_words w ws base 0 (Nat.zero_le 64)
    rw [Nat.add_zero, Nat.sub_zero] at h
    rw [h, List.head?_append, List.head?_map, List.head?_filter, ← ih, nextOneGo]
    show _ = ((findBitFrom w 0).map (base + ·)).or _
    by_cases hw : w = 0
    · rw [if_pos hw, hw, findBitFrom_zero]; rfl
    · rw [if_neg hw]
      cases findBitFrom w 0 <;> rfl

/-- `nextOne`, word-wise -/
def nextOneFast (words : List Nat) (pos : Nat) : Nat :=
  match words.drop (pos / 64) with
  | [] => words.length * 64
  | w :: ws =>
    match findBitFrom w (pos % 64) with
    | some j => pos / 64 * 64 + j
    | none =>
      match nextOneGo ws ((pos / 64 + 1) * 64) with
      | some i => i
      | none => words.length * 64

theorem nextOne_eq_nextOneFast (words : List Nat) (pos : Nat) :
    nextOne words pos = nextOneFast words pos := by
  unfold nextOne nextOneFast
  simp only
  rcases Nat.lt_or_ge (pos / 64) words.length with hq | hq
  · -- the scan from `pos` is the scan of the list without its first `pos / 64` words, from bit
    -- `pos % 64` of its head word
    have hfind : (List.range' pos (words.length * 64 - pos)).find?
        (fun i => (words.getD (i / 64) 0).testBit (i % 64))
        = ((List.range' (pos / 64 * 64 + pos % 64) ((words.drop (pos / 64)).length * 64 - pos % 64)).filter
          (bitFrom (words.drop (pos / 64)) (pos / 64 * 64))).head? := by
      rw [List.length_drop, Nat.sub_mul, Nat.sub_sub, Nat.div_add_mod' pos 64, ← List.head?_filter]
      congr 1
      apply List.filter_congr
      intro i hi
      exact bitFrom_drop words _ i
        (Nat.le_trans (Nat.div_mul_le_self pos 64) (List.mem_range'_1.mp hi).1)
    rw [hfind, List.drop_eq_getElem_cons hq,
      filter_words _ _ _ _ (Nat.le_of_lt (Nat.mod_lt pos (by decide))), List.head?_append,
      List.head?_map, List.head?_filter, ← nextOneGo_spec, Nat.succ_mul]
    show (match ((findBitFrom words[pos / 64] (pos % 64)).map (pos / 64 * 64 + ·)).or _ with
      | some i => i | none => _) = _
    dsimp only
    cases findBitFrom words[pos / 64] (pos % 64) with
    | some j => rfl
    | none => cases nextOneGo (words.drop (pos / 64 + 1)) (pos / 64 * 64 + 64) <;> rfl
  · -- `pos` is beyond the last word
    rw [List.drop_of_length_le hq, Nat.sub_eq_zero_of_le
      (Nat.le_trans (Nat.mul_le_mul_right 64 hq) (Nat.div_mul_le_self pos 64))]
    rfl

@[csimp] theorem nextOne_eq_fast : @nextOne = @nextOneFast := by
  funext words pos; exact nextOne_eq_nextOneFast words pos

/-! ### `toArray` -/

/-- the set bits of the word that starts at bit position `base` -/
def wordBits (w base : Nat) : List Nat :=
  if w = 0 then [] else ((List.range' 0 64).filter (fun j => w.testBit j)).map (base + ·)

/-- `toArray`, one pass over the words -/
def toArrayFast (words : List Nat) : List Nat :=
  words.zipIdx.flatMap (fun p => wordBits p.1 (p.2 * 64))

theorem wordBits_eq (w base : Nat) :
    wordBits w base = ((List.range' 0 64).filter (fun j => w.testBit j)).map (base + ·) := by
  unfold wordBits
  split
  · next hw =>
    rw [hw, List.filter_eq_nil_iff.mpr (fun x _ => by simp)]; rfl
  · rfl

theorem toArrayGo_spec (ws : List Nat) (k : Nat) :
    (ws.zipIdx k).flatMap (fun p => wordBits p.1 (p.2 * 64))
      = (List.range' (k * 64) (ws.length * 64)).filter (bitFrom ws (k * 64)) := by
  induction ws generalizing k with
  | nil => simp
  | cons w ws ih =>
    have h := filter_words w ws (k * 64) 0 (Nat.zero_le 64)
    rw [Nat.add_zero, Nat.sub_zero] at h
    rw [List.zipIdx_cons, List.flatMap_cons, ih (k + 1), h, wordBits_eq, Nat.succ_mul]

theorem toArray_eq_toArrayFast (words : List Nat) : toArray words = toArrayFast words := by
  unfold toArray toArrayFast
  have h := toArrayGo_spec words 0
  simp only [Nat.zero_mul] at h
  rw [h, List.range_eq_range']
  apply List.filter_congr
  intro i _
  unfold bitFrom
  rw [Nat.sub_zero]

@[csimp] theorem toArray_eq_fast : @toArray = @toArrayFast := by
  funext words; exact toArray_eq_toArrayFast words

/-! ### `indexSelect32` -/

/-- `indexSelect32` with array access (compiled after the `csimp` of `toArray`) -/
def indexSelect32Fast (words : List Nat) : List Nat :=
  let arr := (toArray words).toArray
  (List.range ((arr.size + 31) / 32)).map (fun k => arr.getD (k * 32) 0)

@[csimp] theorem indexSelect32_eq_fast : @indexSelect32 = @indexSelect32Fast := by
  funext words
  unfold indexSelect32 indexSelect32Fast
  simp [List.getD_eq_getElem?_getD]

/-! ### `ofMany` -/

/-- the shifted sub-bitmaps, last first, and the total width -/
def ofManyChunks : List (List Nat) → List Nat → Nat → List (List Nat) → List (List Nat) × Nat
  | s :: ss, z :: zs, base, acc => ofManyChunks ss zs (base + z) (s.map (base + ·) :: acc)
  | _, _, base, acc => (acc, base)

/-- `ofMany` without re-copying the accumulated positions for every sub-bitmap -/
def ofManyFast (subs : List (List Nat)) (sizes : List Nat) : List Nat :=
  let (chunks, base) := ofManyChunks subs sizes 0 []
  ofIdx chunks.reverse.flatten base

/-- the loop of `ofMany` appends the chunks that `ofManyChunks` collects -/
theorem ofMany_go_chunks (subs : List (List Nat)) (sizes : List Nat) (base : Nat)
    (chunks : List (List Nat)) :
    ofMany.go subs sizes base chunks.reverse.flatten
      = ((ofManyChunks subs sizes base chunks).1.reverse.flatten,
         (ofManyChunks subs sizes base chunks).2) := by
  induction subs generalizing sizes base chunks with
  | nil => rfl
  | cons s ss ih =>
    cases sizes with
    | nil => rfl
    | cons z zs =>
      rw [ofMany.go, ofManyChunks, ← ih, List.reverse_cons, List.flatten_append,
        List.flatten_singleton]

theorem ofMany_eq_ofManyFast (subs : List (List Nat)) (sizes : List Nat) :
    ofMany subs sizes = ofManyFast subs sizes := by
  unfold ofMany ofManyFast
  rw [show ofMany.go subs sizes 0 [] = _ from ofMany_go_chunks subs sizes 0 []]

@[csimp] theorem ofMany_eq_fast : @ofMany = @ofManyFast := by
  funext subs sizes; exact ofMany_eq_ofManyFast subs sizes

end Bits
