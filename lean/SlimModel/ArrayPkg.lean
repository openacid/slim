import SlimModel.Basic
import SlimModel.Encode
/-
  SlimModel.ArrayPkg — executable model of package `/repo/array` (property C16).

  * `Array32`   the protobuf message (array/array.pb.go): Cnt, Bitmaps, Offsets, Elts, Flags,
                EltWidth, BMElts.  `int32` fields are `Int` (the arithmetic on them wraps, `wrap32`),
                `uint64` bitmap words are `Nat` (< 2^64 for everything the constructors build).
  * `Base`      array/base.go: the message plus `EltEncoder` (`none` = Go nil).
  * `Base.initIndex`, `Base.init`, `Base.initElts`, `Array.init`, `new`, `newEmpty`, `newTyped`
                the constructors with their two validations, in the order the Go code runs them:
                `Init` checks the lengths first (`ErrIndexLen`), then `InitIndex` checks
                `index[i] >= index[i+1]` (`ErrIndexNotAscending`) before it assigns anything.
  * `Base.typedGetBytes` / `getU` / `getS`   array/int.go `Get` of U16 U32 U64 / I16 I32 I64.
  * `Base.getBytes`, `Base.get`              array/base.go `GetBytes`, `Get` (generic, via EltEncoder).
  * `Base.marshal` / `Base.unmarshal`        the protobuf round trip at the level of message fields
                (`proto.Unmarshal` resets the embedded `Array32` only: `EltEncoder` survives).

  `github.com/openacid/low/bitmap` (`Of`, `IndexRank64`, `Rank64`) is mirrored here too, including
  its int32 arithmetic: `Of` sizes the bitmap by `(last+1+63)>>6` computed in int32.
  Slices are modelled by their contents (cap = len).
-/
namespace ArrayPkg
open Encode

inductive ArrErr where
  | indexNotAscending    -- array.ErrIndexNotAscending
  | indexLen             -- array.ErrIndexLen
  | notFixedSize         -- encode.ErrNotFixedSize (element type has no TypeEncoder)
  deriving Repr, DecidableEq, Inhabited

/-- Go `int32(x)`: wrap into [-2^31, 2^31). -/
def wrap32 (x : Int) : Int := (x + 2147483648) % 4294967296 - 2147483648

/-- `bits.OnesCount64` (for words < 2^64). -/
def popcountAux : Nat → Nat → Nat
  | 0, _ => 0
  | f + 1, n => n % 2 + popcountAux f (n / 2)
def popcount (n : Nat) : Nat := popcountAux 64 n

/-- Go `l[k]` with an `int32` subscript: a negative or too large subscript panics. -/
def getI {α : Type} (l : List α) (k : Int) : Except Err α :=
  if k < 0 then gopanic "index out of range"
  else match l[k.toNat]? with
    | some x => .ok x
    | none => gopanic "index out of range"

/-- message `Bits` (array/bitmap.proto), only carried around. -/
structure BitsMsg where
  flags : Nat := 0
  n : Int := 0
  words : List Nat := []
  rankIndex : List Int := []
  deriving Repr, DecidableEq, Inhabited

/-- message `Array32`. -/
structure Array32 where
  cnt : Int := 0
  bitmaps : List Nat := []
  offsets : List Int := []
  elts : Bytes := []
  flags : Nat := 0
  eltWidth : Int := 0
  bmElts : Option BitsMsg := none
  deriving Repr, DecidableEq, Inhabited

structure Base extends Array32 where
  eltEncoder : Option Enc := none
  deriving Repr, Inhabited

/-! ### bitmap.Of, bitmap.IndexRank64 -/

/-- The loop of `InitIndex`: `index[i] >= index[i+1]` for some `i` ⇒ not ascending. -/
def ascCheck : List Int → Bool
  | a :: b :: rest => if a ≥ b then false else ascCheck (b :: rest)
  | _ => true

/-- `words[i>>6] |= 1 << uint(i&63)` on a Go slice (in place; `Array` so that the compiled
    driver runs it in constant time — `SlimProofs.ArrayPkg.setBit_natCast`: it is the step of `Bits.ofIdx`). -/
def setBit (words : Array Nat) (i : Int) : Array Nat :=
  let k := (i / 64).toNat
  words.setIfInBounds k (words.getD k 0 ||| 2 ^ (i % 64).toNat)

/-- `bitmap.Of(index)`: the number of words comes from the *last* position, in int32 arithmetic;
    a negative length panics in `make`, a word subscript outside the slice panics in the loop
    (the model reports the panic without building the prefix of the loop). -/
def bitmapOf (index : List Int) : Except Err (List Nat) :=
  let n : Int := match index.getLast? with
    | some l => if 0 < wrap32 (l + 1) then wrap32 (l + 1) else 0
    | none => 0
  let nWords : Int := wrap32 (n + 63) / 64
  if nWords < 0 then gopanic "makeslice: len out of range"
  else if index.all (fun i => decide (0 ≤ i / 64 ∧ i / 64 < nWords)) then
    .ok (index.foldl setBit (Array.replicate nWords.toNat 0)).toList
  else gopanic "index out of range"

/-- `bitmap.IndexRank64(words)`: running count of ones before each word (int32 accumulator). -/
def indexRank64From (n : Int) : List Nat → List Int
  | [] => []
  | w :: ws => n :: indexRank64From (wrap32 (n + (popcount w : Int))) ws

def indexRank64 (words : List Nat) : List Int := indexRank64From 0 words

/-- `for i, word := range a.Bitmaps { if word == 0 { a.Offsets[i] = 0 } }`
    (the two slices have equal length by construction). -/
def zeroEmpty : List Nat → List Int → List Int
  | w :: ws, o :: os => (if w = 0 then 0 else o) :: zeroEmpty ws os
  | _, os => os

/-! ### constructors -/

/-- `(*Base).InitIndex`: returns the receiver after the call and the returned error. -/
def Base.initIndex (a : Base) (index : List Int) : Except Err (Base × Option ArrErr) :=
  if !ascCheck index then .ok (a, some .indexNotAscending)
  else do
    let words ← bitmapOf index
    let offs := zeroEmpty words (indexRank64 words)
    pure ({ a with bitmaps := words, offsets := offs, cnt := wrap32 (index.length : Int) }, none)

def encodeAll (c : Codec Val) : List Val → Except Err Bytes
  | [] => .ok []
  | v :: vs => do
    let b ← c.encode v
    let r ← encodeAll c vs
    pure (b ++ r)

/-- `(*Base).InitElts`: `encoder.GetEncodedSize(nil)` is evaluated (String16 panics there),
    then the encodings are appended. -/
def Base.initElts (a : Base) (enc : Enc) (elts : List Val) : Except Err Base := do
  let _ ← enc.codec.getEncodedSize []
  let b ← encodeAll enc.codec elts
  pure { a with elts := b }

/-- The encoder `Init` uses: `a.EltEncoder` if set, else
    `encode.NewTypeEncoderEndian(elts[0], binary.LittleEndian)` (fails for a type without fixed size). -/
def resolveEnc (pre : Option Enc) (ety : Option Ty) : Option Enc :=
  match pre with
  | some enc => some enc
  | none => ety.map (Enc.typ .le)

/-- `(*Base).Init(indexes, elts)`.  `ety` is the Go element type of the slice `elts`
    (`none`: a type `encoding/binary` cannot size, e.g. `int` or `string`); it is only consulted
    when `EltEncoder` is nil. -/
def Base.init (a : Base) (ety : Option Ty) (indexes : List Int) (elts : List Val) :
    Except Err (Base × Option ArrErr) :=
  if indexes.length ≠ elts.length then .ok (a, some .indexLen)
  else do
    let (a1, e) ← a.initIndex indexes
    match e with
    | some e => pure (a1, some e)
    | none =>
      if indexes.length = 0 then pure (a1, none)
      else
        match resolveEnc a1.eltEncoder ety with
        | none => pure (a1, some .notFixedSize)      -- NB: index fields already assigned
        | some enc => do
          let a2 ← a1.initElts enc elts
          pure (a2, none)

/-- `(*Array).Init`: `Base.Init`, then the element encoder is derived from `elts[0]` if still nil. -/
def Array.init (a : Base) (ety : Option Ty) (indexes : List Int) (elts : List Val) :
    Except Err (Base × Option ArrErr) := do
  let (a1, e) ← a.init ety indexes elts
  match e with
  | some e => pure (a1, some e)
  | none =>
    if a1.cnt > 0 ∧ a1.eltEncoder.isNone then
      match ety with
      | none => pure (a1, some .notFixedSize)
      | some t => pure ({ a1 with eltEncoder := some (.typ .le t) }, none)
    else pure (a1, none)

/-- `array.New(indexes, elts)`: `(nil, err)` on error. -/
def new (ety : Option Ty) (indexes : List Int) (elts : List Val) :
    Except Err (Option Base × Option ArrErr) := do
  let (a, e) ← Array.init {} ety indexes elts
  match e with
  | some e => pure (none, some e)
  | none => pure (some a, none)

/-- `array.NewEmpty(v)` for `v` of type `t`: `encode.NewTypeEncoder` (little endian). -/
def newEmpty (t : Ty) : Base := { eltEncoder := some (.typ .le t) }

/-- `array.NewU16 … NewI64`: `a = &T{}; err = a.Init(index, elts); if err != nil { a = nil }`
    where `Init` is the promoted `Base.Init` (the EltEncoder stays nil). -/
def newTyped (t : Ty) (indexes : List Int) (elts : List Int) :
    Except Err (Option Base × Option ArrErr) := do
  let (a, e) ← Base.init {} (some t) indexes (elts.map Val.int)
  match e with
  | some e => pure (none, some e)
  | none => pure (some a, none)

/-! ### accessors -/

/-- The common body of `(*U16).Get … (*I64).Get` for element width `w`: `none` when the presence
    bit is clear, else the `w` bytes that `endian.UintW(a.Elts[stIdx:])` reads. -/
def Base.typedGetBytes (a : Base) (w : Nat) (idx : Int) : Except Err (Option Bytes) := do
  let iBm := idx / 64                       -- idx >> 6 (arithmetic shift)
  let iBit := (idx % 64).toNat              -- idx & 63
  let n ← getI a.bitmaps iBm
  if (n >>> iBit) % 2 = 0 then pure none
  else
    let cnt1 := popcount (n % 2 ^ iBit)     -- OnesCount64(n & (1<<iBit - 1))
    let off ← getI a.offsets iBm
    let stIdx := wrap32 (wrap32 (off * (w : Int)) + wrap32 ((cnt1 : Int) * (w : Int)))
    if stIdx < 0 ∨ stIdx > (a.elts.length : Int) then gopanic "slice bounds out of range"
    else
      let s := a.elts.drop stIdx.toNat
      if s.length < w then gopanic "index out of range"
      else pure (some (s.take w))

/-- `(*U16).Get`, `(*U32).Get`, `(*U64).Get` (w = 2, 4, 8): `(0, false)` when absent. -/
def Base.getU (a : Base) (w : Nat) (idx : Int) : Except Err (Nat × Bool) := do
  match ← a.typedGetBytes w idx with
  | none => pure (0, false)
  | some b => pure (leVal b, true)

/-- `(*I16).Get`, `(*I32).Get`, `(*I64).Get`. -/
def Base.getS (a : Base) (w : Nat) (idx : Int) : Except Err (Int × Bool) := do
  match ← a.typedGetBytes w idx with
  | none => pure (0, false)
  | some b => pure (toS w (leVal b), true)

/-- `(*Base).GetBytes(idx, eltsize)` through `bitmap.Rank64`; `none` = `(nil, false)`. -/
def Base.getBytes (a : Base) (idx : Int) (eltsize : Nat) : Except Err (Option Bytes) := do
  let wordI := idx / 64
  let j := (idx % 64).toNat
  let n ← getI a.offsets wordI
  let w ← getI a.bitmaps wordI
  let r := wrap32 (n + (popcount (w % 2 ^ j) : Int))
  if (w >>> j) % 2 = 0 then pure none
  else
    let es := wrap32 (eltsize : Int)
    let st := wrap32 (es * r)
    let en := wrap32 (st + es)
    if st < 0 ∨ en < st ∨ en > (a.elts.length : Int) then gopanic "slice bounds out of range"
    else pure (some ((a.elts.drop st.toNat).take (en - st).toNat))

/-- `(*Base).Get(idx)`: the generic accessor; `none` = `(nil, false)`.
    A nil `EltEncoder` is a nil-interface method call. -/
def Base.get (a : Base) (idx : Int) : Except Err (Option Val) := do
  match a.eltEncoder with
  | none => gopanic "nil pointer dereference"
  | some enc =>
    let sz ← enc.codec.getEncodedSize []
    match ← a.getBytes idx sz with
    | none => pure none
    | some bs =>
      let (_, v) ← enc.codec.decode bs
      pure (some v)

/-! ### protobuf round trip, at the level of message fields -/

/-- `proto.Marshal(a)`: the fields of the embedded `Array32`. -/
def Base.marshal (a : Base) : Array32 := a.toArray32

/-- `proto.Unmarshal(buf, a)`: `a.Reset()` (only `*m = Array32{}`) and the fields are filled in;
    `EltEncoder` is not touched. -/
def Base.unmarshal (a : Base) (m : Array32) : Base := { a with toArray32 := m }

end ArrayPkg
