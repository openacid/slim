import SlimProofs.Order
import SlimProofs.WF
import SlimProofs.Shape
import SlimProofs.Runs
import SlimProofs.Subtree
import SlimProofs.Tree
import SlimProofs.Descent
import SlimProofs.Agree
import SlimProofs.SearchDescent
import SlimProofs.LookupTotal
import SlimProofs.CutSpec
import SlimProofs.Exact
import SlimProofs.RangeDropped
import SlimProofs.Monotone
import SlimProofs.BuildInv
import SlimProofs.BuildShape
import SlimProofs.BuildTotal
import SlimProofs.LeafCount
import SlimProofs.IterLemmas
import SlimProofs.IterStack
import SlimProofs.IterMain
import SlimProofs.IterScan
import SlimProofs.Render
import SlimProofs.StatLemmas
import SlimProofs.GetInt
import SlimProofs.IndexExact
import SlimProofs.ReadersLemmas
import SlimProofs.BitsLemmas
import SlimProofs.Encode
import SlimProofs.ArrayPkg
import SlimProofs.ArrayPkgGet
import SlimProofs.ArrayPkgInit
import SlimProofs.VLen
import SlimProofs.Refine
import SlimProofs.Refine.EncCongr
import SlimProofs.EncodeAt
import SlimProofs.InstanceLemmas
import SlimProofs.EncodeWF
import SlimProofs.BuffersLemmas
import SlimProofs.Transport
import SlimProofs.TransportRender
import SlimProofs.WireVarint
import SlimProofs.WireField
import SlimProofs.WireStep
import SlimProofs.WireMsg
import SlimProofs.WireSlim
import SlimProofs.WireArray
import SlimProofs.WireFrame
import SlimProofs.WireVersion
import SlimProofs.WireMarshal
import SlimProofs.WireSchema
import SlimProofs.SizePrefix
import SlimProofs.SizeVarint
import SlimProofs.SizePrefixEnc
import SlimProofs.SizePrefixExact
import SlimProofs.SizeShort
import SlimProofs.SizeFields
import SlimProofs.SizeLabels
import SlimProofs.SizeRootStep
import SlimProofs.SizeBound
import SlimProofs.LegacyPrefix
import SlimProofs.LegacySelect
import SlimProofs.LegacyLeaf
import SlimProofs.LegacyArray
import SlimProofs.LegacyBuildOld
import SlimProofs.LegacyRoundTrip
import SlimProofs.LegacyFuel
import SlimProofs.Legacy0510Wire
import SlimProofs.Legacy0510View
import SlimProofs.LegacyConvertOld
import SlimProofs.LegacyConvertSim
import SlimProofs.LegacyConvertWF
import SlimProofs.LegacyConvertLoop
import SlimProofs.LegacyConvertMain
import SlimProofs.LegacyConvertEnc
import SlimProofs.Legacy3Wire
import SlimProofs.Legacy3Size
import SlimProofs.UpgradeMsg
import SlimProofs.UpgradeConvert
import SlimProofs.UpgradeEmpty
import SlimProofs.InputWire
import SlimProofs.InputCore
import SlimProofs.InputLegacy
import SlimProofs.InputCount
import SlimProofs.InputPrefix
import SlimProofs.InputSmall
