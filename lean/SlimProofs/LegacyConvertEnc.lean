import SlimProofs.LegacyConvertMain
import SlimProofs.Refine.EncCongr
/-
  `Slim.encodeCreator` reads neither `firstChild` nor `leafKeyIdx`:
  `encodeCreator_fixup : encodeCreator (fixup lk t) = encodeCreator t`, an instance of
  `Refine.encodeCreator_congr` and `Refine.eIps_congr`.
-/

namespace LegacyConvert
open Slim Bits Tree Refine

theorem fixList_inners (fc : Nat) (l : List Node) :
    ((fixList fc l).filterMap innerOf).map noChild = (l.filterMap innerOf).map noChild := by
  induction l generalizing fc with
  | nil => rfl
  | cons nd rest ih =>
    cases nd with
    | inner r => exact congrArg (noChild r :: ·) (ih _)
    | leaf ith lp => exact ih _

theorem fixList_leaves (fc : Nat) (l : List Node) : (fixList fc l).map leafOf = l.map leafOf := by
  induction l generalizing fc with
  | nil => rfl
  | cons nd rest ih => cases nd <;> simp [fixList, fixNode, ih, leafOf]

theorem encodeCreator_fixup (lk : Array Nat) (t : Trie1) :
    encodeCreator (fixup lk t) = encodeCreator t := by
  have hinn : (eInners (fixup lk t)).map noChild = (eInners t).map noChild := by
    rw [eInners_eq, eInners_eq]
    exact fixList_inners 1 t.nodes.toList
  have hsc : SameCore t (fixup lk t) :=
    ⟨rfl, rfl, rfl, fixList_leaves 1 t.nodes.toList, by
      have := congrArg (List.map noPref) hinn
      rwa [List.map_map, List.map_map] at this⟩
  rw [encodeCreator_congr hsc, eIps_congr (t := t) (t' := fixup lk t) rfl hinn, ← enc_innerPrefixes]

#print axioms encodeCreator_fixup

end LegacyConvert
