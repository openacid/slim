import SlimProofs.WireMarshal
import SlimProofs.EncodeWF
import SlimModel.LegacyWrite
import SlimProofs.LegacyArray
import SlimProofs.LegacyBuildOld
/-
  SlimProofs.Legacy3Wire — bytes → sections for the three-section layouts (≤ 0.5.9): the stream
  `writeLegacy3` produces dispatches to the `legacy3` branch of `Unmarshal` with exactly the three
  messages `sections3` made.  What is known of a section is collected in `SecOK` (well formed, no
  unknown bytes, list lengths), proved once per constructor and for `sections3` as long as
  `32 * keys.length + 143 < 2^31`, that is `16 * n + 127 < 2^31` for the at most `2 * keys.length + 1`
  nodes of the old trie (each node takes 16 bits of the widest section bitmap, rounded up to a word,
  and the bit count is an int32); the sizes that follow from it are in Legacy3Size.
-/
open Wire Frame Version Bits

namespace Wire

theorem unmarshal_frames_legacy3 (v : String) (hv : v = "1.0.0" ∨ v = "0.5.8" ∨ v = "0.5.9")
    (a b c : Array32Msg) (ha : a.WF) (hb : b.WF) (hc : c.WF) (hna : a.NF) (hnb : b.NF) (hnc : c.NF)
    (hba : BodyOK (encodeArray32 a)) (hbb : BodyOK (encodeArray32 b)) (hbc : BodyOK (encodeArray32 c)) :
    unmarshalDispatch (frame v (encodeArray32 a) ++ (frame v (encodeArray32 b) ++ frame v (encodeArray32 c)))
      = .ok (.legacy3 v a b c) := by
  obtain ⟨hvo, hcomp, hlay⟩ := version_legacy v hv
  have hh := readHeader_frame v hvo (encodeArray32 a) hba (frame v (encodeArray32 b) ++ frame v (encodeArray32 c))
  have h1 := readMsg_frame decodeArray32 v hvo (encodeArray32 a) hba
    (frame v (encodeArray32 b) ++ frame v (encodeArray32 c))
  rw [decodeArray32_encode a ha hna (bodyOK_length_lt hba)] at h1
  have h2 := readMsg_frame decodeArray32 v hvo (encodeArray32 b) hbb (frame v (encodeArray32 c))
  rw [decodeArray32_encode b hb hnb (bodyOK_length_lt hbb)] at h2
  have h3 := readMsg_frame decodeArray32 v hvo (encodeArray32 c) hbc []
  rw [decodeArray32_encode c hc hnc (bodyOK_length_lt hbc), List.append_nil] at h3
  unfold unmarshalDispatch
  rw [hh]
  simp only [hcomp, hlay]
  rw [h1]
  simp only
  rw [h2]
  simp only
  rw [h3]
  rfl

end Wire

namespace LegacyWrite
open Legacy

theorem idsWhere_lt (ns : List OldNode) (p : OldNode → Bool) : ∀ x ∈ idsWhere ns p, x < ns.length :=
  fun x hx => ((mem_ids p ns x).mp hx).1

theorem idsWhere_length_le (ns : List OldNode) (p : OldNode → Bool) : (idsWhere ns p).length ≤ ns.length := by
  rw [ids_eq]
  exact Nat.le_trans (List.length_filter_le _ _) (Nat.le_of_eq List.length_range)

theorem initIndex_lengths (idx : List Nat) (minWords : Nat) (elts : Bytes) (n : Nat)
    (h : ∀ i ∈ idx, i < n) :
    (initIndex idx minWords elts).bitmaps.length * 64 ≤ max (minWords * 64) n + 63 ∧
    (initIndex idx minWords elts).offsets.length = (initIndex idx minWords elts).bitmaps.length ∧
    (initIndex idx minWords elts).elts = elts ∧ (initIndex idx minWords elts).bmElts = none ∧
    (initIndex idx minWords elts).unrecognized = [] := by
  refine ⟨?_, ?_, rfl, rfl, rfl⟩
  · have := ofIdx_bits_le idx (minWords * 64) n h
    show (ofIdx idx (minWords * 64)).length * 64 ≤ _
    omega
  · show (zeroEmpty _ (indexRank64 _ false)).length = (ofIdx idx (minWords * 64)).length
    rw [zeroEmpty_length, indexRank64_length]
    simp

/-- What is known of a section of a three-section stream whose node count fits an int32; `2^25`
    index words are `2^31` bits (one bit per node, or the words the extended index asks for).
    Well-formedness (for the decoder) and the size (for the allocator, `SecOK.bodyOK`) of every
    section both come from this. -/
structure SecOK (a : Array32Msg) (bound : Nat) : Prop where
  wf : a.WF
  unk : a.unrecognized = []
  bitmaps : a.bitmaps.length ≤ 2 ^ 25
  offsets : a.offsets.length = a.bitmaps.length
  elts : a.elts.length ≤ bound
  bm : ∀ b, a.bmElts = some b → b.words.length ≤ 2 ^ 25 ∧ b.rankIndex.length ≤ 2 ^ 25

theorem SecOK.mono {a : Array32Msg} {b b' : Nat} (h : SecOK a b) (hb : b ≤ b') : SecOK a b' :=
  { h with elts := Nat.le_trans h.elts hb }

theorem initIndex_secOK (idx : List Nat) (mw : Nat) (elts : Bytes) (n : Nat)
    (h : ∀ i ∈ idx, i < n) (hl : idx.length < 2 ^ 31) (hn : max (mw * 64) n + 63 < 2 ^ 31) :
    SecOK (initIndex idx mw elts) elts.length := by
  have hbits := ofIdx_bits_le idx (mw * 64) n h
  obtain ⟨m1, m2, _⟩ := initIndex_lengths idx mw elts n h
  refine ⟨⟨hl, ofIdx_lt _ _, ?_, by simp [initIndex], by simp [initIndex], nofun⟩, rfl, by omega, m2,
    Nat.le_refl _, nofun⟩
  intro o ho
  rcases zeroEmpty_mem _ _ o ho with rfl | hm
  · omega
  · have := indexRank64_le _ false o hm
    omega

theorem packBM16_lt (l : List Nat) (h : ∀ x ∈ l, x < 65536) : ∀ w ∈ packBM16 l, w < 2 ^ 64 := by
  induction l using packBM16.induct with
  | case1 => intro w hw; simp [packBM16] at hw
  | case2 a rest ih =>
    intro w hw
    rw [packBM16_cons] at hw
    rcases List.mem_cons.mp hw with rfl | hw
    · have ha : a < 65536 := h a (by simp)
      have hr : ∀ x ∈ rest, x < 65536 := fun x hx => h x (List.mem_cons_of_mem _ hx)
      have hb := getD_lt rest hr 0
      have hc := getD_lt rest hr 1
      have hd := getD_lt rest hr 2
      omega
    · exact ih (fun x hx => h x (List.mem_cons_of_mem _ (List.mem_of_mem_drop hx))) w hw

theorem packBM16_length_le (l : List Nat) : (packBM16 l).length * 4 ≤ l.length + 3 := by
  induction l using packBM16.induct with
  | case1 => simp [packBM16]
  | case2 a rest ih =>
    rw [packBM16_cons]
    simp only [List.length_cons, List.length_drop] at ih ⊢
    omega

/-- every candidate of the scan is the bit length of a word in front of `i + ws.length` -/
theorem bitLenFrom_le (ws : List Nat) (h : ∀ w ∈ ws, w < 2 ^ 64) (i best B : Nat) (hb : best ≤ B)
    (hB : (i + ws.length) * 64 ≤ B) : bitLenFrom ws i best ≤ B := by
  induction ws generalizing i best with
  | nil => exact hb
  | cons w ws ih =>
    rw [List.length_cons, ← Nat.add_assoc, Nat.add_right_comm] at hB
    refine ih (fun x hx => h x (List.mem_cons_of_mem _ hx)) (i + 1) _ ?_ hB
    split
    · exact hb
    · next hw0 =>
      have hl : w.log2 < 64 := (Nat.log2_lt hw0).mpr (h w (List.mem_cons_self ..))
      omega

theorem bitLenWords_le (ws : List Nat) (h : ∀ w ∈ ws, w < 2 ^ 64) : bitLenWords ws ≤ ws.length * 64 :=
  bitLenFrom_le ws h 0 0 _ (Nat.zero_le _) (by rw [Nat.zero_add]; exact Nat.le_refl _)

theorem childrenMsg_secOK (vr : Variant) (nodes : List OldNode) (mw : Nat)
    (hbm : ∀ n ∈ nodes, n.bm < 65536) (hn : max (mw * 64) nodes.length + 63 < 2 ^ 31)
    (hn16 : 16 * nodes.length + 127 < 2 ^ 31) :
    SecOK (childrenMsg vr nodes mw) (4 * nodes.length) := by
  have hin : (nodes.filter (·.inner)).length ≤ nodes.length := List.length_filter_le _ _
  have hidx : ∀ e, SecOK (initIndex (idsWhere nodes (·.inner)) mw e) e.length := fun e =>
    initIndex_secOK _ _ _ nodes.length (idsWhere_lt _ _)
      (Nat.lt_of_le_of_lt (idsWhere_length_le nodes _) (by omega)) hn
  unfold childrenMsg
  simp only
  split
  · refine (hidx _).mono ?_
    have := SizeV.flatMap_length_le u32Child 4 (nodes.filter (·.inner))
      (fun a _ => Nat.le_of_eq (leBytes_length 4 _))
    exact Nat.le_trans this (Nat.mul_le_mul_left 4 hin)
  · split
    · exact (hidx []).mono (Nat.zero_le _)
    · obtain ⟨⟨h1, h2, h3, _, _, _⟩, _, s1, s2, _, _⟩ := hidx []
      have hw := packBM16_lt ((nodes.filter (·.inner)).map (·.bm)) fun x hx => by
        obtain ⟨n, hn', rfl⟩ := List.mem_map.mp hx
        exact hbm n (List.mem_filter.mp hn').1
      have hlen := packBM16_length_le ((nodes.filter (·.inner)).map (·.bm))
      rw [List.length_map] at hlen
      refine ⟨⟨h1, h2, h3, by simp, by simp, ?_⟩, rfl, s1, s2, Nat.zero_le _, ?_⟩
      · intro b hb
        cases hb
        refine ⟨by simp, ?_, hw, ?_⟩
        · have := bitLenWords_le _ hw
          show bitLenWords _ < 2 ^ 31
          omega
        · intro r hr
          have := indexRank128_le _ r hr
          omega
      · intro b hb
        cases hb
        show (packBM16 _).length ≤ 2 ^ 25 ∧ (indexRank128 _).length ≤ 2 ^ 25
        rw [indexRank128_length]
        omega

theorem stepsMsg_secOK (nodes : List OldNode) (mw : Nat) (hn : max (mw * 64) nodes.length + 63 < 2 ^ 31) :
    SecOK (stepsMsg nodes mw) (2 * nodes.length) := by
  have hl := idsWhere_length_le nodes (·.step != 0)
  have hin : (nodes.filter (·.step != 0)).length ≤ nodes.length := List.length_filter_le _ _
  have he := SizeV.flatMap_length_le (fun n : OldNode => leBytes 2 n.step) 2 (nodes.filter (·.step != 0))
    (fun a _ => Nat.le_of_eq (leBytes_length 2 _))
  exact (initIndex_secOK _ _ _ nodes.length (idsWhere_lt _ _) (by omega) hn).mono
    (Nat.le_trans he (Nat.mul_le_mul_left 2 hin))

theorem leavesMsg_secOK (nodes : List OldNode) (vals : Array Bytes) (hn : nodes.length + 63 < 2 ^ 31) :
    SecOK (leavesMsg nodes vals) (leavesMsg nodes vals).elts.length := by
  have hl := idsWhere_length_le nodes (·.leaf.isSome)
  exact initIndex_secOK _ _ _ nodes.length (idsWhere_lt _ _) (by omega) (by omega)

theorem leavesMsg_elts_le (nodes : List OldNode) (vals : Array Bytes) (w : Nat)
    (hw : ∀ v ∈ vals.toList, v.length = w) : (leavesMsg nodes vals).elts.length ≤ w * nodes.length := by
  apply SizeV.flatMap_length_le
  intro a _
  split
  · next k _ =>
    simp only [Array.getD_eq_getD_getElem?]
    cases hk : vals[k]? with
    | none => simp
    | some v =>
      have : v ∈ vals.toList := by
        have := Array.mem_of_getElem? hk
        simpa using this
      simp [hw v this]
  · simp

theorem NF_of_nil (a : Array32Msg) (h : a.unrecognized = []) : a.NF := by
  unfold Array32Msg.NF
  rw [h, unknownOnly]

/-- every turn of the loop makes one node and uses one unit of fuel -/
theorem buildOld_size_le (keys : List Bytes) (ls : Bool) (nodes : Array OldNode)
    (h : buildOld keys ls = .ok nodes) : nodes.size ≤ 2 * keys.length + 1 := by
  rcases buildOld_induct (fun i _ nodes => nodes.size = i)
    (fun _ _ _ _ hs => (Array.size_push _).trans (congrArg (· + 1) hs))
    (fun _ => rfl) h with ⟨_, rfl⟩ | ⟨j, _, hj, _, hs⟩
  · exact Nat.zero_le _
  · exact hs ▸ hj

theorem sections3_secOK (vr : Variant) (keys vals : List Bytes) (ch st lv : Array32Msg)
    (hsec : sections3 vr keys vals = .ok (ch, st, lv))
    (hcount : 32 * keys.length + 143 < 2 ^ 31) :
    ∃ n, n ≤ 2 * keys.length + 1 ∧
      SecOK ch (4 * n) ∧ SecOK st (2 * n) ∧ SecOK lv lv.elts.length ∧
      ∀ w, (∀ v ∈ vals, v.length = w) → lv.elts.length ≤ w * n := by
  unfold sections3 at hsec
  cases hb : buildOld keys vr.leafSteps with
  | error e => rw [hb] at hsec; cases hsec
  | ok nodes =>
    rw [hb] at hsec
    have hle : nodes.toList.length ≤ 2 * keys.length + 1 := buildOld_size_le keys vr.leafSteps nodes hb
    have hsz : 16 * nodes.toList.length + 127 < 2 ^ 31 := by omega
    simp only [bind, Except.bind, pure, Except.pure, Except.ok.injEq, Prod.mk.injEq] at hsec
    obtain ⟨rfl, rfl, rfl⟩ := hsec
    have hmw : (if vr.extendedIdx = true then (nodes.toList.length + 63) / 64 else 0) * 64
        ≤ nodes.toList.length + 63 := by
      split
      · exact Nat.div_mul_le_self _ 64
      · rw [Nat.zero_mul]; exact Nat.zero_le _
    exact ⟨_, hle,
      childrenMsg_secOK vr _ _ (buildOld_bm_lt keys vr.leafSteps nodes hb) (by omega) hsz,
      stepsMsg_secOK _ _ (by omega), leavesMsg_secOK _ _ (by omega),
      fun w hw => leavesMsg_elts_le _ _ w (by simpa using hw)⟩

theorem sections3_WF (vr : Variant) (keys vals : List Bytes) (ch st lv : Array32Msg)
    (hsec : sections3 vr keys vals = .ok (ch, st, lv))
    (hcount : 32 * keys.length + 143 < 2 ^ 31) :
    ch.WF ∧ st.WF ∧ lv.WF ∧ ch.NF ∧ st.NF ∧ lv.NF := by
  obtain ⟨n, _, c, s, l, _⟩ := sections3_secOK vr keys vals ch st lv hsec hcount
  exact ⟨c.wf, s.wf, l.wf, NF_of_nil _ c.unk, NF_of_nil _ s.unk, NF_of_nil _ l.unk⟩

theorem parseVariant_header (v : String) (vr : Variant) (h : parseVariant v = some vr) :
    vr.header = "1.0.0" ∨ vr.header = "0.5.8" ∨ vr.header = "0.5.9" := by
  unfold parseVariant at h
  split at h
  all_goals first
    | (cases h; decide)
    | cases h

theorem writeLegacy3_inv (variant : String) (keys vals : List Bytes) (stream : Bytes)
    (h : writeLegacy3 variant keys vals = .ok stream) :
    ∃ vr ch st lv, parseVariant variant = some vr ∧ sections3 vr keys vals = .ok (ch, st, lv) ∧
      stream = frame vr.header (encodeArray32 ch) ++ (frame vr.header (encodeArray32 st) ++
        frame vr.header (encodeArray32 lv)) := by
  unfold writeLegacy3 at h
  cases hp : parseVariant variant with
  | none => rw [hp] at h; cases h
  | some vr =>
    rw [hp] at h
    simp only at h
    cases hs : sections3 vr keys vals with
    | error e => rw [hs] at h; cases h
    | ok r =>
      obtain ⟨ch, st, lv⟩ := r
      rw [hs] at h
      simp only [bind, Except.bind, pure, Except.pure, Except.ok.injEq] at h
      exact ⟨vr, ch, st, lv, rfl, hs, h.symm⟩

theorem dispatch_legacy3 (vr : Variant) (keys vals : List Bytes) (ch st lv : Array32Msg)
    (hh : vr.header = "1.0.0" ∨ vr.header = "0.5.8" ∨ vr.header = "0.5.9")
    (hsec : sections3 vr keys vals = .ok (ch, st, lv))
    (hcount : 32 * keys.length + 143 < 2 ^ 31)
    (hbc : BodyOK (encodeArray32 ch)) (hbs : BodyOK (encodeArray32 st)) (hbl : BodyOK (encodeArray32 lv)) :
    unmarshalDispatch (frame vr.header (encodeArray32 ch) ++ (frame vr.header (encodeArray32 st) ++
        frame vr.header (encodeArray32 lv))) = .ok (.legacy3 vr.header ch st lv) := by
  obtain ⟨w1, w2, w3, n1, n2, n3⟩ := sections3_WF vr keys vals ch st lv hsec hcount
  exact unmarshal_frames_legacy3 vr.header hh ch st lv w1 w2 w3 n1 n2 n3 hbc hbs hbl

end LegacyWrite
