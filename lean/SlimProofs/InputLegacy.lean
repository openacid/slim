import SlimProofs.InputCore
import SlimProofs.Legacy0510Wire
import SlimProofs.UpgradeMsg
/-
  SlimProofs.InputLegacy — the body of a 0.5.10 / 0.5.11 stream (`LegacyWrite.to0510`) of a
  well-shaped trie whose counters fit an int32 (`InputCore.SmallCore`) is far below the allocator
  limit (`bodyOK_to0510`): the hypothesis `BodyOK (to0510 (Slim.encodeCreator t))` of the C06
  headline follows from the counters.  The old layout zeroes two scalars, divides the select entries
  by 64, keeps the byte lengths and strips the leaf array to its bytes: no field grows
  (`protoSizeSlim_rest0510_le`), so the body is at most today's message plus the five scalars in front.
-/

open Bits Slim Wire InputWire InputCore LegacyWrite
open SizeV (sizeMsgF_mono sizeMsgF_map_mono sizePackedF_map_le sizeBytesF_congr sizeVarintF_zero)

namespace InputLegacy

theorem oldInnerPrefixes_bytes_length (t : Trie1) :
    (oldInnerPrefixes (Refine.eIps t)).bytes.length = (Refine.eIps t).bytes.length := by
  cases hin : t.opt.inner with
  | false =>
    unfold LegacyWrite.oldInnerPrefixes; rw [Refine.eIps_positionBM_step hin]
  | true =>
    have h := Legacy.encodeCreator_isBuilt t hin
    have hc := fun ns => Legacy.converts_bitstrOf ns
    rw [Legacy.oldInnerPrefixes_packed _ _ h.1 h.2 (List.forall_mem_map.mpr fun ns _ => hc ns), h.1]
    simp only [List.length_flatten, List.map_map]
    exact congrArg List.sum (List.map_congr_left fun ns _ => (hc ns).2.1.symm)

/-- the five scalars in front of a 0.5.10 body take at most 12 bytes each -/
theorem to0510_length_le (cur : SlimMsg) (hB : cur.bigInnerCnt < 2 ^ 31) (hss : cur.shortSize ≤ 64)
    (hne : (cur.nodeTypeBM.isNone && cur.inners.isNone && cur.leaves.isNone) = false) :
    (to0510 cur).length ≤ 60 + protoSizeSlim (rest0510 cur) := by
  obtain ⟨h12, h13, h15⟩ := retired_lt cur hB hss
  rw [to0510_eq cur hne]
  simp only [List.length_append, encVarintF_length, ← protoSizeSlim_eq]
  have := sizeVarintF_le 11 cur.bigInnerCnt (by omega) (by omega)
  have := sizeVarintF_le 12 _ (by omega) h12
  have := sizeVarintF_le 13 _ (by omega) h13
  have := sizeVarintF_le 14 cur.shortSize (by omega) (by omega)
  have := sizeVarintF_le 15 _ (by omega) h15
  omega

theorem protoSizeBitmap_wordIndexSelect (b : BitmapMsg) :
    protoSizeBitmap (wordIndexSelect b) ≤ protoSizeBitmap b :=
  Nat.add_le_add_left (Nat.add_le_add_left
    (sizePackedF_map_le 40 b.selectIndex (· / 64) fun x => Nat.div_le_self x 64) _) _

theorem protoSizeVLenArray_oldLeafPrefixes (v : VLenArrayMsg) :
    protoSizeVLenArray (oldLeafPrefixes v) ≤ protoSizeVLenArray v := by
  have := sizeMsgF_map_mono 20 v.positionBM wordIndexSelect protoSizeBitmap protoSizeBitmap
    fun b _ => protoSizeBitmap_wordIndexSelect b
  unfold protoSizeVLenArray oldLeafPrefixes
  simp only
  omega

theorem protoSizeVLenArray_oldInnerPrefixes (v : VLenArrayMsg)
    (hb : (oldInnerPrefixes v).bytes.length = v.bytes.length) :
    protoSizeVLenArray (oldInnerPrefixes v) ≤ protoSizeVLenArray v := by
  have hB := sizeBytesF_congr 30 _ _ hb
  unfold oldInnerPrefixes at hB ⊢
  cases hp : v.positionBM with
  | none => exact Nat.le_refl _
  | some pbm =>
    rw [hp] at hB
    have := sizeMsgF_mono 20 (protoSizeBitmap_wordIndexSelect pbm)
    unfold protoSizeVLenArray
    simp only [hp, Option.map_some] at hB ⊢
    omega

theorem protoSizeVLenArray_bare (v : VLenArrayMsg) :
    protoSizeVLenArray ({ bytes := v.bytes } : VLenArrayMsg) ≤ protoSizeVLenArray v := by
  unfold protoSizeVLenArray
  simp only [sizeVarintF_zero, Option.map_none, sizeMsgF]
  omega

theorem protoSizeSlim_rest0510_le (cur : SlimMsg)
    (hb : ∀ v, cur.innerPrefixes = some v → (oldInnerPrefixes v).bytes.length = v.bytes.length) :
    protoSizeSlim (rest0510 cur) ≤ protoSizeSlim cur := by
  have h7 := sizeMsgF_map_mono 38 cur.innerPrefixes oldInnerPrefixes protoSizeVLenArray
    protoSizeVLenArray fun v hv => protoSizeVLenArray_oldInnerPrefixes v (hb v hv)
  have h8 := sizeMsgF_map_mono 58 cur.leafPrefixes oldLeafPrefixes protoSizeVLenArray
    protoSizeVLenArray fun v _ => protoSizeVLenArray_oldLeafPrefixes v
  have h9 := sizeMsgF_map_mono 60 cur.leaves (fun lv => ({ bytes := lv.bytes } : VLenArrayMsg))
    protoSizeVLenArray protoSizeVLenArray fun v _ => protoSizeVLenArray_bare v
  unfold protoSizeSlim rest0510
  simp only [sizeVarintF_zero]
  omega

theorem bodyOK_to0510 {t : Trie1} (hs : ShapeOK t) (hsm : SmallCore t) :
    Frame.BodyOK (to0510 (encodeCreator t)) := by
  have hlen := to0510_length_le (encodeCreator t)
    (by rw [Refine.enc_bigInnerCnt]; exact hsm.bigCnt)
    (by rw [Refine.enc_shortSize]; exact Nat.le_trans (Refine.eShortSize_le t) (by decide))
    (encodeCreator_inners_isSome t)
  have hrest := protoSizeSlim_rest0510_le (encodeCreator t)
    (Refine.of_eq_some (Refine.enc_innerPrefixes t) (oldInnerPrefixes_bytes_length t))
  have := protoSizeSlim_encodeCreator_le hs hsm
  unfold Frame.BodyOK Frame.maxAlloc
  omega

/-- so the C06 headline needs no separate hypothesis about the mode, the version or `build` -/
theorem write0510_inv (mode ver : String) (keys vals : List Bytes) (stream : Bytes)
    (hwr : write0510 mode ver keys vals = .ok stream) (hk : keys ≠ []) :
    ∃ opt t, optOfMode mode = some opt ∧ (ver = "0.5.10" ∨ ver = "0.5.11") ∧
      build keys (some vals) opt = .ok t := by
  unfold write0510 at hwr
  cases hm : optOfMode mode with
  | none => simp [hm] at hwr
  | some opt =>
    simp only [hm] at hwr
    by_cases hv : (ver != "0.5.10" && ver != "0.5.11") = true
    · rw [if_pos hv] at hwr
      cases hwr
    · rw [if_neg hv] at hwr
      have hke : keys.isEmpty = false := by cases keys <;> simp_all
      rw [hke] at hwr
      have hver : ver = "0.5.10" ∨ ver = "0.5.11" := by
        simp only [Bool.and_eq_true, bne_iff_ne, ne_eq, not_and, Decidable.not_not] at hv
        by_cases h1 : ver = "0.5.10"
        · exact Or.inl h1
        · exact Or.inr (hv h1)
      cases hb : build keys (some vals) opt with
      | error e => rw [hb] at hwr; cases hwr
      | ok t => exact ⟨opt, t, rfl, hver, hb⟩

end InputLegacy
