import SlimProofs.SizePrefix
import SlimProofs.SizeVarint
import SlimProofs.Refine
import SlimProofs.Refine.EncCongr
import SlimProofs.VLen
import SlimProofs.WireSlim
import SlimProofs.WireFrame
import SlimModel.Marshal
/-
  SlimProofs.SizePrefixEnc — C17, size half of the prefix statement: two record arrays that
  differ only in the root's step encode to messages that differ only in `InnerPrefixes`
  (`Refine.encodeCreator_congr`), and the serialized sizes differ by at most
  `26 + (eInners t).length / 128` (`marshal_size_prefix`);
  the quotient counts the entries of the rank index of the prefix presence bitmap, one per 128
  inner nodes.

  The pair of tries is `Lengthened t t' ws d`; what a change does to a size is a `SizeV.Grow`.

  The dependence on the number of inner nodes is real (finding K1): when the root gets its first
  step every later rank entry grows by one, and every entry that was 127 (16383, …) needs one more
  varint byte.
-/

namespace SizePrefixEnc

open Bits Slim Refine Wire SizeV

theorem lt_capa_cons_zero {idx : List Nat} {capa : Nat} (hlt : ∀ i ∈ idx, i < capa) (hc : 0 < capa) :
    ∀ i ∈ 0 :: idx, i < capa := by
  intro i hi
  rcases List.mem_cons.mp hi with rfl | hi
  · exact hc
  · exact hlt i hi

theorem foldl_setBit_modify (idxs : List Nat) (a : Array Nat) (k m : Nat) :
    idxs.foldl setBitStep (a.modify k (· ||| m)) = (idxs.foldl setBitStep a).modify k (· ||| m) := by
  induction idxs generalizing a with
  | nil => rfl
  | cons i idxs ih =>
    rw [List.foldl_cons, List.foldl_cons, ← ih]
    congr 1
    apply Array.ext_getElem?
    intro n
    simp only [setBitStep, Array.getElem?_modify]
    by_cases h1 : i / 64 = n <;> by_cases h2 : k = n <;> simp only [h1, h2, if_true, if_false]
    cases a[n]? <;> simp [Nat.or_assoc, Nat.or_comm m]

theorem or_one_of_even {w : Nat} (h : w % 2 = 0) : w ||| 1 = w + 1 := by
  have e : w = (w / 2) <<< 1 := by rw [Nat.shiftLeft_eq]; omega
  rw [e]
  exact (Nat.shiftLeft_add_eq_or_of_lt (by decide) _).symm

theorem ofIdx_cons_zero (idx : List Nat) (capa : Nat) (h0 : 0 ∉ idx) (hlt : ∀ i ∈ idx, i < capa)
    (hc : 0 < capa) :
    ∃ w ws, ofIdx idx capa = w :: ws ∧ ofIdx (0 :: idx) capa = (w + 1) :: ws := by
  have hlen := ofIdx_length_capa idx capa hlt
  -- index 0 is handled first: it sets bit 0 of word 0, which the rest of the loop leaves alone
  have e : ofIdx (0 :: idx) capa = (ofIdx idx capa).modify 0 (· ||| 1) := by
    rw [ofIdx_eq, ofIdx_eq, Nat.max_eq_left (lastSucc_le_of_lt hlt),
      Nat.max_eq_left (lastSucc_le_of_lt (lt_capa_cons_zero hlt hc)), List.foldl_cons,
      ← Array.toList_modify, ← foldl_setBit_modify]
    rfl
  cases hL : ofIdx idx capa with
  | nil => rw [hL] at hlen; simp at hlen; omega
  | cons w ws =>
    have hw0 : w.testBit 0 = false := by
      have := getBit_ofIdx idx capa 0 (by rw [hL]; exact Nat.mul_pos (by decide) (Nat.succ_pos _))
      rw [hL, getBit_cons, if_pos (by decide)] at this
      rw [this]; simp [h0]
    rw [Nat.testBit_zero] at hw0
    refine ⟨w, ws, rfl, ?_⟩
    rw [e, hL, List.modify_zero_cons, or_one_of_even (by simpa using hw0)]

theorem near_of_map {l l' : List Nat} (f : Nat → Nat → Nat) (hf : ∀ k x, x ≤ f k x ∧ f k x ≤ x + 1)
    (h : ∀ k, l'[k]? = l[k]?.map (f k)) : Near l l' := by
  induction l generalizing l' f with
  | nil => cases l' with
    | nil => trivial
    | cons _ _ => cases h 0
  | cons x l ih => cases l' with
    | nil => cases h 0
    | cons x' l' =>
      cases Option.some.inj (h 0)
      exact ⟨(hf 0 x).1, (hf 0 x).2, ih (fun k => f (k + 1)) (fun k => hf (k + 1)) fun k => h (k + 1)⟩

theorem cnt_ofIdx_cons_zero (idx : List Nat) (capa : Nat) (h0 : 0 ∉ idx)
    (hlt : ∀ i ∈ idx, i < capa) (hc : 0 < capa) (n : Nat) (hn : 0 < n) :
    cnt (getBit (ofIdx (0 :: idx) capa)) n = cnt (getBit (ofIdx idx capa)) n + 1 := by
  obtain ⟨m, rfl⟩ := Nat.exists_eq_add_of_le hn
  rw [getBit_ofIdx_capa idx capa hlt, getBit_ofIdx_capa _ capa (lt_capa_cons_zero hlt hc), cnt_add,
    cnt_add, show (1 : Nat) = 0 + 1 from rfl, cnt_succ, cnt_succ, cnt_zero]
  have e : cnt (fun j => decide (0 + 1 + j ∈ 0 :: idx)) m = cnt (fun j => decide (0 + 1 + j ∈ idx)) m :=
    cnt_congr fun j _ => by simp
  rw [e]
  simp [h0]
  omega

/-- finding K1 at the level of the index: with index 0 in front, every entry of the `"r128"` rank
    index after the first is one larger -/
theorem _root_.SizePrefixExact.indexRank128_cons_zero (idx : List Nat) (capa : Nat) (h0 : 0 ∉ idx)
    (hlt : ∀ i ∈ idx, i < capa) (hc : 0 < capa) (k : Nat) :
    (indexRank128 (ofIdx (0 :: idx) capa))[k]?
      = (indexRank128 (ofIdx idx capa))[k]?.map (fun x => if k = 0 then x else x + 1) := by
  have hlt' := lt_capa_cons_zero hlt hc
  rw [indexRank128_getElem?, indexRank128_getElem?, ofIdx_length_capa idx capa hlt,
    ofIdx_length_capa (0 :: idx) capa hlt']
  split
  · simp only [Option.map_some]
    congr 1
    by_cases hk : k = 0
    · subst hk; simp
    · rw [if_neg hk]
      exact cnt_ofIdx_cons_zero idx capa h0 hlt hc _ (by omega)
  · rfl

/-- `R` is the length of the rank index, one entry per 128 bits of capacity and one more -/
theorem protoSizeBitmap_cons_zero (idx : List Nat) (capa : Nat) (h0 : 0 ∉ idx)
    (hlt : ∀ i ∈ idx, i < capa) (hc : 0 < capa) :
    let R := (capa + 63) / 64 / 2 + 1
    Grow (2 + R + sizeVarint R) (protoSizeBitmap (newBM idx capa "r128"))
      (protoSizeBitmap (newBM (0 :: idx) capa "r128")) := by
  intro R
  obtain ⟨w, ws, hL, hL'⟩ := ofIdx_cons_zero idx capa h0 hlt hc
  have hnear : Near (indexRank128 (ofIdx idx capa)) (indexRank128 (ofIdx (0 :: idx) capa)) :=
    near_of_map _ (fun k x => by split <;> omega)
      (SizePrefixExact.indexRank128_cons_zero idx capa h0 hlt hc)
  have hwd : Grow 1 (packedSize (ofIdx idx capa)) (packedSize (ofIdx (0 :: idx) capa)) := by
    rw [hL, hL', packedSize_cons, packedSize_cons]
    exact Grow.add ⟨sizeVarint_mono (Nat.le_succ w), sizeVarint_succ_le w⟩ (Grow.refl _)
  have g1 := hwd.packedF 20 (by rw [hL, hL']; simp)
  have g2 := hnear.packedSize.packedF 30 hnear.eq_nil_iff
  rw [indexRank128_length, ofIdx_length_capa idx capa hlt, show (capa + 63) / 64 / 2 + 1 = R from rfl] at g2
  have s1 : sizeVarint 1 = 1 := sizeVarint_lt (by omega)
  simp only [newBM, mk_r128, protoSizeBitmap]
  exact (g1.add (g2.add (Grow.refl _))).mono (by rw [s1]; omega)

variable {t t' : Trie1} {a : InnerRec} {rest : List InnerRec}

theorem size_ne_zero (h : eInners t = a :: rest) : t.nodes.size ≠ 0 := by
  intro h0
  rw [eInners_eq, Array.eq_empty_of_size_eq_zero h0] at h
  cases h

/-- `len(Marshal())` of a non-empty trie: the 32-byte header and the `Slim` message -/
theorem marshal_encode_length (t : Trie1) (h : t.nodes.size ≠ 0) :
    (marshalSlim (encode t)).length = 32 + protoSizeSlim (encodeCreator t) := by
  rw [encode_eq t h, marshalSlim, Frame.frame_length, protoSizeSlim_eq]

theorem eInners_cons {ns : List Node} (hn : t.nodes.toList = .inner a :: ns) :
    eInners t = a :: ns.filterMap innerOf := by
  rw [eInners_eq, hn]; rfl

theorem enc_unrecognized (t : Trie1) : (encodeCreator t).unrecognized = [] :=
  encodeCreator_unrecognized t

/-- as far as the encoder reads them, `t'` is `t` with the step of its inner root lengthened from
    `ws` to `ws + d` half-bytes, in filter mode: what `C17_prefix_same_shape` says of the tries of
    `K` and of `P ++ K` -/
structure Lengthened (t t' : Trie1) (ws d : Nat) : Prop where
  core : SameCore t t'
  inner : t.opt.inner = false
  root : ∃ a a' rest, eInners t = a :: rest ∧ eInners t' = a' :: rest ∧
    a.pref = SizePrefix.stepPref ws ∧ a'.pref = SizePrefix.stepPref (ws + d)

variable {ws d : Nat}

theorem Lengthened.inner' (h : Lengthened t t' ws d) : t'.opt.inner = false := by
  rw [h.core.opt]; exact h.inner

/-- the two serializations have the same size except for `InnerPrefixes` -/
theorem marshal_diff (h : Lengthened t t' ws d) :
    (marshalSlim (encode t')).length + sizeMsgF 38 (some (protoSizeVLenArray (eIps t)))
      = (marshalSlim (encode t)).length + sizeMsgF 38 (some (protoSizeVLenArray (eIps t'))) := by
  obtain ⟨a, a', rest, hin, hin', _⟩ := h.root
  rw [marshal_encode_length t (size_ne_zero hin), marshal_encode_length t' (size_ne_zero hin'),
    encodeCreator_congr h.core]
  unfold protoSizeSlim
  simp only [enc_innerPrefixes, Option.map_some]
  omega

theorem protoSizeVLenArray_filter (t : Trie1) (h : t.opt.inner = false) :
    protoSizeVLenArray (eIps t)
      = sizeVarintF 11 (ePrefIdx t).length + sizeVarintF 23 2
        + sizeBytesF 30 ((eInners t).filterMap stepOf).flatten
        + sizeMsgF 61 (some (protoSizeBitmap (newBM (ePrefIdx t) (eInners t).length "r128"))) := by
  rw [eIps_filter t h]
  simp only [protoSizeVLenArray, Option.map_none, Option.map_some, sizeMsgF, sizeVarintF, if_true]
  omega

theorem filter_range_gain {n : Nat} {q q' : Nat → Bool} (hn : 0 < n) (h0 : q 0 = false)
    (h0' : q' 0 = true) (h : ∀ i, q' (i + 1) = q (i + 1)) :
    (List.range n).filter q' = 0 :: (List.range n).filter q ∧ 0 ∉ (List.range n).filter q := by
  obtain ⟨m, rfl⟩ := Nat.exists_eq_succ_of_ne_zero (Nat.ne_of_gt hn)
  refine ⟨?_, fun hm => by rw [(List.mem_filter.mp hm).2] at h0; cases h0⟩
  rw [List.range_succ_eq_map, List.filter_cons, List.filter_cons, if_pos h0', if_neg (by rw [h0]; decide),
    List.filter_map, List.filter_map, show q' ∘ Nat.succ = q ∘ Nat.succ from funext h]

theorem stepOf_stepPref (r : InnerRec) (ws : Nat) (h : r.pref = SizePrefix.stepPref ws) :
    stepOf r = if ws = 0 then none else some (encStep ws) := by
  unfold stepOf SizePrefix.stepPref at *
  split at h
  · next h0 => rw [h, if_pos h0]
  · next h0 => rw [h, if_neg h0]

theorem hasPref_stepPref (r : InnerRec) (ws : Nat) (h : r.pref = SizePrefix.stepPref ws) :
    hasPref r = decide (ws ≠ 0) := by
  unfold hasPref SizePrefix.stepPref at *
  split at h
  · next h0 => rw [h]; simp [h0]
  · next h0 => rw [h]; simp [h0]

/-- when the root gets its first step the presence bitmap gets index 0 in front -/
theorem ePrefIdx_gain (h : Lengthened t t' 0 d) (hd : d ≠ 0) :
    (ePrefIdx t' = 0 :: ePrefIdx t ∧ 0 ∉ ePrefIdx t) ∧ 0 < (eInners t).length ∧
      (eInners t').length = (eInners t).length := by
  obtain ⟨a, a', rest, hin, hin', hp, hp'⟩ := h.root
  have hlen := h.core.length
  have hpos : 0 < (eInners t).length := by rw [hin]; exact Nat.succ_pos _
  refine ⟨?_, hpos, hlen⟩
  unfold ePrefIdx
  rw [hlen]
  refine filter_range_gain hpos ?_ ?_ fun i => ?_
  · rw [hin]; exact (hasPref_stepPref a 0 hp).trans (by simp)
  · rw [hin']; exact (hasPref_stepPref a' (0 + d) hp').trans (by simp [hd])
  · rw [hin, hin']; rfl

/-- `InnerPrefixes` has the same size when the root keeps its step, or keeps lacking one: only
    the two step bytes change -/
theorem vlen_size_same (h : Lengthened t t' ws d) (hsame : ws = 0 → d = 0) :
    protoSizeVLenArray (eIps t') = protoSizeVLenArray (eIps t) := by
  obtain ⟨a, a', rest, hin, hin', hp, hp'⟩ := h.root
  have hlen := h.core.length
  rw [protoSizeVLenArray_filter t h.inner, protoSizeVLenArray_filter t' h.inner']
  have e1 : ePrefIdx t' = ePrefIdx t := by
    unfold ePrefIdx
    rw [hlen]
    refine List.filter_congr fun i _ => ?_
    rw [hin, hin']
    cases i with
    | succ i => rfl
    | zero =>
      refine (hasPref_stepPref a' (ws + d) hp').trans (Eq.trans ?_ (hasPref_stepPref a ws hp).symm)
      by_cases h0 : ws = 0
      · rw [h0, hsame h0]
      · simp [h0]
  have e2 : ((eInners t').filterMap stepOf).flatten.length
      = ((eInners t).filterMap stepOf).flatten.length := by
    rw [hin, hin', List.filterMap_cons, List.filterMap_cons,
      stepOf_stepPref a ws hp, stepOf_stepPref a' (ws + d) hp']
    by_cases h0 : ws = 0
    · rw [h0, hsame h0]
    · simp [h0, encStep]
  rw [e1, hlen, sizeBytesF_congr 30 _ _ e2]

theorem vlen_size_prefix (h : Lengthened t t' ws d) (hI : (eInners t).length < 2 ^ 32) :
    Grow (20 + ((eInners t).length + 63) / 64 / 2) (protoSizeVLenArray (eIps t))
      (protoSizeVLenArray (eIps t')) := by
  by_cases hsame : ws = 0 → d = 0
  · rw [vlen_size_same h hsame]
    exact (Grow.refl _).mono (Nat.zero_le _)
  · -- the root gets its first step
    rw [protoSizeVLenArray_filter t h.inner, protoSizeVLenArray_filter t' h.inner']
    have h0 : ws = 0 := Classical.byContradiction fun h => hsame fun h' => absurd h' h
    have hd : ¬ d = 0 := fun h => hsame fun _ => h
    subst h0
    obtain ⟨⟨e1, s0⟩, hpos, hlen⟩ := ePrefIdx_gain h hd
    obtain ⟨a, a', rest, hin, hin', hp, hp'⟩ := h.root
    have e2 : ((eInners t').filterMap stepOf).flatten.length
        = ((eInners t).filterMap stepOf).flatten.length + 2 := by
      rw [hin, hin', List.filterMap_cons, List.filterMap_cons,
        stepOf_stepPref a 0 hp, stepOf_stepPref a' (0 + d) hp']
      simp [hd, encStep]
    have hbm := protoSizeBitmap_cons_zero (ePrefIdx t) (eInners t).length s0
      (filter_range_lt _ _) hpos
    simp only at hbm
    rw [e1, hlen, List.length_cons]
    have svR : sizeVarint (((eInners t).length + 63) / 64 / 2 + 1) ≤ 5 := sizeVarint_le5 (by omega)
    have svk : sizeVarint (2 + (((eInners t).length + 63) / 64 / 2 + 1)
        + sizeVarint (((eInners t).length + 63) / 64 / 2 + 1)) ≤ 5 := sizeVarint_le5 (by omega)
    exact ((((sizeVarintF_succ 11 (ePrefIdx t).length (by omega)).add (Grow.refl _)).add
      (sizeBytesF_add_two 30 _ _ e2 (by omega))).add (hbm.msgF 61)).mono (by omega)

theorem marshal_size_prefix (h : Lengthened t t' ws d) (hI : (eInners t).length < 2 ^ 32) :
    (marshalSlim (encode t)).length ≤ (marshalSlim (encode t')).length ∧
      (marshalSlim (encode t')).length
        ≤ (marshalSlim (encode t)).length + 26 + (eInners t).length / 128 := by
  have hdiff := marshal_diff h
  have hv := (vlen_size_prefix h hI).msgF 38
  have svk : sizeVarint (20 + ((eInners t).length + 63) / 64 / 2) ≤ 5 := sizeVarint_le5 (by omega)
  unfold Grow at hv
  omega

end SizePrefixEnc
