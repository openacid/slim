import SlimProofs.SearchDescent
/-
  `searchID` on a key that was de-duplicated away (`keptAt keep d = false`), in every option
  combination.

  The `Cut` of `d` (`SearchDescent.searchID_post`) cannot hold a key — that key would be a kept key
  equal to `d` — so it is empty; since the keys ascend, the kept keys before it are the kept keys
  before `d` (`leftRes_shift`, `rightResAt_shift`).
-/

namespace RangeDropped
open Subtree SearchDescent

theorem getD_lt_iff {keys : List Bytes} (hasc : strictAsc keys = true) {a b : Nat}
    (ha : a < keys.length) (hb : b < keys.length) :
    bytesLt (keys.getD a []) (keys.getD b []) = true ↔ a < b := by
  constructor
  · intro h
    rcases Nat.lt_trichotomy a b with hab | hab | hab
    · exact hab
    · rw [hab, bytesLt_irrefl] at h; cases h
    · have := bytesLt_trans h (strictAsc_lt hasc hab ha)
      rw [bytesLt_irrefl] at this; cases this
  · intro hab
    exact strictAsc_lt hasc hab hb

theorem leftRes_shift {keep : List Bool} {t : Trie1} {a d : Nat} {l : Option Nat}
    (hiff : ∀ x, keptAt keep x = true → (x < a ↔ x < d)) (h : LeftRes keep t a l) :
    LeftRes keep t d l := by
  have hgap : ∀ lo, (∀ x, lo ≤ x → x < a → keptAt keep x = false) →
      ∀ x, lo ≤ x → x < d → keptAt keep x = false := by
    intro lo h0 x h1 h2
    cases hk : keptAt keep x with
    | false => rfl
    | true => rw [← hk]; exact h0 x h1 ((hiff x hk).mpr h2)
  cases l with
  | none => exact fun x hx => hgap 0 (fun x _ => h x) x (Nat.zero_le _) hx
  | some id =>
    obtain ⟨ml, hleaf, h0, hlt, hkept, hnone⟩ := h
    exact ⟨ml, hleaf, h0, (hiff ml hkept).mp hlt, hkept, hgap (ml + 1) hnone⟩

theorem rightResAt_shift {keep : List Bool} {n : Nat} {t : Trie1} {a b : Nat} {r : Option Nat}
    (hiff : ∀ x, keptAt keep x = true → (a ≤ x ↔ b ≤ x)) (h : RightResAt keep n t a r) :
    RightResAt keep n t b r := by
  have hgap : ∀ hi, (∀ x, a ≤ x → x < hi → keptAt keep x = false) →
      ∀ x, b ≤ x → x < hi → keptAt keep x = false := by
    intro hi h0 x h1 h2
    cases hk : keptAt keep x with
    | false => rfl
    | true => rw [← hk]; exact h0 x ((hiff x hk).mpr h1) h2
  cases r with
  | none => exact hgap n h
  | some id =>
    obtain ⟨mr, hleaf, hge, hlt, hkept, hnone⟩ := h
    exact ⟨mr, hleaf, (hiff mr hkept).mp hge, hlt, hkept, hgap mr hnone⟩

end RangeDropped

open RangeDropped SearchDescent Subtree in
/-- **Search descent on a dropped key.**  In a well-formed trie over strictly ascending keys,
    `searchID` on a key `d` that is not kept finds no exact match and returns on the left the leaf
    of the greatest kept key below `d`, on the right the leaf of the smallest kept key above `d`
    (`none` iff there is none) — in every mode. -/
theorem searchID_dropped (keys : List Bytes) (keep : List Bool) (t : Trie1)
    (hasc : strictAsc keys = true) (hwf : WF keys keep t)
    (d : Nat) (hd : d < keys.length) (hk : keptAt keep d = false) :
    ∃ l r, searchID t.view (keys.getD d []) = .ok (l, none, r) ∧
      LeftRes keep t d l ∧ RightRes keep keys.length t d r := by
  obtain ⟨queue, hq, hroot⟩ := (wf_iff keys keep t).mp hwf
  obtain ⟨a, b, l, e, r, hs, _, hlres, hrres, he, hcut⟩ := searchID_post hq hroot hasc (keys.getD d [])
  have c := hcut (Or.inr ⟨d, hd, rfl⟩)
  rcases c.mid with hba | ⟨hba, hka, hkq⟩
  · subst hba
    cases e with
    | some id => exact absurd he.1 (Nat.succ_ne_self b).symm
    | none =>
      -- the kept keys before the cut are the kept keys before `d`
      have hlt : ∀ x, keptAt keep x = true → (x < b ↔ x < d) := by
        intro x hx
        constructor
        · intro hxa
          exact (getD_lt_iff hasc (Nat.lt_of_lt_of_le hxa c.le) hd).mp (c.below x hxa hx)
        · intro hxd
          apply Nat.lt_of_not_le
          intro hax
          have hxn : x < keys.length := Nat.lt_trans hxd hd
          exact Nat.lt_asymm hxd ((getD_lt_iff hasc hd hxn).mp (c.above x hax hxn hx))
      have hge : ∀ x, keptAt keep x = true → (b ≤ x ↔ d + 1 ≤ x) := by
        intro x hx
        have hne : x ≠ d := fun he => by rw [he, hk] at hx; cases hx
        have := hlt x hx
        omega
      exact ⟨l, r, hs, leftRes_shift hlt hlres, (rightResAt_shift hge hrres).succ⟩
  · -- the one key of the cut would be `d` itself, which is not kept
    have han : a < keys.length := Nat.lt_of_succ_le (hba ▸ c.le : a + 1 ≤ keys.length)
    rw [strictAsc_inj hasc han hd hkq, hk] at hka
    cases hka

#print axioms searchID_dropped
