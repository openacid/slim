import SlimProofs.Order
import SlimProofs.Subtree
/-
  SlimProofs.Runs — facts about the pieces of `buildStep`:
  `scanWhile`, `childRuns`, `dedupAdj`, `minLcp`, `labelAt`, and the rounding of the branching
  position (`keptLabels` is a `dedupAdj` over the kept indexes: `BuildInv.keptLabels_keptIn`).

  The build invariant uses `childRuns_spec` (every run found is `RunOK`: the non-empty interval
  from the cut at its label to the cut behind it, hence exactly the keys of that label:
  `scan_spec`, `run_ok`) and `common_prefix_of_le_lcp`.  Keys that agree before `ws` carry labels
  ordered like the keys up to the end of the label's word (`compare_labelAt`): the builder reads
  off that labels ascend with the keys (`labelAt_mono`), the descents that a smaller label means
  a smaller key (`lt_of_label_lt`) and that equal labels extend the agreed prefix behind the
  label (`take_label_eq`, `label_long`); they also use `storedPrefix_end`.  Sums over the runs of
  different labels are sums of indicators over the subset (`sum_interval_le`, `sum_by_label`):
  the runs hold at most its keys (`runs_size_le`, for the fuel of both builders), and
  `InputPrefix` bounds the stored key material the same way.
  `BuildInv.knOf_lt16` / `knOf_even` and `SizeShort.sum_map_le_sum_map` are declared here, in the
  namespace of their users.
-/

theorem scan_spec (p : Nat → Bool) {s e a : Nat} (hse : s ≤ e) (h : scanWhile p (e - s) s = a) :
    s ≤ a ∧ a ≤ e ∧ (∀ t, s ≤ t → t < a → p t = true) ∧ (a < e → p a = false) := by
  generalize hn : e - s = n at h
  induction n generalizing s with
  | zero =>
    cases h
    exact ⟨Nat.le_refl _, hse, fun t h1 h2 => absurd h2 (Nat.not_lt.mpr h1),
      fun h2 => absurd (Nat.sub_eq_zero_iff_le.mp hn) (Nat.not_le.mpr h2)⟩
  | succ n ih =>
    have hlt : s < e := Nat.lt_of_sub_eq_succ hn
    simp only [scanWhile] at h
    split at h
    · next hp =>
      obtain ⟨h1, h2, h3, h4⟩ := ih hlt (by omega) h
      refine ⟨Nat.le_of_succ_le h1, h2, fun t ht1 ht2 => ?_, h4⟩
      rcases Nat.eq_or_lt_of_le ht1 with rfl | ht1
      · exact hp
      · exact h3 t ht1 ht2
    · next hp =>
      cases h
      exact ⟨Nat.le_refl _, hse, fun t h1 h2 => absurd h2 (Nat.not_lt.mpr h1),
        fun _ => Bool.eq_false_iff.mpr hp⟩

theorem mem_dedupAdj {l : List Nat} {x : Nat} : x ∈ dedupAdj l ↔ x ∈ l := by
  fun_induction dedupAdj l with
  | case1 a rest ih =>
    rw [ih]; simp
  | case2 a b rest h ih =>
    simp only [List.mem_cons] at ih ⊢
    rw [ih]
  | case3 l h => rfl

theorem dedupAdj_pairwise_lt {l : List Nat} (h : l.Pairwise (· ≤ ·)) :
    (dedupAdj l).Pairwise (· < ·) := by
  fun_induction dedupAdj l with
  | case1 a rest ih =>
    exact ih (List.Pairwise.of_cons h)
  | case2 a b rest hab ih =>
    rw [List.pairwise_cons] at h ⊢
    refine ⟨?_, ih h.2⟩
    intro x hx
    rw [mem_dedupAdj] at hx
    have h1 : a ≤ b := h.1 b (by simp)
    have h2 : b ≤ x := by
      rcases List.mem_cons.mp hx with rfl | hx'
      · exact Nat.le_refl _
      · exact (List.pairwise_cons.mp h.2).1 x hx'
    omega
  | case3 l hl =>
    match l, hl with
    | [], _ => exact List.Pairwise.nil
    | [a], _ => exact List.pairwise_singleton _ _
    | a :: b :: rest, hl => exact absurd rfl (hl a b rest)

theorem childRuns_cons (lab : Nat → Nat) (e l : Nat) (ls : List Nat) (s : Nat) :
    childRuns lab e (l :: ls) s =
      (l, scanWhile (fun t => lab t != l) (e - s) s,
        scanWhile (fun t => lab t == l) (e - (scanWhile (fun t => lab t != l) (e - s) s + 1))
          (scanWhile (fun t => lab t != l) (e - s) s + 1)) ::
      childRuns lab e ls
        (scanWhile (fun t => lab t == l) (e - (scanWhile (fun t => lab t != l) (e - s) s + 1))
          (scanWhile (fun t => lab t != l) (e - s) s + 1)) := rfl

theorem childRuns_map_fst (lab : Nat → Nat) (e : Nat) (labels : List Nat) (s : Nat) :
    (childRuns lab e labels s).map (·.1) = labels := by
  induction labels generalizing s with
  | nil => rfl
  | cons l ls ih => rw [childRuns_cons, List.map_cons, ih]

theorem childRuns_length (lab : Nat → Nat) (e : Nat) (labels : List Nat) (s : Nat) :
    (childRuns lab e labels s).length = labels.length := by
  have := congrArg List.length (childRuns_map_fst lab e labels s)
  simpa using this

open Subtree (IsCut)

theorem run_ok {lab : Nat → Nat} {s s0 e l s' j : Nat} (hs0 : s ≤ s0)
    (hlow : ∀ t, s ≤ t → t < s0 → lab t < l)
    (hs' : scanWhile (fun t => lab t != l) (e - s0) s0 = s')
    (hj : scanWhile (fun t => lab t == l) (e - (s' + 1)) (s' + 1) = j)
    (hmono : ∀ a b, s ≤ a → a ≤ b → b < e → lab a ≤ lab b)
    (hcar : ∃ t, s ≤ t ∧ t < e ∧ lab t = l) : RunOK lab s e (l, s', j) := by
  obtain ⟨t0, ht0s, ht0e, ht0l⟩ := hcar
  have hs0t0 : s0 ≤ t0 := Nat.le_of_not_lt fun hlt => Nat.lt_irrefl _ (ht0l ▸ hlow t0 ht0s hlt)
  obtain ⟨hs0s', _, hbefore, hstop⟩ := scan_spec _ (Nat.le_of_lt (Nat.lt_of_le_of_lt hs0t0 ht0e)) hs'
  have hs's := Nat.le_trans hs0 hs0s'
  have hs'e : s' < e := Nat.lt_of_le_of_lt
    (Nat.le_of_not_lt fun hlt => by simpa [ht0l] using hbefore t0 hs0t0 hlt) ht0e
  have hlabs' : lab s' = l := by simpa using hstop hs'e
  obtain ⟨hjge, hjle, hin, hstop'⟩ := scan_spec _ hs'e hj
  -- labels below `l` before `s'`, `l` on `[s', j)`, above `l` from `j` on
  refine ⟨⟨hs's, Nat.le_of_lt hs'e, fun t h1 h2 => ?_, fun t h1 h2 => hlabs' ▸ hmono s' t hs's h1 h2⟩,
    ⟨Nat.le_trans hs's (Nat.le_of_succ_le hjge), hjle, fun t h1 h2 => ?_, fun t h1 h2 => ?_⟩, hjge⟩
  · rcases Nat.lt_or_ge t s0 with h3 | h3
    · exact hlow t h1 h3
    · exact Nat.lt_of_le_of_ne (hlabs' ▸ hmono t s' h1 (Nat.le_of_lt h2) hs'e)
        (by simpa using hbefore t h3 h2)
  · rcases Nat.lt_or_ge s' t with h3 | h3
    · exact Nat.lt_succ_of_le (Nat.le_of_eq (by simpa using hin t h3 h2))
    · exact Nat.lt_succ_of_le (hlabs' ▸ hmono t s' h1 h3 hs'e)
  · have hje : j < e := Nat.lt_of_le_of_lt h1 h2
    have hsj : s ≤ j := Nat.le_trans hs's (Nat.le_of_succ_le hjge)
    exact Nat.le_trans (Nat.succ_le_of_lt (Nat.lt_of_le_of_ne
      (hlabs' ▸ hmono s' j hs's (Nat.le_of_succ_le hjge) hje)
      (Ne.symm (by simpa using hstop' hje)))) (hmono j t hsj h1 h2)

theorem RunOK.below {lab : Nat → Nat} {s e : Nat} {x : Nat × Nat × Nat} (h : RunOK lab s e x) :
    ∀ t, s ≤ t → t < x.2.2 → lab t ≤ x.1 :=
  fun t h1 h2 => Nat.le_of_lt_succ (h.ce.2.2.1 t h1 h2)

theorem SizeShort.sum_map_le_sum_map {α : Type} (l : List α) (f g : α → Nat) (h : ∀ x ∈ l, f x ≤ g x) :
    (l.map f).sum ≤ (l.map g).sum := by
  induction l with
  | nil => simp
  | cons a l ih =>
    simp only [List.map_cons, List.sum_cons]
    have := h a (by simp)
    have := ih (fun x hx => h x (List.mem_cons_of_mem _ hx))
    omega

theorem sum_map_add {α : Type} (l : List α) (a b : α → Nat) :
    (l.map (fun x => a x + b x)).sum = (l.map a).sum + (l.map b).sum := by
  induction l with
  | nil => rfl
  | cons x l ih =>
    simp only [List.map_cons, List.sum_cons, ih]
    exact Nat.add_add_add_comm _ _ _ _

theorem sum_interval_le (g : Nat → Nat) {s a b e : Nat} (h1 : s ≤ a) (h3 : b ≤ e) :
    ((List.range' a (b - a)).map g).sum
      ≤ ((List.range' s (e - s)).map (fun t => if a ≤ t ∧ t < b then g t else 0)).sum := by
  by_cases h2 : a ≤ b
  · rw [LeafCount.range'_split (s := s) (m := a) (e := e) h1 (Nat.le_trans h2 h3),
      LeafCount.range'_split (s := a) (m := b) (e := e) h2 h3]
    simp only [List.map_append, List.sum_append]
    have hm : ((List.range' a (b - a)).map (fun t => if a ≤ t ∧ t < b then g t else 0))
        = (List.range' a (b - a)).map g := by
      apply List.map_congr_left
      intro t ht
      rw [List.mem_range'_1] at ht
      rw [if_pos ⟨ht.1, by omega⟩]
    rw [hm]
    exact Nat.le_trans (Nat.le_add_right _ _) (Nat.le_add_left _ _)
  · rw [Nat.sub_eq_zero_of_le (Nat.le_of_not_le h2)]
    exact Nat.zero_le _

theorem sum_by_label (lab g : Nat → Nat) (ts : List Nat) : ∀ ls : List Nat, ls.Nodup →
    (ls.map (fun l => (ts.map (fun t => if lab t = l then g t else 0)).sum)).sum
      = (ts.map (fun t => if lab t ∈ ls then g t else 0)).sum := by
  intro ls
  induction ls with
  | nil =>
    intro _
    simp only [List.map_nil, List.sum_nil, List.not_mem_nil, if_false]
    rw [List.map_const', List.sum_replicate_nat, Nat.mul_zero]
  | cons l ls ih =>
    intro hnd
    rw [List.nodup_cons] at hnd
    simp only [List.map_cons, List.sum_cons]
    rw [ih hnd.2, ← sum_map_add]
    refine congrArg List.sum (List.map_congr_left fun t _ => ?_)
    by_cases hl : lab t = l
    · have : lab t ∉ ls := by rw [hl]; exact hnd.1
      simp [hl, hnd.1]
    · simp [hl]

theorem sum_by_label_le (lab g : Nat → Nat) (ts : List Nat) (ls : List Nat) (hnd : ls.Nodup) :
    (ls.map (fun l => (ts.map (fun t => if lab t = l then g t else 0)).sum)).sum
      ≤ (ts.map g).sum := by
  rw [sum_by_label lab g ts ls hnd]
  apply SizeShort.sum_map_le_sum_map
  intro t _
  split <;> omega

/-- a key lies in the run of its label only -/
theorem runs_size_le {lab : Nat → Nat} {s e : Nat} {runs : List (Nat × Nat × Nat)}
    (hok : ∀ x ∈ runs, RunOK lab s e x) (hnd : (runs.map (·.1)).Nodup) :
    (runs.map (fun x => x.2.2 - x.2.1)).sum ≤ e - s := by
  have hone : ∀ l : List Nat, (l.map (fun _ => 1)).sum = l.length := fun l => by
    rw [List.map_const', List.sum_replicate_nat, Nat.mul_one]
  have h := sum_by_label_le lab (fun _ => 1) (List.range' s (e - s)) _ hnd
  rw [hone, List.length_range', List.map_map] at h
  refine Nat.le_trans (SizeShort.sum_map_le_sum_map _ _ _ fun x hx => ?_) h
  have hx := hok x hx
  have := sum_interval_le (fun _ => 1) hx.ge hx.le
  rw [hone, List.length_range'] at this
  refine Nat.le_trans this (Nat.le_of_eq (congrArg List.sum (List.map_congr_left fun t ht => ?_)))
  rw [List.mem_range'_1] at ht
  simp only [hx.iff t ht.1 (by omega)]

theorem childRuns_spec (lab : Nat → Nat) (e : Nat) (labels : List Nat) (s : Nat)
    (hmono : ∀ a b, s ≤ a → a ≤ b → b < e → lab a ≤ lab b)
    (hasc : labels.Pairwise (· < ·))
    (hcar : ∀ l ∈ labels, ∃ t, s ≤ t ∧ t < e ∧ lab t = l) :
    ∀ x ∈ childRuns lab e labels s, RunOK lab s e x := by
  -- the scans go on from `s0`, behind the keys of the labels done
  suffices h : ∀ s0, s ≤ s0 → (∀ l ∈ labels, ∀ t, s ≤ t → t < s0 → lab t < l) →
      ∀ x ∈ childRuns lab e labels s0, RunOK lab s e x from
    h s (Nat.le_refl _) fun _ _ t h1 h2 => absurd h2 (Nat.not_lt.mpr h1)
  induction labels with
  | nil => intro _ _ _ x hx; cases hx
  | cons l ls ih =>
    intro s0 hs0 hlow
    rw [childRuns_cons]
    generalize hs' : scanWhile (fun t => lab t != l) (e - s0) s0 = s'
    generalize hj : scanWhile (fun t => lab t == l) (e - (s' + 1)) (s' + 1) = j
    have hrun := run_ok hs0 (hlow l List.mem_cons_self) hs' hj hmono (hcar l List.mem_cons_self)
    have hlt := (List.pairwise_cons.mp hasc).1
    intro x hx
    rcases List.mem_cons.mp hx with rfl | hx
    · exact hrun
    · exact ih (List.Pairwise.of_cons hasc) (fun l' hl' => hcar l' (List.mem_cons_of_mem _ hl')) j
        (Nat.le_trans hrun.ge (Nat.le_of_lt hrun.lt))
        (fun l' hl' t h1 h2 => Nat.lt_of_le_of_lt (hrun.below t h1 h2) (hlt l' hl')) x hx

theorem foldl_min_spec (l : List Nat) (i : Nat) :
    (l.foldl min i = i ∨ l.foldl min i ∈ l) ∧ l.foldl min i ≤ i ∧ ∀ x ∈ l, l.foldl min i ≤ x := by
  induction l generalizing i with
  | nil => exact ⟨Or.inl rfl, Nat.le_refl _, fun _ h => nomatch h⟩
  | cons y ys ih =>
    obtain ⟨h1, h2, h3⟩ := ih (min i y)
    refine ⟨?_, Nat.le_trans h2 (Nat.min_le_left _ _), fun x hx => ?_⟩
    · rcases h1 with h1 | h1
      · rcases Nat.le_total i y with hiy | hiy
        · exact Or.inl (h1.trans (Nat.min_eq_left hiy))
        · exact Or.inr (List.mem_cons.mpr (Or.inl (h1.trans (Nat.min_eq_right hiy))))
      · exact Or.inr (List.mem_cons_of_mem _ h1)
    · rcases List.mem_cons.mp hx with rfl | hx
      · exact Nat.le_trans h2 (Nat.min_le_right _ _)
      · exact h3 x hx

theorem minLcp_spec (c : BCtx) {s e : Nat} (h2 : s + 2 ≤ e) :
    (∃ t, s ≤ t ∧ t + 1 < e ∧ c.lcps.getD t 0 = minLcp c s e) ∧
      ∀ t, s ≤ t → t + 1 < e → minLcp c s e ≤ c.lcps.getD t 0 := by
  unfold minLcp
  obtain ⟨h1, h3, h4⟩ := foldl_min_spec
    ((List.range' (s + 1) (e - 1 - (s + 1))).map (fun t => c.lcps.getD t 0)) (c.lcps.getD s 0)
  constructor
  · rcases h1 with h | h
    · exact ⟨s, Nat.le_refl _, h2, h.symm⟩
    · obtain ⟨t, ht, heq⟩ := List.mem_map.mp h
      rw [List.mem_range'_1] at ht
      exact ⟨t, Nat.le_of_succ_le ht.1, by omega, heq⟩
  · intro t ht1 ht2
    rcases Nat.eq_or_lt_of_le ht1 with rfl | ht1
    · exact h3
    · exact h4 _ (List.mem_map.mpr ⟨t, List.mem_range'_1.mpr ⟨ht1, by omega⟩, rfl⟩)

theorem le_minLcp {c : BCtx} {s e m : Nat} (h2 : s + 2 ≤ e)
    (h : ∀ t, s ≤ t → t + 1 < e → m ≤ c.lcps.getD t 0) : m ≤ minLcp c s e := by
  obtain ⟨⟨t, h1, h3, h4⟩, _⟩ := minLcp_spec c h2
  exact h4 ▸ h t h1 h3

theorem common_prefix_of_le_lcp (kn : Nat → List Nat) (s e m : Nat) (hse : s + 2 ≤ e)
    (h : ∀ t, s ≤ t → t + 1 < e → m ≤ lcp (kn t) (kn (t + 1))) :
    ∀ t, s ≤ t → t < e → m ≤ (kn t).length ∧ (kn t).take m = (kn s).take m := by
  -- along the keys `s, s+1, …`: each agrees with its predecessor before `m`
  have key : ∀ d, s + d < e →
      m ≤ (kn (s + d)).length ∧ (kn (s + d)).take m = (kn s).take m := by
    intro d
    induction d with
    | zero => intro _; exact ⟨Nat.le_trans (h s (Nat.le_refl _) hse) (lcp_le_left _ _), rfl⟩
    | succ d ih =>
      intro hd
      have hm := h (s + d) (Nat.le_add_right _ _) hd
      exact ⟨Nat.le_trans hm (lcp_le_right _ _),
        (take_eq_of_le_lcp hm).symm.trans (ih (Nat.lt_of_succ_lt hd)).2⟩
  intro t h1 h2
  have := key (t - s) (by omega)
  rwa [Nat.add_sub_cancel' h1] at this

theorem BuildInv.knOf_lt16 (keys : List Bytes) (t : Nat) : ∀ x ∈ knOf keys t, x < 16 := nibs_lt16 _

theorem BuildInv.knOf_even (keys : List Bytes) (t : Nat) : (knOf keys t).length % 2 = 0 := by
  rw [knOf, nibs_length]; exact Nat.mul_mod_right 2 _

theorem labelAt_drop (k : List Nat) (ws : Nat) (big : Bool) :
    labelAt k ws big = labelAt (k.drop ws) 0 big := by
  simp [labelAt, List.getD_eq_getElem?_getD]

theorem labelAt_eq_zero_iff {k : List Nat} {ws : Nat} {big : Bool} :
    labelAt k ws big = 0 ↔ k.length ≤ ws := by
  unfold labelAt
  split
  · next h => rw [List.getElem?_eq_none_iff] at h; simp [h]
  · next a h =>
    have := (List.getElem?_eq_some_iff.mp h).1
    constructor
    · split <;> omega
    · omega

theorem labelAt_ne_zero {k : List Nat} {ws : Nat} {big : Bool} (h : ws < k.length) :
    labelAt k ws big ≠ 0 :=
  fun h0 => Nat.not_le.mpr h (labelAt_eq_zero_iff.mp h0)

theorem labelAt_cons (a : Nat) (rest : List Nat) (big : Bool) :
    labelAt (a :: rest) 0 big = if big then 1 + (a * 16 + rest.headD 0) else 1 + a := by
  cases rest <;> rfl

theorem getD_lt16 {a : List Nat} (ha : ∀ x ∈ a, x < 16) (i : Nat) : a.getD i 0 < 16 := by
  rw [List.getD_eq_getElem?_getD]
  cases h : a[i]? with
  | none => simp
  | some v => simpa using ha v (List.mem_of_getElem? h)

/-- two half-bytes are compared like the byte they make -/
theorem word_cmp (a a' b b' : Nat) (ha : a' < 16) (hb : b' < 16) :
    compare (1 + (a * 16 + a')) (1 + (b * 16 + b')) = lexCmp [a, a'] [b, b'] := by
  have h := cmp_divmod (16 * a + a') (16 * b + b') .eq
  rw [Nat.mul_add_div (by decide), Nat.mul_add_div (by decide), Nat.mul_add_mod, Nat.mul_add_mod,
    Nat.div_eq_of_lt ha, Nat.div_eq_of_lt hb, Nat.mod_eq_of_lt ha, Nat.mod_eq_of_lt hb,
    Nat.add_zero, Nat.add_zero] at h
  simp only [Nat.compare_eq_ite_lt, Nat.add_lt_add_iff_left, Nat.mul_comm _ 16, ← h]
  rfl

theorem compare_labelAt_zero {x y : List Nat} {big : Bool} (hx : ∀ a ∈ x, a < 16)
    (hy : ∀ a ∈ y, a < 16) (hex : big = true → x.length % 2 = 0)
    (hey : big = true → y.length % 2 = 0) :
    compare (labelAt x 0 big) (labelAt y 0 big)
      = lexCmp (x.take (wordSize big)) (y.take (wordSize big)) := by
  match x, y with
  | [], [] => cases big <;> rfl
  | [], b :: ys =>
    rw [labelAt_cons]
    cases big <;> exact Nat.compare_eq_lt.mpr (Nat.add_pos_left Nat.one_pos _)
  | a :: xs, [] =>
    rw [labelAt_cons]
    cases big <;> exact Nat.compare_eq_gt.mpr (Nat.add_pos_left Nat.one_pos _)
  | a :: xs, b :: ys =>
    cases big with
    | false =>
      simp only [labelAt_cons, wordSize, List.take_succ_cons, List.take_zero, lexCmp,
        Nat.compare_eq_ite_lt, Bool.false_eq_true, if_false, Nat.add_lt_add_iff_left]
    | true =>
      match xs, ys with
      | [], _ => cases hex rfl
      | _ :: _, [] => cases hey rfl
      | a' :: _, b' :: _ => exact word_cmp a a' b b' (hx a' (by simp)) (hy b' (by simp))

/-- half-byte strings that a node of either size can branch on at `ws`.  A big node reads two
    half-bytes and takes a missing second one for 0, so `[a]` and `[a, 0]` carry the same big
    label: on lists of odd length the big label does not determine the word it reads. -/
structure Words (big : Bool) (ws : Nat) (a : List Nat) : Prop where
  lt16 : ∀ x ∈ a, x < 16
  even : big = true → a.length % 2 = 0 ∧ ws % 2 = 0

theorem Words.knOf (keys : List Bytes) (t : Nat) {big : Bool} {ws : Nat}
    (hws : big = true → ws % 2 = 0) : Words big ws (knOf keys t) :=
  ⟨BuildInv.knOf_lt16 keys t, fun hb => ⟨BuildInv.knOf_even keys t, hws hb⟩⟩

theorem Words.drop {big : Bool} {ws : Nat} {a : List Nat} (h : Words big ws a) :
    (∀ x ∈ a.drop ws, x < 16) ∧ (big = true → (a.drop ws).length % 2 = 0) :=
  ⟨fun x hx => h.lt16 x (List.mem_of_mem_drop hx), fun hb => by
    have := h.even hb; rw [List.length_drop]; omega⟩

/-- keys that agree before `ws` carry labels at `ws` that are ordered like the keys up to the end
    of the label's word: the label is monotone in the key, strictly so up to that word, and
    determines it -/
theorem compare_labelAt {a b : List Nat} {ws : Nat} {big : Bool} (ha : Words big ws a)
    (hb : Words big ws b) (htake : a.take ws = b.take ws) :
    compare (labelAt a ws big) (labelAt b ws big)
      = lexCmp (a.take (ws + wordSize big)) (b.take (ws + wordSize big)) := by
  rw [labelAt_drop a, labelAt_drop b, lexCmp_drop ws (by
      rw [List.take_take, List.take_take, Nat.min_eq_left (Nat.le_add_right _ _)]; exact htake),
    List.drop_take, List.drop_take, Nat.add_sub_cancel_left]
  exact compare_labelAt_zero ha.drop.1 hb.drop.1 ha.drop.2 hb.drop.2

theorem lt_of_label_lt {a b : List Nat} {ws : Nat} {big : Bool} (ha : Words big ws a)
    (hb : Words big ws b) (htake : a.take ws = b.take ws)
    (hlab : labelAt a ws big < labelAt b ws big) : lexCmp a b = .lt :=
  lexCmp_take_lt _ a b (compare_labelAt ha hb htake ▸ Nat.compare_eq_lt.mpr hlab)

theorem labelAt_mono {a b : List Nat} {ws : Nat} {big : Bool} (ha : Words big ws a)
    (hb : Words big ws b) (hlt : lexCmp a b = .lt) (htake : a.take ws = b.take ws) :
    labelAt a ws big ≤ labelAt b ws big :=
  Nat.le_of_not_lt fun h => by
    rw [(lexCmp_gt_iff a b).mpr (lt_of_label_lt hb ha htake.symm h)] at hlt
    cases hlt

theorem labelLen_of_ne_zero {l : Nat} (big : Bool) (h : l ≠ 0) : labelLen l big = wordSize big := by
  unfold labelLen wordSize; rw [if_neg h]

theorem add_wordSize_le {len i : Nat} {big : Bool} (heven : big = true → len % 2 = 0)
    (hi : i < len) (hal : big = true → i % 2 = 0) : i + wordSize big ≤ len := by
  cases big with
  | false => exact hi
  | true => have := heven rfl; have := hal rfl; simp only [wordSize, if_true]; omega

theorem take_label_eq {a b : List Nat} {ws : Nat} {big : Bool} (ha : Words big ws a)
    (hb : Words big ws b) (htake : a.take ws = b.take ws)
    (hlab : labelAt a ws big = labelAt b ws big) :
    a.take (ws + labelLen (labelAt a ws big) big) = b.take (ws + labelLen (labelAt a ws big) big) := by
  unfold labelLen
  split
  · exact htake
  · exact lexCmp_eq_iff.mp (compare_labelAt ha hb htake ▸ Nat.compare_eq_eq.mpr hlab)

theorem label_long {a : List Nat} {ws : Nat} {big : Bool}
    (hea : big = true → a.length % 2 = 0) (hws : big = true → ws % 2 = 0)
    (hlen : ws ≤ a.length) :
    ws + labelLen (labelAt a ws big) big ≤ a.length := by
  by_cases h0 : labelAt a ws big = 0
  · rw [h0]; exact hlen
  · rw [labelLen_of_ne_zero big h0]
    exact add_wordSize_le hea
      (Nat.lt_of_le_of_ne hlen fun h => h0 (labelAt_eq_zero_iff.mpr (Nat.le_of_eq h.symm))) hws

/-! ### the branching position: the first-difference position `m`, for an 8-bit node rounded
    down to a byte boundary -/

theorem wsRound_le (m : Nat) (big : Bool) : (if big = true then m - m % 2 else m) ≤ m := by
  split <;> omega

theorem wsRound_even (m : Nat) : (m - m % 2) % 2 = 0 :=
  Nat.sub_mod_eq_zero_of_mod_eq (Nat.mod_mod _ _).symm

theorem le_wsRound {fb m : Nat} (h : fb ≤ m) (he : fb % 2 = 0) : fb ≤ m - m % 2 := by
  rw [Nat.sub_eq_of_eq_add (Nat.div_add_mod m 2).symm, ← Nat.div_add_mod fb 2, he]
  exact Nat.mul_le_mul_left 2 (Nat.div_le_div_right h)

theorem lt_wsRound_add (m : Nat) (big : Bool) :
    m < (if big = true then m - m % 2 else m) + wordSize big := by
  cases big <;> simp [wordSize] <;> omega

theorem storedPrefix_end {ks : List Nat} {fb ws : Nat} (hfb : fb ≤ ws) (hks : ws ≤ ks.length) :
    fb - fb % 2 + (storedPrefix ks fb ws).length = ws := by
  rw [storedPrefix, List.length_drop, List.length_take, Nat.min_eq_left hks]
  exact Nat.add_sub_cancel' (Nat.le_trans (Nat.sub_le _ _) hfb)
