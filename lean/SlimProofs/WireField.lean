import SlimProofs.WireVarint
/-
  SlimProofs.WireField — one field at a time: what the field writers emit is a field in front of
  anything (`IsField`), on which the field loop `decodeMsg` and the normal-form check `unknownOnly`
  each take one step; packed payloads; the sizes of the field writers.
-/
namespace Wire

/-- A field number whose keys fit a uint64 (every number of these schemas is below 2^29). -/
def FnoOK (fno : Nat) : Prop := 1 ≤ fno ∧ fno < 2 ^ 60

theorem key_div {fno wt : Nat} (hw : wt < 8) : (fno * 8 + wt) / 8 = fno := by
  rw [Nat.mul_comm, Nat.mul_add_div (by decide), Nat.div_eq_of_lt hw, Nat.add_zero]
theorem key_mod {fno wt : Nat} (hw : wt < 8) : (fno * 8 + wt) % 8 = wt := by
  rw [Nat.mul_comm, Nat.mul_add_mod, Nat.mod_eq_of_lt hw]

theorem key_ok {fno wt : Nat} (hf : FnoOK fno) (hw : wt < 8) :
    fno * 8 + wt < 2 ^ 64 ∧ ¬ (fno * 8 + wt) / 8 = 0 := by
  rw [key_div hw]
  obtain ⟨h1, h2⟩ := hf
  exact ⟨by omega, Nat.ne_of_gt h1⟩

theorem tag_ne_nil (fno wt : Nat) : tag fno wt ≠ [] := varint_ne_nil _

theorem decodeMsg_nil {α : Type} (h : α → Nat → WVal → Except Err (Option α)) (u : α → Bytes → α)
    (acc : α) : decodeMsg h u acc [] = .ok acc := by
  rw [decodeMsg]

/-- The chunk `e` is one field, number `fno`, wire type `wt`, value `v`, canonically keyed, in front
    of anything: all that the field loop and the normal-form check `unknownOnly` need to know of
    what a field writer emits. -/
def IsField (e : Bytes) (fno wt : Nat) (v : WVal) : Prop :=
  wt < 8 ∧ ∃ raw, e = tag fno wt ++ raw ∧
    ∀ rest, readField (e ++ rest) = .ok (fno * 8 + wt, v, raw, e.length)

theorem isField_varint {fno v : Nat} (hf : FnoOK fno) (hv : v < 2 ^ 64) :
    IsField (tag fno 0 ++ varint v) fno 0 (.varint v) := by
  refine ⟨by decide, _, rfl, fun rest => ?_⟩
  obtain ⟨hk, hd⟩ := key_ok hf (show 0 < 8 by decide)
  rw [List.append_assoc]
  unfold readField tag
  rw [decodeVarint_varint hk]
  simp only [hd, if_false, List.drop_left, key_mod (show 0 < 8 by decide)]
  unfold readValue
  simp only [decodeVarint_varint hv]
  simp

/-- Any length-delimited field (bytes, packed, sub-message); the bound is on the whole chunk, which
    is what `Eats` hands over. -/
theorem isField_bytes {fno : Nat} (hf : FnoOK fno) {p : Bytes}
    (hl : (tag fno 2 ++ varint p.length ++ p).length < 2 ^ 64) :
    IsField (tag fno 2 ++ varint p.length ++ p) fno 2 (.bytes p) := by
  refine ⟨by decide, _, List.append_assoc .., fun rest => ?_⟩
  have hp : p.length < 2 ^ 64 := by rw [List.length_append] at hl; omega
  obtain ⟨hk, hd⟩ := key_ok hf (show 2 < 8 by decide)
  rw [List.append_assoc, List.append_assoc]
  unfold readField tag
  rw [decodeVarint_varint hk]
  simp only [hd, if_false, List.drop_left, key_mod (show 2 < 8 by decide)]
  unfold readValue
  simp only [decodeVarint_varint hp]
  have hlen : ¬ ((varint p.length ++ (p ++ rest)).length - (varint p.length).length < p.length) := by
    simp
  simp only [hlen, if_false, List.drop_left, List.take_left]
  rw [← List.append_assoc, List.take_left' (by simp), List.length_append, List.length_append, Nat.add_assoc]

/-- A handler that takes the field (`r = some b`) goes on in `b`; one that declines it (`r = none`)
    stores the whole chunk as unknown, since the key is canonical. -/
theorem IsField.decodeMsg_append {e : Bytes} {fno wt : Nat} {v : WVal} (hF : IsField e fno wt v) {α : Type}
    {h : α → Nat → WVal → Except Err (Option α)} {u : α → Bytes → α} {a : α} {r : Option α}
    (hh : h a fno v = .ok r) (rest : Bytes) :
    decodeMsg h u a (e ++ rest) = decodeMsg h u (r.getD (u a e)) rest := by
  obtain ⟨hw, raw, he, hr⟩ := hF
  have hr := hr rest
  cases e with
  | nil => simp [tag_ne_nil] at he
  | cons b e' =>
    simp only [List.cons_append] at hr ⊢
    rw [decodeMsg]
    simp only [hr, List.length_cons, Nat.add_sub_cancel, List.drop_left, key_div hw, hh]
    rw [he]
    cases r <;> rfl

theorem IsField.unknownOnly_append {e : Bytes} {fno wt : Nat} {v : WVal} (hF : IsField e fno wt v)
    (known : Nat → Nat → Bool) (rest : Bytes) :
    unknownOnly known (e ++ rest) = (!known fno wt && unknownOnly known rest) := by
  obtain ⟨hw, raw, he, hr⟩ := hF
  have hr := hr rest
  cases e with
  | nil => simp [tag_ne_nil] at he
  | cons b e' =>
    simp only [List.cons_append] at hr ⊢
    rw [unknownOnly]
    simp only [hr, List.length_cons, Nat.add_sub_cancel, List.drop_left, key_div hw, key_mod hw]
    rw [← List.cons_append, he]
    simp [tag]

theorem unpack_nil : unpack [] = .ok [] := by rw [unpack]

theorem unpack_varint_append {x : Nat} (hx : x < 2 ^ 64) (rest : Bytes) :
    unpack (varint x ++ rest) =
      match unpack rest with
      | .error e => .error e
      | .ok l => .ok (x :: l) := by
  have hd := decodeVarint_varint hx rest
  cases hv : varint x with
  | nil => exact absurd hv (varint_ne_nil x)
  | cons b t =>
    rw [hv] at hd
    simp only [List.cons_append] at hd ⊢
    rw [unpack]
    simp only [hd, List.length_cons, Nat.add_sub_cancel, List.drop_left]
    rfl

theorem unpack_packedPayload (l : List Nat) (h : ∀ x ∈ l, x < 2 ^ 64) :
    unpack (packedPayload l) = .ok l := by
  induction l with
  | nil => simp [packedPayload, unpack_nil]
  | cons x xs ih =>
    have hx : x < 2 ^ 64 := h x (by simp)
    have hxs : ∀ y ∈ xs, y < 2 ^ 64 := fun y hy => h y (by simp [hy])
    have : packedPayload (x :: xs) = varint x ++ packedPayload xs := by simp [packedPayload]
    rw [this, unpack_varint_append hx, ih hxs]

theorem toUint32_id {x : Nat} (h : x < 2 ^ 32) : toUint32 x = x := Nat.mod_eq_of_lt h

theorem map_toUint32_id (l : List Nat) (h : ∀ x ∈ l, x < 2 ^ 32) : l.map toUint32 = l :=
  (List.map_congr_left (g := id) fun x hx => toUint32_id (h x hx)).trans (List.map_id l)

theorem repU64_packed (l : List Nat) (h : ∀ x ∈ l, x < 2 ^ 64) :
    repU64 [] (.bytes (packedPayload l)) = .ok (some l) := by
  simp [repU64, repVals, unpack_packedPayload l h]

theorem repU32_packed (l : List Nat) (h : ∀ x ∈ l, x < 2 ^ 32) :
    repU32 [] (.bytes (packedPayload l)) = .ok (some l) := by
  have h64 : ∀ x ∈ l, x < 2 ^ 64 := fun x hx => by have := h x hx; omega
  simp [repU32, repVals, unpack_packedPayload l h64, map_toUint32_id l h]

theorem mapInt32_eq (l : List Nat) : mapInt32 l = .ok (l.map toUint32) := by
  induction l with
  | nil => rfl
  | cons x xs ih => simp [mapInt32, toInt32, toUint32, ih]

/-- While a message is read, an `int32` element is kept like a `uint32` one, as its low 32 bits
    (the sign is looked at once, by `checkI32`). -/
theorem repI32_eq_repU32 (cur : List Nat) (v : WVal) : repI32 cur v = repU32 cur v := by
  unfold repI32 repU32
  cases repVals v with
  | error e => rfl
  | ok o => cases o <;> simp [mapInt32_eq]

theorem repI32_packed (l : List Nat) (h : ∀ x ∈ l, x < 2 ^ 31) :
    repI32 [] (.bytes (packedPayload l)) = .ok (some l) :=
  repI32_eq_repU32 .. ▸ repU32_packed l fun x hx => Nat.lt_trans (h x hx) (by decide)

theorem packedPayload_length (l : List Nat) : (packedPayload l).length = packedSize l := by
  induction l with
  | nil => rfl
  | cons x xs ih =>
    have : packedPayload (x :: xs) = varint x ++ packedPayload xs := by simp [packedPayload]
    rw [this, List.length_append, ih, varint_length]; simp [packedSize]

theorem encVarintF_length (fno v : Nat) : (encVarintF fno v).length = sizeVarintF fno v := by
  unfold encVarintF sizeVarintF
  split <;> simp [tag, varint_length]

theorem encPackedF_length (fno : Nat) (l : List Nat) : (encPackedF fno l).length = sizePackedF fno l := by
  unfold encPackedF sizePackedF
  split <;> simp [tag, varint_length, packedPayload_length, Nat.add_assoc]

theorem encBytesF_length (fno : Nat) (b : Bytes) : (encBytesF fno b).length = sizeBytesF fno b := by
  unfold encBytesF sizeBytesF
  split <;> simp [tag, varint_length, Nat.add_assoc]

theorem encMsgF_length {β : Type} {enc : β → Bytes} {sz : β → Nat} (hsz : ∀ x, sz x = (enc x).length)
    (fno : Nat) (o : Option β) : (encMsgF fno (o.map enc)).length = sizeMsgF fno (o.map sz) := by
  cases o <;> simp [encMsgF, sizeMsgF, tag, varint_length, hsz, Nat.add_assoc]

end Wire
