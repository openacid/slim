import SlimProofs.BitsLemmas.Rank
/-
  SlimProofs.BitsLemmas.OfMany — `ofMany` (= Go `bitmap.OfMany`): the concatenation of
  sub-bitmaps `subs[k]` of widths `sizes[k]`; bit `base k + x`, and from the bits alone the rank at
  `base k + x` (`cnt_add` over the blocks in front, `cnt_mem_asc` inside block `k`).
-/

namespace Bits

def SubsOK : List (List Nat) → List Nat → Prop
  | [], [] => True
  | s :: ss, z :: zs => Asc s ∧ (∀ x ∈ s, x < z) ∧ SubsOK ss zs
  | _, _ => False

theorem SubsOK.induction {motive : List (List Nat) → List Nat → Prop} (nil : motive [] [])
    (cons : ∀ s ss z zs, Asc s → (∀ x ∈ s, x < z) → SubsOK ss zs → motive ss zs →
      motive (s :: ss) (z :: zs)) :
    ∀ {subs sizes}, SubsOK subs sizes → motive subs sizes
  | [], [], _ => nil
  | s :: ss, z :: zs, h => cons s ss z zs h.1 h.2.1 h.2.2 (SubsOK.induction nil cons h.2.2)
  | [], _ :: _, h => h.elim
  | _ :: _, [], h => h.elim

theorem SubsOK.length_eq {subs : List (List Nat)} {sizes : List Nat} (h : SubsOK subs sizes) :
    subs.length = sizes.length :=
  h.induction (motive := fun a b => a.length = b.length) rfl
    fun _ _ _ _ _ _ _ ih => congrArg (· + 1) ih

theorem SubsOK.of_getD : ∀ (subs : List (List Nat)) (sizes : List Nat),
    subs.length = sizes.length →
    (∀ k, k < subs.length → Asc (subs.getD k []) ∧ ∀ x ∈ subs.getD k [], x < sizes.getD k 0) →
    SubsOK subs sizes
  | [], [], _, _ => trivial
  | s :: ss, z :: zs, hl, h =>
    ⟨(h 0 (Nat.zero_lt_succ _)).1, (h 0 (Nat.zero_lt_succ _)).2,
      SubsOK.of_getD ss zs (Nat.succ.inj hl) fun k hk => h (k + 1) (Nat.succ_lt_succ hk)⟩
  | [], _ :: _, hl, _ => nomatch hl
  | _ :: _, [], hl, _ => nomatch hl

theorem SubsOK.getD {subs : List (List Nat)} {sizes : List Nat} (h : SubsOK subs sizes) :
    ∀ k, k < sizes.length → Asc (subs.getD k []) ∧ ∀ x ∈ subs.getD k [], x < sizes.getD k 0 := by
  apply h.induction
  · exact fun _ hk => nomatch hk
  intro _ _ _ _ h1 h2 _ ih k hk
  cases k with
  | zero => exact ⟨h1, h2⟩
  | succ k => exact ih k (Nat.lt_of_succ_lt_succ hk)

/-- the global indexes `bitmap.OfMany` hands to `bitmap.Of` -/
def concatIdx : List (List Nat) → List Nat → Nat → List Nat
  | s :: ss, z :: zs, base => s.map (base + ·) ++ concatIdx ss zs (base + z)
  | _, _, _ => []

theorem ofMany_go_eq (subs : List (List Nat)) (sizes : List Nat) (base : Nat) (acc : List Nat)
    (h : subs.length = sizes.length) :
    ofMany.go subs sizes base acc = (acc ++ concatIdx subs sizes base, base + sizes.sum) := by
  induction subs generalizing sizes base acc with
  | nil =>
    cases sizes with
    | nil => simp [ofMany.go, concatIdx]
    | cons z zs => simp at h
  | cons s ss ih =>
    cases sizes with
    | nil => simp at h
    | cons z zs =>
      simp only [List.length_cons, Nat.add_right_cancel_iff] at h
      simp only [ofMany.go, concatIdx, ih zs (base + z) _ h, List.append_assoc, List.sum_cons,
        Nat.add_assoc]

theorem ofMany_eq (subs : List (List Nat)) (sizes : List Nat) (h : subs.length = sizes.length) :
    ofMany subs sizes = ofIdx (concatIdx subs sizes 0) sizes.sum := by
  unfold ofMany
  simp only [ofMany_go_eq subs sizes 0 [] h, List.nil_append, Nat.zero_add]

theorem concatIdx_bounds {subs : List (List Nat)} {sizes : List Nat} (h : SubsOK subs sizes) :
    ∀ base, ∀ y ∈ concatIdx subs sizes base, base ≤ y ∧ y < base + sizes.sum := by
  apply h.induction
  · exact fun _ _ hy => nomatch hy
  intro s ss z zs _ h2 _ ih base y hy
  rw [concatIdx, List.mem_append, List.mem_map] at hy
  rw [List.sum_cons]
  rcases hy with ⟨x, hx, rfl⟩ | hy
  · exact ⟨Nat.le_add_right _ _,
      Nat.add_lt_add_left (Nat.lt_of_lt_of_le (h2 x hx) (Nat.le_add_right _ _)) _⟩
  · have := ih (base + z) y hy
    exact ⟨Nat.le_trans (Nat.le_add_right _ _) this.1, Nat.add_assoc base z _ ▸ this.2⟩

theorem mem_concatIdx {subs : List (List Nat)} {sizes : List Nat} (h : SubsOK subs sizes) :
    ∀ (base k x : Nat), k < sizes.length → x < sizes.getD k 0 →
    (base + (sizes.take k).sum + x ∈ concatIdx subs sizes base ↔ x ∈ subs.getD k []) := by
  apply h.induction
  · exact fun _ _ _ hk => nomatch hk
  intro s ss z zs _ h2 h3 ih base k x hk hx
  rw [concatIdx, List.mem_append, List.mem_map]
  cases k with
  | zero =>
    rw [List.getD_cons_zero] at hx
    rw [List.take_zero, List.sum_nil, Nat.add_zero, List.getD_cons_zero]
    constructor
    · rintro (⟨x', hx', he⟩ | hm)
      · exact Nat.add_left_cancel he ▸ hx'
      · exact absurd (Nat.le_of_add_le_add_left (concatIdx_bounds h3 (base + z) _ hm).1)
          (Nat.not_le_of_gt hx)
    · exact fun hm => Or.inl ⟨x, hm, rfl⟩
  | succ k =>
    have e : base + ((z :: zs).take (k + 1)).sum + x = base + z + (zs.take k).sum + x := by
      rw [List.take_succ_cons, List.sum_cons, ← Nat.add_assoc base z]
    rw [e]
    show _ ↔ x ∈ ss.getD k []
    rw [← ih (base + z) k x (Nat.lt_of_succ_lt_succ hk) hx]
    constructor
    · rintro (⟨x', hx', he⟩ | hm)
      · exact absurd (he ▸ Nat.add_lt_add_left (h2 x' hx') base)
          (Nat.not_lt.mpr (Nat.le_trans (Nat.le_add_right _ _) (Nat.le_add_right _ _)))
      · exact hm
    · exact Or.inr

theorem lastSucc_le_of_lt {r : List Nat} {n : Nat} (h : ∀ y ∈ r, y < n) : lastSucc r ≤ n := by
  unfold lastSucc
  cases hl : r.getLast? with
  | none => simp
  | some l =>
    have := h l (List.mem_of_getLast? hl)
    exact this

theorem ofIdx_length_capa (idx : List Nat) (capa : Nat) (hlt : ∀ i ∈ idx, i < capa) :
    (ofIdx idx capa).length = (capa + 63) / 64 := by
  rw [ofIdx_length', Nat.max_eq_left (lastSucc_le_of_lt hlt)]

theorem ofMany_length {subs : List (List Nat)} {sizes : List Nat} (h : SubsOK subs sizes) :
    (ofMany subs sizes).length = (sizes.sum + 63) / 64 := by
  rw [ofMany_eq _ _ h.length_eq, ofIdx_length']
  have := lastSucc_le_of_lt (r := concatIdx subs sizes 0) (n := sizes.sum)
    (fun y hy => Nat.zero_add sizes.sum ▸ (concatIdx_bounds h 0 y hy).2)
  rw [Nat.max_eq_left this]

theorem ofMany_lt (subs : List (List Nat)) (sizes : List Nat) :
    ∀ w ∈ ofMany subs sizes, w < 2 ^ 64 := by
  unfold ofMany
  exact ofIdx_lt _ _

theorem take_sum_le (l : List Nat) (k : Nat) : (l.take k).sum ≤ l.sum := by
  conv => rhs; rw [← List.take_append_drop k l, List.sum_append]
  exact Nat.le_add_right _ _

theorem take_sum_add_getD_le (l : List Nat) (k : Nat) : (l.take k).sum + l.getD k 0 ≤ l.sum := by
  have := take_sum_le l (k + 1)
  rw [List.take_add_one, List.sum_append] at this
  rw [List.getD_eq_getElem?_getD]
  cases h : l[k]? with
  | none => simp [h] at this ⊢; exact take_sum_le l k
  | some v => simpa [h] using this

theorem getBit_ofMany {subs : List (List Nat)} {sizes : List Nat} (h : SubsOK subs sizes)
    (k x : Nat) (hk : k < sizes.length) (hx : x < sizes.getD k 0) :
    getBit (ofMany subs sizes) ((sizes.take k).sum + x) = decide (x ∈ subs.getD k []) := by
  have hlt : (sizes.take k).sum + x < 64 * (ofIdx (concatIdx subs sizes 0) sizes.sum).length :=
    Nat.lt_of_lt_of_le (Nat.add_lt_add_left hx _)
      (Nat.le_trans (take_sum_add_getD_le sizes k) (capa_le_ofIdx_length _ _))
  have := mem_concatIdx h 0 k x hk hx
  rw [Nat.zero_add] at this
  rw [ofMany_eq _ _ h.length_eq, getBit_ofIdx _ _ _ hlt]
  simp only [this]

theorem testBit_ofMany {subs : List (List Nat)} {sizes : List Nat} (h : SubsOK subs sizes)
    (k x : Nat) (hk : k < sizes.length) (hx : x < sizes.getD k 0) :
    let i := (sizes.take k).sum + x
    ((ofMany subs sizes).getD (i / 64) 0).testBit (i % 64) = decide (x ∈ subs.getD k []) :=
  getBit_ofMany h k x hk hx

theorem cnt_block_ofMany {subs : List (List Nat)} {sizes : List Nat} (h : SubsOK subs sizes)
    (k x : Nat) (hk : k < sizes.length) (hx : x ≤ sizes.getD k 0) :
    cnt (fun j => getBit (ofMany subs sizes) ((sizes.take k).sum + j)) x
      = ((subs.getD k []).filter (· < x)).length := by
  rw [← cnt_mem_asc (h.getD k hk).1]
  exact cnt_congr fun j hj => getBit_ofMany h k j hk (Nat.lt_of_lt_of_le hj hx)

theorem cnt_getBit_ofMany {subs : List (List Nat)} {sizes : List Nat} (h : SubsOK subs sizes)
    (k : Nat) (hk : k ≤ sizes.length) :
    cnt (getBit (ofMany subs sizes)) ((sizes.take k).sum) = ((subs.take k).map List.length).sum := by
  induction k with
  | zero => rfl
  | succ k ih =>
    have hk' : k < sizes.length := hk
    have hs : k < subs.length := h.length_eq ▸ hk'
    rw [List.take_add_one, List.sum_append, List.take_add_one, List.map_append, List.sum_append,
      cnt_add, ih (Nat.le_of_lt hk), List.getElem?_eq_getElem hk', List.getElem?_eq_getElem hs]
    congr 1
    -- block `k` adds all of `subs[k]`: its elements are below the block's size
    have := cnt_block_ofMany h k (sizes.getD k 0) hk' (Nat.le_refl _)
    rw [getD_eq_getElem _ _ hk', getD_eq_getElem _ _ hs] at this
    simp only [Option.toList_some, List.sum_cons, List.sum_nil, Nat.add_zero, List.map_cons,
      List.map_nil]
    rw [this, List.filter_eq_self.mpr]
    intro y hy
    have := (h.getD k hk').2 y (by rw [getD_eq_getElem _ _ hs]; exact hy)
    rw [getD_eq_getElem _ _ hk'] at this
    exact decide_eq_true this

theorem cnt_getBit_ofMany_add {subs : List (List Nat)} {sizes : List Nat} (h : SubsOK subs sizes)
    (k x : Nat) (hk : k < sizes.length) (hx : x ≤ sizes.getD k 0) :
    cnt (getBit (ofMany subs sizes)) ((sizes.take k).sum + x)
      = ((subs.take k).map List.length).sum + ((subs.getD k []).filter (· < x)).length := by
  rw [cnt_add, cnt_getBit_ofMany h k (Nat.le_of_lt hk), cnt_block_ofMany h k x hk hx]

/-- all ones: the bits from `sizes.sum` up to the end of the last word are clear -/
theorem cnt_ofMany {subs : List (List Nat)} {sizes : List Nat} (hok : SubsOK subs sizes) :
    cnt (getBit (ofMany subs sizes)) (64 * (ofMany subs sizes).length)
      = (subs.map List.length).sum := by
  have hle : sizes.sum ≤ 64 * (ofMany subs sizes).length := by
    rw [ofMany_length hok]; exact le_mul_words _
  have hz : ∀ j, sizes.sum ≤ j → j < 64 * (ofMany subs sizes).length →
      getBit (ofMany subs sizes) j = false := by
    intro j hj hlt
    rw [ofMany_eq _ _ hok.length_eq] at hlt ⊢
    rw [getBit_ofIdx _ _ _ hlt]
    have hnot : j ∉ concatIdx subs sizes 0 := fun hm =>
      absurd (Nat.zero_add sizes.sum ▸ (concatIdx_bounds hok 0 j hm).2) (Nat.not_lt.mpr hj)
    exact decide_eq_false hnot
  have := cnt_getBit_ofMany hok sizes.length (Nat.le_refl _)
  rw [List.take_length, ← hok.length_eq, List.take_length] at this
  rw [cnt_eq_of_none hle hz, this]

/-- `bitmap.OfMany` in one statement, with the index-wise hypotheses -/
theorem ofMany_spec (subs : List (List Nat)) (sizes : List Nat)
    (hlen : subs.length = sizes.length)
    (hok : ∀ k, k < subs.length →
      Asc (subs.getD k []) ∧ ∀ x ∈ subs.getD k [], x < sizes.getD k 0) :
    let ws := ofMany subs sizes
    let base := fun k => (sizes.take k).sum
    ws.length = (sizes.sum + 63) / 64
    ∧ (∀ w ∈ ws, w < 2 ^ 64)
    ∧ (∀ k x, k < sizes.length → x < sizes.getD k 0 →
        specBit (bitsOf ws) (base k + x) = decide (x ∈ subs.getD k []))
    ∧ (∀ k, specRank (bitsOf ws) (base k) = ((subs.take k).map List.length).sum)
    ∧ (∀ k x, k < sizes.length → x ≤ sizes.getD k 0 →
        specRank (bitsOf ws) (base k + x)
          = ((subs.take k).map List.length).sum + ((subs.getD k []).filter (· < x)).length) := by
  have h : SubsOK subs sizes := SubsOK.of_getD subs sizes hlen hok
  refine ⟨ofMany_length h, ofMany_lt subs sizes,
    fun k x hk hx => (specBit_bitsOf _ _).trans (getBit_ofMany h k x hk hx), fun k => ?_,
    fun k x hk hx => (specRank_bitsOf _ _).trans (cnt_getBit_ofMany_add h k x hk hx)⟩
  -- beyond the last block `take k` is the whole list on both sides
  dsimp only
  rw [List.take_eq_take_min (l := sizes), List.take_eq_take_min (l := subs), hlen, specRank_bitsOf]
  exact cnt_getBit_ofMany h (min k sizes.length) (Nat.min_le_right _ _)

end Bits
