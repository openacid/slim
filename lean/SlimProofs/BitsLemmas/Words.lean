import SlimProofs.BitsLemmas.Count
/-
  SlimProofs.BitsLemmas.Words — the bit list of a word list (`getBit`, `bitsOf`, `specRank`,
  `specBit`), `popcount`, and `ofIdx` (= Go `bitmap.Of`) characterised bit by bit.
-/

namespace Bits

def getBit (ws : List Nat) (i : Nat) : Bool := (ws.getD (i / 64) 0).testBit (i % 64)

theorem getBit_of_ge {ws : List Nat} {i : Nat} (h : 64 * ws.length ≤ i) : getBit ws i = false := by
  have : ws.length ≤ i / 64 := (Nat.le_div_iff_mul_le (by decide)).mpr (Nat.mul_comm 64 _ ▸ h)
  rw [getBit, List.getD_eq_getElem?_getD, List.getElem?_eq_none this, Option.getD_none,
    Nat.zero_testBit]

theorem getBit_cons (w : Nat) (ws : List Nat) (i : Nat) :
    getBit (w :: ws) i = if i < 64 then w.testBit i else getBit ws (i - 64) := by
  unfold getBit
  split
  · next h => rw [Nat.div_eq_of_lt h, Nat.mod_eq_of_lt h, List.getD_cons_zero]
  · next h =>
    obtain ⟨j, rfl⟩ := Nat.exists_eq_add_of_le' (Nat.le_of_not_lt h)
    rw [Nat.add_sub_cancel, Nat.add_div_right j (by decide), Nat.add_mod_right, List.getD_cons_succ]

theorem getBit_mul_add (ws : List Nat) (k j : Nat) (hj : j < 64) :
    getBit ws (64 * k + j) = (ws.getD k 0).testBit j := by
  rw [getBit, Nat.mul_add_div (by decide), Nat.mul_add_mod, Nat.div_eq_of_lt hj, Nat.mod_eq_of_lt hj,
    Nat.add_zero]

theorem bitsOf_nil : bitsOf [] = [] := rfl

theorem bitsOf_cons (w : Nat) (ws : List Nat) :
    bitsOf (w :: ws) = (List.range 64).map (fun i => w.testBit i) ++ bitsOf ws := by
  simp [bitsOf]

theorem bitsOf_length (ws : List Nat) : (bitsOf ws).length = 64 * ws.length := by
  induction ws with
  | nil => rfl
  | cons w ws ih => rw [bitsOf_cons]; simp [ih]; omega

theorem bitsOf_getD (ws : List Nat) (i : Nat) : (bitsOf ws).getD i false = getBit ws i := by
  induction ws generalizing i with
  | nil => simp [bitsOf_nil, getBit]
  | cons w ws ih =>
    rw [bitsOf_cons, getBit_cons, List.getD_eq_getElem?_getD]
    split
    · next h =>
      rw [List.getElem?_append_left (by simpa using h)]
      simp [h]
    · next h =>
      rw [List.getElem?_append_right (by simp; omega), ← ih, List.getD_eq_getElem?_getD]
      simp

theorem specBit_bitsOf (ws : List Nat) (i : Nat) : specBit (bitsOf ws) i = getBit ws i :=
  bitsOf_getD ws i

theorem specRank_eq_cnt (bits : List Bool) (i : Nat) :
    specRank bits i = cnt (fun j => bits.getD j false) i := by
  unfold specRank
  induction i with
  | zero => simp
  | succ i ih =>
    rw [List.take_add_one, List.count_append, ih, cnt_succ, List.getD_eq_getElem?_getD]
    cases h : bits[i]? with
    | none => simp
    | some b => cases b <;> simp

theorem specRank_bitsOf (ws : List Nat) (i : Nat) : specRank (bitsOf ws) i = cnt (getBit ws) i := by
  rw [specRank_eq_cnt]
  apply cnt_congr
  intro j _
  exact bitsOf_getD ws j

theorem popcount_eq_cnt (w : Nat) : popcount w = cnt w.testBit 64 :=
  (cnt_eq_length_filter _ _).symm

theorem popcount_zero : popcount 0 = 0 := by
  rw [popcount_eq_cnt]
  have : (0 : Nat).testBit = fun _ => false := by funext i; simp
  rw [this, cnt_false]

theorem popcount_mod_two_pow_cnt (w j : Nat) (hj : j ≤ 64) :
    popcount (w % 2 ^ j) = cnt w.testBit j := by
  rw [popcount_eq_cnt]
  have : (w % 2 ^ j).testBit = fun i => decide (i < j) && w.testBit i := by
    funext i; exact Nat.testBit_mod_two_pow w j i
  rw [this, cnt_and_lt, Nat.min_eq_left hj]

theorem popcount_spec (w j : Nat) (hj : j ≤ 64) :
    popcount (w % 2 ^ j) = ((List.range j).filter w.testBit).length := by
  rw [popcount_mod_two_pow_cnt w j hj, cnt_eq_length_filter]

theorem popcount_le (w : Nat) : popcount w ≤ 64 := by
  rw [popcount_eq_cnt]; exact cnt_le _ _

theorem popcount_split (w j : Nat) (hj : j ≤ 64) :
    popcount w = popcount (w % 2 ^ j) + cnt (fun i => w.testBit (j + i)) (64 - j) := by
  rw [popcount_mod_two_pow_cnt w j hj, popcount_eq_cnt, ← cnt_add]
  congr 1; exact (Nat.add_sub_cancel' hj).symm

theorem cnt_getBit_mul_add (ws : List Nat) (k j : Nat) (hj : j ≤ 64) :
    cnt (getBit ws) (64 * k + j) = cnt (getBit ws) (64 * k) + cnt (ws.getD k 0).testBit j := by
  rw [cnt_add]
  congr 1
  exact cnt_congr fun x hx => getBit_mul_add ws k x (Nat.lt_of_lt_of_le hx hj)

theorem cnt_getBit_succ_word (ws : List Nat) (k : Nat) :
    cnt (getBit ws) (64 * (k + 1)) = cnt (getBit ws) (64 * k) + popcount (ws.getD k 0) := by
  rw [Nat.mul_succ, cnt_getBit_mul_add ws k 64 (Nat.le_refl _), popcount_eq_cnt]

theorem sum_popcount_take (ws : List Nat) (k : Nat) :
    ((ws.take k).map popcount).sum = cnt (getBit ws) (64 * k) := by
  induction k with
  | zero => simp
  | succ k ih =>
    rw [cnt_getBit_succ_word, ← ih, List.take_add_one, List.map_append, List.sum_append,
      List.getD_eq_getElem?_getD]
    cases ws[k]? with
    | none => simp [popcount_zero]
    | some w => simp

theorem sum_popcount (ws : List Nat) :
    (ws.map popcount).sum = cnt (getBit ws) (64 * ws.length) := by
  rw [← sum_popcount_take, List.take_length]

theorem cnt_getBit_split (ws : List Nat) (i : Nat) :
    cnt (getBit ws) i
      = cnt (getBit ws) (64 * (i / 64)) + popcount (ws.getD (i / 64) 0 % 2 ^ (i % 64)) := by
  have hlt : i % 64 ≤ 64 := Nat.le_of_lt (Nat.mod_lt i (by decide))
  rw [popcount_mod_two_pow_cnt _ _ hlt, ← cnt_getBit_mul_add ws _ _ hlt, Nat.div_add_mod]

theorem cnt_getBit_of_ge (ws : List Nat) {i : Nat} (h : 64 * ws.length ≤ i) :
    cnt (getBit ws) i = cnt (getBit ws) (64 * ws.length) :=
  cnt_eq_of_none h (fun _ hj _ => getBit_of_ge hj)

theorem toArray_eq (ws : List Nat) : toArray ws = (List.range (64 * ws.length)).filter (getBit ws) := by
  unfold toArray
  rw [Nat.mul_comm]
  rfl

/-- the loop body of `bitmap.Of` -/
abbrev setBitStep (a : Array Nat) (i : Nat) : Array Nat :=
  a.modify (i / 64) (· ||| (1 <<< (i % 64)))

theorem foldl_setBit_size (idxs : List Nat) (a : Array Nat) :
    (idxs.foldl setBitStep a).size = a.size := by
  induction idxs generalizing a with
  | nil => rfl
  | cons i idxs ih => rw [List.foldl_cons, ih]; simp [setBitStep]

theorem foldl_setBit_testBit (idxs : List Nat) (a : Array Nat) (k b : Nat) :
    ((idxs.foldl setBitStep a)[k]?.getD 0).testBit b
      = ((a[k]?.getD 0).testBit b
          || (decide (k < a.size) && idxs.any (fun i => decide (i / 64 = k ∧ i % 64 = b)))) := by
  induction idxs generalizing a with
  | nil => simp
  | cons i idxs ih =>
    rw [List.foldl_cons, ih]
    simp only [setBitStep, Array.getElem?_modify, Array.size_modify, List.any_cons]
    by_cases hk : k < a.size
    · by_cases hik : i / 64 = k
      · by_cases hb : i % 64 = b
        · simp [hik, hb, hk, Nat.one_shiftLeft]
        · simp [hik, hb, hk, Nat.one_shiftLeft]
      · simp [hik]
    · simp [hk]

/-- `last + 1` of `bitmap.Of` -/
def lastSucc (idxs : List Nat) : Nat := match idxs.getLast? with | some l => l + 1 | none => 0

theorem ofIdx_eq (idxs : List Nat) (capa : Nat) :
    ofIdx idxs capa
      = (idxs.foldl setBitStep (Array.replicate ((max capa (lastSucc idxs) + 63) / 64) 0)).toList :=
  rfl

theorem ofIdx_length' (idxs : List Nat) (capa : Nat) :
    (ofIdx idxs capa).length = (max capa (lastSucc idxs) + 63) / 64 := by
  rw [ofIdx_eq, Array.length_toList, foldl_setBit_size, Array.size_replicate]

theorem ofIdx_lt (idxs : List Nat) (capa : Nat) : ∀ w ∈ ofIdx idxs capa, w < 2 ^ 64 := by
  intro w hw
  rw [ofIdx_eq] at hw
  obtain ⟨k, hk, rfl⟩ := List.mem_iff_getElem.mp hw
  -- no index sets a bit from 64 on: `i % 64 = b` fails
  apply Nat.lt_pow_two_of_testBit
  intro b hb
  have h := foldl_setBit_testBit idxs (Array.replicate ((max capa (lastSucc idxs) + 63) / 64) 0) k b
  have h0 : (Array.replicate ((max capa (lastSucc idxs) + 63) / 64) 0)[k]?.getD 0 = 0 := by
    rw [Array.getElem?_replicate]; split <;> rfl
  rw [← Array.getElem?_toList, List.getElem?_eq_getElem hk, Option.getD_some, h0, Nat.zero_testBit,
    Bool.false_or] at h
  rw [h, Bool.and_eq_false_imp, List.any_eq_false]
  exact fun _ x _ => by
    have := Nat.mod_lt x (by decide : 0 < 64)
    simp only [decide_eq_true_eq]; omega

theorem getBit_ofIdx (idxs : List Nat) (capa i : Nat) (hi : i < 64 * (ofIdx idxs capa).length) :
    getBit (ofIdx idxs capa) i = decide (i ∈ idxs) := by
  rw [ofIdx_length'] at hi
  have hk : i / 64 < (max capa (lastSucc idxs) + 63) / 64 := Nat.div_lt_of_lt_mul hi
  unfold getBit
  rw [ofIdx_eq, List.getD_eq_getElem?_getD, Array.getElem?_toList, foldl_setBit_testBit]
  simp only [Array.getElem?_replicate, hk, if_true, Option.getD_some, Nat.zero_testBit,
    Bool.false_or, Array.size_replicate, decide_true, Bool.true_and]
  rw [Bool.eq_iff_iff]
  simp only [List.any_eq_true, decide_eq_true_eq]
  constructor
  · rintro ⟨x, hx, h1, h2⟩
    have : x = i := by rw [← Nat.div_add_mod x 64, h1, h2, Nat.div_add_mod]
    exact this ▸ hx
  · intro h; exact ⟨i, h, rfl, rfl⟩

theorem lt_lastSucc {idxs : List Nat} (h : AscLe idxs) : ∀ i ∈ idxs, i < lastSucc idxs := by
  intro i hi
  unfold lastSucc
  cases hl : idxs.getLast? with
  | none => rw [List.getLast?_eq_none_iff.mp hl] at hi; cases hi
  | some l =>
    obtain ⟨ys, rfl⟩ := List.getLast?_eq_some_iff.mp hl
    apply Nat.lt_succ_of_le
    rcases List.mem_append.mp hi with hi | hi
    · exact (List.pairwise_append.mp h).2.2 i hi l (List.mem_singleton_self l)
    · exact Nat.le_of_eq (List.mem_singleton.mp hi)

theorem le_mul_words (n : Nat) : n ≤ 64 * ((n + 63) / 64) :=
  Nat.le_of_lt_succ (Nat.lt_of_add_lt_add_right (n := 63)
    (Nat.lt_mul_div_succ (n + 63) (Nat.succ_pos 63)))

theorem capa_le_ofIdx_length (idxs : List Nat) (capa : Nat) :
    capa ≤ 64 * (ofIdx idxs capa).length := by
  rw [ofIdx_length']
  exact Nat.le_trans (Nat.le_max_left _ _) (le_mul_words _)

theorem ofIdx_mem_lt {idxs : List Nat} (h : AscLe idxs) (capa : Nat) :
    ∀ i ∈ idxs, i < 64 * (ofIdx idxs capa).length := by
  intro i hi
  rw [ofIdx_length']
  exact Nat.lt_of_lt_of_le (lt_lastSucc h i hi)
    (Nat.le_trans (Nat.le_max_right _ _) (le_mul_words _))

/-- `bitmap.Of` in one statement: word count, word size, bits (the indexes in any order) -/
theorem testBit_ofIdx (idxs : List Nat) (capa : Nat) :
    let ws := ofIdx idxs capa
    ws.length = (max capa (match idxs.getLast? with | some l => l + 1 | none => 0) + 63) / 64
    ∧ (∀ w ∈ ws, w < 2 ^ 64)
    ∧ ∀ i, i < 64 * ws.length → (ws.getD (i / 64) 0).testBit (i % 64) = decide (i ∈ idxs) :=
  ⟨ofIdx_length' idxs capa, ofIdx_lt idxs capa, fun i hi => getBit_ofIdx idxs capa i hi⟩

/-- when no index falls outside the words, they say of EVERY position whether it is an index -/
theorem getBit_ofIdx_of_lt {idxs : List Nat} {capa : Nat}
    (h : ∀ i ∈ idxs, i < 64 * (ofIdx idxs capa).length) (i : Nat) :
    getBit (ofIdx idxs capa) i = decide (i ∈ idxs) := by
  rcases Nat.lt_or_ge i (64 * (ofIdx idxs capa).length) with hi | hi
  · exact getBit_ofIdx idxs capa i hi
  · rw [getBit_of_ge hi]
    exact (decide_eq_false fun hm => absurd (h i hm) (Nat.not_lt.mpr hi)).symm

theorem getBit_ofIdx_asc {idxs : List Nat} (h : AscLe idxs) (capa i : Nat) :
    getBit (ofIdx idxs capa) i = decide (i ∈ idxs) :=
  getBit_ofIdx_of_lt (ofIdx_mem_lt h capa) i

theorem getBit_ofIdx_capa (idxs : List Nat) (capa : Nat) (hlt : ∀ i ∈ idxs, i < capa) :
    getBit (ofIdx idxs capa) = fun i => decide (i ∈ idxs) :=
  funext (getBit_ofIdx_of_lt fun i hi =>
    Nat.lt_of_lt_of_le (hlt i hi) (capa_le_ofIdx_length idxs capa))

end Bits
