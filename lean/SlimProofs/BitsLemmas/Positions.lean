import SlimProofs.BitsLemmas.Select
import SlimModel.Slim
/-
  SlimProofs.BitsLemmas.Positions — the position bitmap of a `VLenArray`:
  `newBM (Slim.stepToPos sizes) 0 "s32"` and `select32R64` on it.  The bitmap does not see empty
  elements (`positions_filter`), so its set bits are the starts of the non-empty ones and the total;
  with positive sizes `toArray` of its words is `stepToPos sizes`, and every bitmap whose
  `select32R64` answers as `toArray` says returns the boundaries (`selectsBoundaries_of_toArray`:
  today's select table and the word-index table of old streams alike).
-/

namespace Bits

open Slim

theorem stepToPos_go_getElem? (sizes : List Nat) (p k : Nat) :
    (stepToPos.go sizes p)[k]?
      = if k ≤ sizes.length then some (p + (sizes.take k).sum) else none := by
  induction sizes generalizing p k with
  | nil => cases k <;> simp [stepToPos.go]
  | cons s ss ih =>
    cases k with
    | zero => simp [stepToPos.go]
    | succ k =>
      simp only [stepToPos.go, List.getElem?_cons_succ, ih, List.length_cons,
        Nat.add_le_add_iff_right, List.take_succ_cons, List.sum_cons, Nat.add_assoc]

theorem stepToPos_getElem? (sizes : List Nat) (k : Nat) :
    (stepToPos sizes)[k]? = if k ≤ sizes.length then some ((sizes.take k).sum) else none := by
  unfold stepToPos
  rw [stepToPos_go_getElem?, Nat.zero_add]

theorem stepToPos_go_length (sizes : List Nat) (p : Nat) :
    (stepToPos.go sizes p).length = sizes.length + 1 := by
  induction sizes generalizing p with
  | nil => simp [stepToPos.go]
  | cons s ss ih => simp [stepToPos.go, ih]

theorem stepToPos_length (sizes : List Nat) : (stepToPos sizes).length = sizes.length + 1 :=
  stepToPos_go_length sizes 0

theorem stepToPos_go_ge (sizes : List Nat) (p : Nat) : ∀ y ∈ stepToPos.go sizes p, p ≤ y := by
  induction sizes generalizing p with
  | nil => simp [stepToPos.go]
  | cons s ss ih =>
    intro y hy
    simp only [stepToPos.go, List.mem_cons] at hy
    rcases hy with rfl | hy
    · exact Nat.le_refl _
    · exact Nat.le_trans (Nat.le_add_right p s) (ih (p + s) y hy)

theorem stepToPos_go_asc (sizes : List Nat) (p : Nat) (hpos : ∀ s ∈ sizes, 0 < s) :
    Asc (stepToPos.go sizes p) := by
  induction sizes generalizing p with
  | nil => simp [stepToPos.go]
  | cons s ss ih =>
    simp only [stepToPos.go]
    rw [Asc, List.pairwise_cons]
    refine ⟨?_, ih _ (fun x hx => hpos x (List.mem_cons_of_mem _ hx))⟩
    exact fun y hy => Nat.lt_of_lt_of_le (Nat.lt_add_of_pos_right (hpos s List.mem_cons_self))
      (stepToPos_go_ge ss (p + s) y hy)

theorem stepToPos_asc (sizes : List Nat) (hpos : ∀ s ∈ sizes, 0 < s) : Asc (stepToPos sizes) :=
  stepToPos_go_asc sizes 0 hpos

/-- `pbm` returns the boundaries of the elements of sizes `sizes`: what a reader of a packed array
    needs of its position bitmap, whatever select table it carries -/
def SelectsBoundaries (pbm : BitmapMsg) (sizes : List Nat) : Prop :=
  ∀ k, k < sizes.length → select32R64 pbm k = .ok ((sizes.take k).sum, (sizes.take (k + 1)).sum)

theorem toArray_positions_pos (sizes : List Nat) (hpos : ∀ s ∈ sizes, 0 < s) :
    toArray (ofIdx (stepToPos sizes) 0) = stepToPos sizes :=
  toArray_ofIdx_of_asc (stepToPos_asc sizes hpos) 0

/-- on words whose set bits are the boundaries, any bitmap whose `select32R64` answers as
    `toArray` says (whatever its select table) returns them -/
theorem selectsBoundaries_of_toArray {b : BitmapMsg} {ws sizes : List Nat}
    (hws : toArray ws = stepToPos sizes)
    (hb : ∀ i a, (toArray ws)[i]? = some a →
      select32R64 b i = .ok (a, ((toArray ws)[i + 1]?).getD (64 * ws.length))) :
    SelectsBoundaries b sizes := by
  intro k hk
  rw [hb k ((sizes.take k).sum) (by rw [hws, stepToPos_getElem?, if_pos (Nat.le_of_lt hk)]), hws,
    stepToPos_getElem?, if_pos (Nat.succ_le_of_lt hk)]
  rfl

theorem select32R64_positions_pos (sizes : List Nat) (hpos : ∀ s ∈ sizes, 0 < s) :
    SelectsBoundaries (newBM (stepToPos sizes) 0 "s32") sizes :=
  selectsBoundaries_of_toArray (toArray_positions_pos sizes hpos) (select32R64_mk _)

theorem select32R64_positions_pos' (sizes : List Nat) (hpos : ∀ s ∈ sizes, 0 < s) (k a c : Nat)
    (ha : (stepToPos sizes)[k]? = some a) (hc : (stepToPos sizes)[k + 1]? = some c) :
    select32R64 (newBM (stepToPos sizes) 0 "s32") k = .ok (a, c) :=
  select32R64_newBM_asc (stepToPos_asc sizes hpos) 0 k a c ha hc

theorem select32R64_positions_pos_size (sizes : List Nat) (hpos : ∀ s ∈ sizes, 0 < s) (k : Nat)
    (hk : k < sizes.length) :
    select32R64 (newBM (stepToPos sizes) 0 "s32") k
      = .ok ((sizes.take k).sum, (sizes.take k).sum + sizes[k]) := by
  rw [select32R64_positions_pos sizes hpos k hk, List.take_add_one, List.sum_append,
    List.getElem?_eq_getElem hk]
  simp

theorem ofIdx_congr {l l' : List Nat} (capa : Nat) (hm : ∀ x, x ∈ l ↔ x ∈ l')
    (hl : lastSucc l = lastSucc l') : ofIdx l capa = ofIdx l' capa := by
  have hlen : (ofIdx l capa).length = (ofIdx l' capa).length := by
    rw [ofIdx_length', ofIdx_length', hl]
  apply List.ext_getElem hlen
  intro k h1 h2
  apply Nat.eq_of_testBit_eq
  intro b
  rcases Nat.lt_or_ge b 64 with hb | hb
  · have e1 := getBit_ofIdx l capa (64 * k + b) (by omega)
    have e2 := getBit_ofIdx l' capa (64 * k + b) (by omega)
    rw [getBit_mul_add _ _ _ hb, getD_eq_getElem _ _ h1] at e1
    rw [getBit_mul_add _ _ _ hb, getD_eq_getElem _ _ h2] at e2
    rw [e1, e2, decide_eq_decide]
    exact hm _
  · have hp : 2 ^ 64 ≤ 2 ^ b := Nat.pow_le_pow_right (by decide) hb
    rw [Nat.testBit_lt_two_pow (Nat.lt_of_lt_of_le (ofIdx_lt l capa _ (List.getElem_mem h1)) hp),
      Nat.testBit_lt_two_pow (Nat.lt_of_lt_of_le (ofIdx_lt l' capa _ (List.getElem_mem h2)) hp)]

theorem mem_stepToPos_go_filter (sizes : List Nat) (p x : Nat) :
    x ∈ stepToPos.go (sizes.filter (0 < ·)) p ↔ x ∈ stepToPos.go sizes p := by
  induction sizes generalizing p with
  | nil => rfl
  | cons s ss ih =>
    by_cases h : 0 < s
    · rw [List.filter_cons_of_pos (by simpa using h)]
      simp only [stepToPos.go, List.mem_cons, ih]
    · obtain rfl : s = 0 := Nat.eq_zero_of_not_pos h
      rw [List.filter_cons_of_neg (by simp), ih]
      simp only [stepToPos.go, List.mem_cons, Nat.add_zero]
      constructor
      · exact Or.inr
      · rintro (rfl | h)
        · exact List.mem_of_getElem? (stepToPos_go_getElem? ss x 0 ▸ (by simp) :
            (stepToPos.go ss x)[0]? = some x)
        · exact h

theorem getLast?_stepToPos_go (sizes : List Nat) (p : Nat) :
    (stepToPos.go sizes p).getLast? = some (p + sizes.sum) := by
  rw [List.getLast?_eq_getElem?, stepToPos_go_length, Nat.add_sub_cancel, stepToPos_go_getElem?,
    if_pos (Nat.le_refl _), List.take_length]

theorem sum_filter_pos (l : List Nat) : (l.filter (0 < ·)).sum = l.sum := by
  induction l with
  | nil => rfl
  | cons a l ih =>
    by_cases h : 0 < a
    · rw [List.filter_cons_of_pos (by simpa using h), List.sum_cons, List.sum_cons, ih]
    · rw [List.filter_cons_of_neg (by simpa using h), List.sum_cons, ih, Nat.eq_zero_of_not_pos h,
        Nat.zero_add]

theorem positions_filter (sizes : List Nat) (opt : String) :
    newBM (stepToPos sizes) 0 opt = newBM (stepToPos (sizes.filter (0 < ·))) 0 opt := by
  unfold newBM
  congr 1
  apply ofIdx_congr 0 (fun x => (mem_stepToPos_go_filter sizes 0 x).symm)
  unfold lastSucc
  rw [getLast?_stepToPos_go, getLast?_stepToPos_go, sum_filter_pos]

def distinctPos : List Nat → Nat → List Nat
  | [], p => [p]
  | s :: ss, p => if s = 0 then distinctPos ss p else p :: distinctPos ss (p + s)

theorem distinctPos_eq (sizes : List Nat) (p : Nat) :
    distinctPos sizes p = stepToPos.go (sizes.filter (0 < ·)) p := by
  induction sizes generalizing p with
  | nil => rfl
  | cons s ss ih =>
    unfold distinctPos
    split
    · next h => subst h; exact ih p
    · next h =>
      rw [List.filter_cons_of_pos (by simpa using Nat.pos_of_ne_zero h), stepToPos.go, ih]

theorem toArray_positions (sizes : List Nat) :
    toArray (ofIdx (stepToPos sizes) 0) = distinctPos sizes 0 := by
  have h := congrArg BitmapMsg.words (positions_filter sizes "s32")
  rw [newBM_words_s32, newBM_words_s32] at h
  rw [h, distinctPos_eq]
  exact toArray_positions_pos _ fun s hs => of_decide_eq_true (List.mem_filter.mp hs).2

end Bits
