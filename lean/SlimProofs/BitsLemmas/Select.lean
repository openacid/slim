import SlimProofs.BitsLemmas.Rank
/-
  SlimProofs.BitsLemmas.Select — `select32R64` on an `"s32"` bitmap, stated through the enumeration
  `toArray ws` of the set bits: it returns entry `i` and the entry after it (or the bit length).
  The second component is `nextOne`, and the next set bit from `pos` on is the entry that follows
  the `cnt … pos` set bits below `pos` (`nextOne_eq`).  For any word list and any select table that
  starts the walk early enough, and for `newBM idxs capa "s32"`.
-/

namespace Bits

theorem toArray_getElem?_eq_some (ws : List Nat) (k a : Nat) :
    (toArray ws)[k]? = some a
      ↔ a < 64 * ws.length ∧ getBit ws a = true ∧ cnt (getBit ws) a = k := by
  rw [toArray_eq]; exact filter_range_getElem?_eq_some _ _ _ _

theorem toArray_length (ws : List Nat) :
    (toArray ws).length = cnt (getBit ws) (64 * ws.length) := by
  rw [toArray_eq]; exact (cnt_eq_length_filter _ _).symm

theorem toArray_asc (ws : List Nat) : Asc (toArray ws) := by
  rw [toArray_eq]; exact asc_filter_range _ _

theorem toArray_lt (ws : List Nat) : ∀ x ∈ toArray ws, x < 64 * ws.length := by
  intro x hx
  rw [toArray_eq] at hx
  exact List.mem_range.mp (List.mem_filter.mp hx).1

theorem selectInWord_eq_some (w k off : Nat) :
    selectInWord w k = some off ↔ off < 64 ∧ w.testBit off = true ∧ cnt w.testBit off = k :=
  filter_range_getElem?_eq_some _ _ _ _

theorem indexSelect32_getElem? (ws : List Nat) (k : Nat) :
    (indexSelect32 ws)[k]?
      = if k < ((toArray ws).length + 31) / 32 then some ((toArray ws).getD (k * 32) 0) else none := by
  unfold indexSelect32
  simp only [List.getElem?_map]
  split
  · next h => simp [List.getElem?_range h]
  · next h => simp [List.getElem?_eq_none (l := List.range _) (by simpa using h)]

theorem indexSelect32_le (ws : List Nat) : ∀ r ∈ indexSelect32 ws, r ≤ 64 * ws.length := by
  refine forall_mem_of_getElem? (indexSelect32_getElem? ws) fun k _ => ?_
  rw [List.getD_eq_getElem?_getD]
  cases hg : (toArray ws)[k * 32]? with
  | none => exact Nat.zero_le _
  | some x => exact Nat.le_of_lt (toArray_lt ws x (List.mem_of_getElem? hg))

theorem indexSelect32_length (ws : List Nat) :
    (indexSelect32 ws).length = ((toArray ws).length + 31) / 32 := by
  unfold indexSelect32; simp

theorem nextOne_eq_find (ws : List Nat) (pos : Nat) :
    nextOne ws pos
      = ((List.range' pos (ws.length * 64 - pos)).find? (getBit ws)).getD (ws.length * 64) := by
  unfold nextOne
  simp only
  show _ = ((List.range' pos (ws.length * 64 - pos)).find?
    (fun i => (ws.getD (i / 64) 0).testBit (i % 64))).getD _
  generalize List.find? _ (List.range' pos (ws.length * 64 - pos)) = r
  cases r <;> rfl

/-- the scan from `pos` on yields what `toArray` lists after the `cnt … pos` set bits below `pos` -/
theorem nextOne_eq (ws : List Nat) (pos : Nat) :
    nextOne ws pos = ((toArray ws)[cnt (getBit ws) pos]?).getD (64 * ws.length) := by
  rw [nextOne_eq_find, ← List.head?_filter, Nat.mul_comm ws.length]
  rcases Nat.le_total pos (64 * ws.length) with h | h
  · have hs := List.range'_append_1 (s := 0) (m := pos) (n := 64 * ws.length - pos)
    rw [Nat.zero_add, Nat.add_sub_cancel' h, ← List.range_eq_range', ← List.range_eq_range'] at hs
    rw [toArray_eq, ← hs, List.filter_append, cnt_eq_length_filter,
      List.getElem?_append_right (Nat.le_refl _), Nat.sub_self, List.head?_eq_getElem?]
  · rw [Nat.sub_eq_zero_of_le h, cnt_getBit_of_ge ws h, ← toArray_length,
      List.getElem?_eq_none (Nat.le_refl _)]
    rfl

theorem walk_eq (b : BitmapMsg) (i W : Nat)
    (hle : ∀ m, m ≤ W → ∃ r, b.rankIndex[m]? = some r ∧ r ≤ i)
    (hgt : ∃ r, b.rankIndex[W + 1]? = some r ∧ i < r)
    (fuel wordI : Nat) (h1 : wordI ≤ W) (h2 : W - wordI < fuel) :
    select32R64.walk b i fuel wordI = .ok W := by
  induction fuel generalizing wordI with
  | zero => exact absurd h2 (Nat.not_lt_zero _)
  | succ fuel ih =>
    unfold select32R64.walk
    rcases Nat.lt_or_ge wordI W with h | h
    · obtain ⟨r, hr1, hr2⟩ := hle (wordI + 1) h
      simp only [hr1, hr2, if_true]
      exact ih (wordI + 1) h
        (Nat.lt_of_lt_of_le (Nat.sub_succ_lt_self W wordI h) (Nat.le_of_lt_succ h2))
    · obtain rfl : wordI = W := Nat.le_antisymm h1 h
      obtain ⟨r, hr1, hr2⟩ := hgt
      simp only [hr1, Nat.not_le_of_gt hr2, if_false]

/-- any select table will do whose entry names a word at or before the word of the `i`-th set
    bit: a wrong start only lengthens the walk -/
theorem select32R64_anySelect (ws sel : List Nat) (i a s0 : Nat) (ha : (toArray ws)[i]? = some a)
    (hs : sel[i / 32]? = some s0) (hle : s0 / 64 ≤ a / 64) :
    select32R64 { words := ws, rankIndex := indexRank64 ws true, selectIndex := sel } i
      = .ok (a, ((toArray ws)[i + 1]?).getD (64 * ws.length)) := by
  obtain ⟨ha1, ha2, ha3⟩ := (toArray_getElem?_eq_some ws i a).mp ha
  have hW : a / 64 < ws.length := Nat.div_lt_of_lt_mul ha1
  have hoff : a % 64 < 64 := Nat.mod_lt a (by decide)
  have hn : cnt (getBit ws) (a + 1) = i + 1 := by rw [cnt_succ, ha2, ha3]; rfl
  have hwalk : select32R64.walk { words := ws, rankIndex := indexRank64 ws true, selectIndex := sel }
      i ((indexRank64 ws true).length + 1) (s0 / 64) = .ok (a / 64) := by
    apply walk_eq
    · intro m hm
      refine ⟨cnt (getBit ws) (64 * m), ?_, ?_⟩
      · simp only
        rw [indexRank64_getElem?, if_pos (Or.inl (Nat.lt_of_le_of_lt hm hW))]
      · rw [← ha3]
        exact cnt_mono _ (Nat.le_trans (Nat.mul_le_mul_left 64 hm) (Nat.mul_div_le a 64))
    · refine ⟨cnt (getBit ws) (64 * (a / 64 + 1)), ?_, ?_⟩
      · simp only
        rw [indexRank64_getElem?, if_pos]
        rcases Nat.lt_or_ge (a / 64 + 1) ws.length with h | h
        · exact Or.inl h
        · exact Or.inr ⟨rfl, Nat.le_antisymm hW h⟩
      · rw [← ha3]
        exact cnt_succ_le_of_true ha2 (Nat.lt_mul_div_succ a (by decide))
    · exact hle
    · rw [indexRank64_length]
      exact Nat.lt_of_le_of_lt (Nat.sub_le _ _) (Nat.lt_succ_of_lt (Nat.lt_succ_of_lt hW))
  have hword : ws[a / 64]? = some ws[a / 64] := List.getElem?_eq_getElem hW
  have hbase : (indexRank64 ws true)[a / 64]? = some (cnt (getBit ws) (64 * (a / 64))) := by
    rw [indexRank64_getElem?, if_pos (Or.inl hW)]
  have hwd : ws.getD (a / 64) 0 = ws[a / 64] := getD_eq_getElem ws 0 hW
  have hsel : selectInWord ws[a / 64] (i - cnt (getBit ws) (64 * (a / 64))) = some (a % 64) := by
    rw [selectInWord_eq_some, ← hwd, ← ha3, cnt_getBit_split ws a, Nat.add_sub_cancel_left,
      popcount_mod_two_pow_cnt _ _ (Nat.le_of_lt hoff)]
    exact ⟨hoff, ha2, rfl⟩
  unfold select32R64
  simp only [hs, hwalk, hword, hbase, hsel, bind, Except.bind, pure, Except.pure,
    Nat.div_add_mod' a 64, nextOne_eq, hn]

theorem le_div_mul_32 (n : Nat) : n ≤ (n + 31) / 32 * 32 :=
  Nat.mul_comm 32 _ ▸ Nat.le_of_lt_succ (Nat.lt_of_add_lt_add_right (n := 31)
    (Nat.lt_mul_div_succ (n + 31) (Nat.succ_pos 31)))

theorem indexSelect32_entry (ws : List Nat) (i a : Nat) (ha : (toArray ws)[i]? = some a) :
    ∃ s0, (indexSelect32 ws)[i / 32]? = some s0 ∧ s0 ≤ a := by
  have hlen : i < (toArray ws).length := (List.getElem?_eq_some_iff.mp ha).1
  have hlt : i / 32 * 32 < (toArray ws).length := Nat.lt_of_le_of_lt (Nat.div_mul_le_self i 32) hlen
  refine ⟨(toArray ws)[i / 32 * 32], ?_, ?_⟩
  · have hk : i / 32 < ((toArray ws).length + 31) / 32 :=
      Nat.lt_of_mul_lt_mul_right (Nat.lt_of_lt_of_le hlt (le_div_mul_32 _))
    rw [indexSelect32_getElem?, if_pos hk, getD_eq_getElem _ 0 hlt]
  · obtain ⟨_, _, hs3⟩ := (toArray_getElem?_eq_some ws _ _).mp (List.getElem?_eq_getElem hlt)
    obtain ⟨_, ha2, ha3⟩ := (toArray_getElem?_eq_some ws _ _).mp ha
    apply Nat.le_of_not_lt
    intro h
    have := cnt_succ_le_of_true ha2 h
    rw [hs3, ha3] at this
    exact absurd (Nat.le_trans this (Nat.div_mul_le_self i 32)) (Nat.not_succ_le_self i)

theorem select32R64_mk (ws : List Nat) (i a : Nat) (ha : (toArray ws)[i]? = some a) :
    select32R64 (mk ws "s32") i = .ok (a, ((toArray ws)[i + 1]?).getD (64 * ws.length)) := by
  obtain ⟨s0, hs, hs0a⟩ := indexSelect32_entry ws i a ha
  rw [mk_s32]
  exact select32R64_anySelect ws _ i a s0 ha hs (Nat.div_le_div_right hs0a)

theorem asc_eraseDups {l : List Nat} (h : AscLe l) : Asc l.eraseDups :=
  ((h.sublist (eraseDups_spec l).2).and (eraseDups_spec l).1).imp
    fun h => Nat.lt_of_le_of_ne h.1 h.2

theorem toArray_ofIdx {idxs : List Nat} (h : AscLe idxs) (capa : Nat) :
    toArray (ofIdx idxs capa) = idxs.eraseDups := by
  rw [toArray_eq]
  apply filter_range_eq_of_asc (asc_eraseDups h)
  · intro x hx
    rw [getBit_ofIdx idxs capa x hx, List.mem_eraseDups]; simp
  · intro x hx
    rw [List.mem_eraseDups] at hx
    exact ofIdx_mem_lt h capa x hx

theorem toArray_ofIdx_of_asc {idxs : List Nat} (h : Asc idxs) (capa : Nat) :
    toArray (ofIdx idxs capa) = idxs := by
  rw [toArray_ofIdx h.ascLe, eraseDups_of_asc h]

theorem select32R64_newBM {idxs : List Nat} (h : AscLe idxs) (capa k a : Nat)
    (ha : idxs.eraseDups[k]? = some a) :
    select32R64 (newBM idxs capa "s32") k
      = .ok (a, (idxs.eraseDups[k + 1]?).getD (64 * (ofIdx idxs capa).length)) := by
  rw [← toArray_ofIdx h capa] at ha ⊢
  exact select32R64_mk _ k a ha

theorem select32R64_newBM_last {idxs : List Nat} (h : AscLe idxs) (capa k a : Nat)
    (ha : idxs.eraseDups[k]? = some a) (hl : idxs.eraseDups.length = k + 1) :
    select32R64 (newBM idxs capa "s32") k = .ok (a, 64 * (ofIdx idxs capa).length) := by
  rw [select32R64_newBM h capa k a ha, List.getElem?_eq_none (Nat.le_of_eq hl)]
  rfl

theorem select32R64_newBM_asc {idxs : List Nat} (h : Asc idxs) (capa k a c : Nat)
    (ha : idxs[k]? = some a) (hc : idxs[k + 1]? = some c) :
    select32R64 (newBM idxs capa "s32") k = .ok (a, c) := by
  rw [← eraseDups_of_asc h] at ha hc
  rw [select32R64_newBM h.ascLe capa k a ha, hc]
  rfl

end Bits
