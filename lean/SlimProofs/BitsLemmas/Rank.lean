import SlimProofs.BitsLemmas.Words
/-
  SlimProofs.BitsLemmas.Rank — `indexRank64`, `indexRank128`, `rank64`, `rank128` compute
  `specRank`/`specBit` of the bit list; for `newBM idxs capa opt` in terms of `idxs`.
-/

namespace Bits

/-! ### `List.eraseDups` on `Nat` lists (core has `eraseDups_cons` and `mem_eraseDups`) -/

theorem eraseDups_spec (l : List Nat) : l.eraseDups.Nodup ∧ l.eraseDups.Sublist l := by
  generalize hn : l.length = n
  induction n using Nat.strongRecOn generalizing l with
  | _ n ih =>
    cases l with
    | nil => exact ⟨List.nodup_nil, List.Sublist.refl _⟩
    | cons a as =>
      rw [List.eraseDups_cons]
      obtain ⟨h1, h2⟩ := ih _ (hn ▸ Nat.lt_succ_of_le (List.length_filter_le _ as) :
        (as.filter fun b => !b == a).length < n) _ rfl
      exact ⟨List.nodup_cons.mpr ⟨by simp [List.mem_eraseDups], h1⟩,
        (h2.trans List.filter_sublist).cons_cons a⟩

theorem eraseDups_of_asc {l : List Nat} (h : Asc l) : l.eraseDups = l := by
  induction l with
  | nil => rfl
  | cons a as ih =>
    have ha := List.pairwise_cons.mp h
    rw [List.eraseDups_cons]
    have : as.filter (fun b => !b == a) = as := by
      rw [List.filter_eq_self]
      intro b hb
      have := ha.1 b hb
      have hne : b ≠ a := Nat.ne_of_gt this
      simp [hne]
    rw [this, ih ha.2]

theorem cnt_mem_eq (l : List Nat) (n : Nat) :
    cnt (fun j => decide (j ∈ l)) n = (l.eraseDups.filter (· < n)).length := by
  rw [← cnt_mem_nodup (eraseDups_spec l).1]
  apply cnt_congr
  intro j _
  simp

theorem cnt_mem_asc {l : List Nat} (h : Asc l) (n : Nat) :
    cnt (fun j => decide (j ∈ l)) n = (l.filter (· < n)).length :=
  cnt_mem_nodup h.nodup n

theorem indexRank64_go_getElem? (t : Bool) (ws : List Nat) (n k : Nat) :
    (indexRank64.go t ws n)[k]?
      = if k < ws.length ∨ (t = true ∧ k = ws.length)
        then some (n + ((ws.take k).map popcount).sum) else none := by
  induction ws generalizing n k with
  | nil =>
    cases t <;> cases k <;> simp [indexRank64.go]
  | cons w ws ih =>
    cases k with
    | zero => simp [indexRank64.go]
    | succ k =>
      simp only [indexRank64.go, List.getElem?_cons_succ, ih, List.length_cons, List.take_succ_cons,
        List.map_cons, List.sum_cons, Nat.add_lt_add_iff_right, Nat.add_right_cancel_iff,
        Nat.add_assoc]

theorem indexRank64_getElem? (ws : List Nat) (t : Bool) (k : Nat) :
    (indexRank64 ws t)[k]?
      = if k < ws.length ∨ (t = true ∧ k = ws.length)
        then some (cnt (getBit ws) (64 * k)) else none := by
  unfold indexRank64
  rw [indexRank64_go_getElem?, sum_popcount_take, Nat.zero_add]

theorem indexRank64_go_length (t : Bool) (ws : List Nat) (n : Nat) :
    (indexRank64.go t ws n).length = ws.length + (if t then 1 else 0) := by
  induction ws generalizing n with
  | nil => cases t <;> simp [indexRank64.go]
  | cons w ws ih => rw [indexRank64.go, List.length_cons, ih, List.length_cons, Nat.add_right_comm]

theorem indexRank64_length (ws : List Nat) (t : Bool) :
    (indexRank64 ws t).length = ws.length + (if t then 1 else 0) :=
  indexRank64_go_length t ws 0

theorem cnt_getBit_le (ws : List Nat) (n : Nat) : cnt (getBit ws) n ≤ 64 * ws.length := by
  by_cases h : n ≤ 64 * ws.length
  · exact Nat.le_trans (cnt_le _ _) h
  · rw [cnt_getBit_of_ge ws (Nat.le_of_not_le h)]; exact cnt_le _ _

theorem indexRank64_le (ws : List Nat) (t : Bool) : ∀ r ∈ indexRank64 ws t, r ≤ 64 * ws.length :=
  forall_mem_of_getElem? (indexRank64_getElem? ws t) fun _ _ => cnt_getBit_le ws _

theorem mk_r64 (ws : List Nat) :
    mk ws "r64" = { words := ws, rankIndex := indexRank64 ws false } := rfl

theorem mk_s32 (ws : List Nat) :
    mk ws "s32" = { words := ws, rankIndex := indexRank64 ws true, selectIndex := indexSelect32 ws } :=
  rfl

theorem mk_r128 (ws : List Nat) :
    mk ws "r128" = { words := ws, rankIndex := indexRank128 ws } := rfl

theorem mk_words (ws : List Nat) (opt : String) : (mk ws opt).words = ws := by
  unfold mk
  split <;> rfl

theorem newBM_words (idxs : List Nat) (capa : Nat) (opt : String) :
    (newBM idxs capa opt).words = ofIdx idxs capa := mk_words _ opt

theorem newBM_words_s32 (idxs : List Nat) (capa : Nat) :
    (newBM idxs capa "s32").words = ofIdx idxs capa := newBM_words idxs capa "s32"

theorem rank64_of_index (ws : List Nat) (t : Bool) (sel : List Nat) (i : Nat)
    (hi : i < 64 * ws.length) :
    rank64 { words := ws, rankIndex := indexRank64 ws t, selectIndex := sel } i
      = .ok (cnt (getBit ws) i, getBit ws i) := by
  have hk : i / 64 < ws.length := Nat.div_lt_of_lt_mul hi
  unfold rank64
  simp only [indexRank64_getElem?, hk, true_or, if_true, List.getElem?_eq_getElem hk]
  rw [cnt_getBit_split ws i, getBit, getD_eq_getElem ws 0 hk]

theorem rank64_of_index_error (ws : List Nat) (t : Bool) (sel : List Nat) (i : Nat)
    (hi : 64 * ws.length ≤ i) :
    rank64 { words := ws, rankIndex := indexRank64 ws t, selectIndex := sel } i
      = .error (.panic "index out of range (Rank64)") := by
  have hk : ws.length ≤ i / 64 := (Nat.le_div_iff_mul_le (by decide)).mpr (Nat.mul_comm 64 _ ▸ hi)
  unfold rank64
  simp only [List.getElem?_eq_none hk]

theorem rank64_ok_inv (b : BitmapMsg) (i R : Nat) (B : Bool) (h : rank64 b i = .ok (R, B)) :
    ∃ w n, b.words[i / 64]? = some w ∧ b.rankIndex[i / 64]? = some n ∧
      R = n + popcount (w % 2 ^ (i % 64)) ∧ B = w.testBit (i % 64) := by
  unfold rank64 at h
  split at h
  · next w n hw hn =>
    cases h
    exact ⟨w, n, hw, hn, rfl, rfl⟩
  · cases h

theorem rank64_mk_r64 (ws : List Nat) (i : Nat) (hi : i < 64 * ws.length) :
    rank64 (mk ws "r64") i = .ok (specRank (bitsOf ws) i, specBit (bitsOf ws) i) := by
  rw [mk_r64, specRank_bitsOf, specBit_bitsOf]
  exact rank64_of_index ws false [] i hi

theorem rank64_mk_s32 (ws : List Nat) (i : Nat) (hi : i < 64 * ws.length) :
    rank64 (mk ws "s32") i = .ok (specRank (bitsOf ws) i, specBit (bitsOf ws) i) := by
  rw [mk_s32, specRank_bitsOf, specBit_bitsOf]
  exact rank64_of_index ws true _ i hi

theorem cnt_getBit_ofIdx (idxs : List Nat) (capa i : Nat) (hi : i ≤ 64 * (ofIdx idxs capa).length) :
    cnt (getBit (ofIdx idxs capa)) i = ((idxs.eraseDups).filter (· < i)).length := by
  rw [← cnt_mem_eq]
  apply cnt_congr
  intro j hj
  exact getBit_ofIdx idxs capa j (Nat.lt_of_lt_of_le hj hi)

theorem getBit_ofIdx_filter_range (q : Nat → Bool) (n j : Nat) (hj : j < n) :
    getBit (ofIdx ((List.range n).filter q) n) j = q j := by
  rw [getBit_ofIdx _ _ _ (Nat.lt_of_lt_of_le hj (capa_le_ofIdx_length _ _))]
  simp [hj]

theorem cnt_getBit_ofIdx_filter_range (q : Nat → Bool) (n m : Nat) (hm : m ≤ n) :
    cnt (getBit (ofIdx ((List.range n).filter q) n)) m = cnt q m :=
  cnt_congr fun j hj => getBit_ofIdx_filter_range q n j (Nat.lt_of_lt_of_le hj hm)

/-- all ones of `ofIdx`: strictly ascending indexes all lie inside the bitmap -/
theorem cnt_getBit_ofIdx_all {idxs : List Nat} (h : Asc idxs) (capa : Nat) :
    cnt (getBit (ofIdx idxs capa)) (64 * (ofIdx idxs capa).length) = idxs.length := by
  rw [cnt_getBit_ofIdx idxs capa _ (Nat.le_refl _), eraseDups_of_asc h, List.filter_eq_self.mpr]
  intro x hx
  exact decide_eq_true (ofIdx_mem_lt h.ascLe capa x hx)

theorem specRank_ofIdx_asc {idxs : List Nat} (h : Asc idxs) (capa i : Nat)
    (hi : i ≤ 64 * (ofIdx idxs capa).length) :
    specRank (bitsOf (ofIdx idxs capa)) i = (idxs.filter (· < i)).length := by
  rw [specRank_bitsOf, cnt_getBit_ofIdx idxs capa i hi, eraseDups_of_asc h]

theorem specBit_ofIdx (idxs : List Nat) (capa i : Nat) (hi : i < 64 * (ofIdx idxs capa).length) :
    specBit (bitsOf (ofIdx idxs capa)) i = decide (i ∈ idxs) := by
  rw [specBit_bitsOf, getBit_ofIdx idxs capa i hi]

theorem rankIndex_newBM_r64 (idxs : List Nat) (capa k : Nat) :
    (newBM idxs capa "r64").rankIndex[k]?
      = if k < (ofIdx idxs capa).length
        then some (((idxs.eraseDups).filter (· < 64 * k)).length) else none := by
  unfold newBM
  rw [mk_r64]; simp only
  rw [indexRank64_getElem?]
  simp only [Bool.false_eq_true, false_and, or_false]
  split
  · next h => rw [cnt_getBit_ofIdx idxs capa _ (Nat.mul_le_mul_left 64 (Nat.le_of_lt h))]
  · rfl

theorem rankIndex_newBM_s32 (idxs : List Nat) (capa k : Nat) :
    (newBM idxs capa "s32").rankIndex[k]?
      = if k ≤ (ofIdx idxs capa).length
        then some (((idxs.eraseDups).filter (· < 64 * k)).length) else none := by
  unfold newBM
  rw [mk_s32]; simp only
  rw [indexRank64_getElem?]
  simp only [true_and, ← Nat.le_iff_lt_or_eq]
  split
  · next h => rw [cnt_getBit_ofIdx idxs capa _ (Nat.mul_le_mul_left 64 h)]
  · rfl

theorem rank_ofIdx (idxs : List Nat) (capa i : Nat) (hi : i < 64 * (ofIdx idxs capa).length) :
    (cnt (getBit (ofIdx idxs capa)) i, getBit (ofIdx idxs capa) i)
      = (((idxs.eraseDups).filter (· < i)).length, decide (i ∈ idxs)) := by
  rw [cnt_getBit_ofIdx idxs capa i (Nat.le_of_lt hi), getBit_ofIdx idxs capa i hi]

theorem rank64_newBM (idxs : List Nat) (capa i : Nat) (hi : i < 64 * (ofIdx idxs capa).length) :
    rank64 (newBM idxs capa "r64") i
      = .ok (((idxs.eraseDups).filter (· < i)).length, decide (i ∈ idxs)) := by
  unfold newBM
  rw [mk_r64, rank64_of_index _ _ _ _ hi, rank_ofIdx idxs capa i hi]

theorem rank64_newBM_asc {idxs : List Nat} (h : Asc idxs) (capa i : Nat)
    (hi : i < 64 * (ofIdx idxs capa).length) :
    rank64 (newBM idxs capa "r64") i
      = .ok ((idxs.filter (· < i)).length, decide (i ∈ idxs)) := by
  rw [rank64_newBM idxs capa i hi, eraseDups_of_asc h]

theorem rank64_newBM_s32_asc {idxs : List Nat} (h : Asc idxs) (capa i : Nat)
    (hi : i < 64 * (ofIdx idxs capa).length) :
    rank64 (newBM idxs capa "s32") i
      = .ok ((idxs.filter (· < i)).length, decide (i ∈ idxs)) := by
  unfold newBM
  rw [mk_s32, rank64_of_index _ _ _ _ hi, rank_ofIdx idxs capa i hi, eraseDups_of_asc h]

/-- out of range = Go panic -/
theorem rank64_newBM_error (idxs : List Nat) (capa i : Nat)
    (hi : 64 * (ofIdx idxs capa).length ≤ i) :
    rank64 (newBM idxs capa "r64") i = .error (.panic "index out of range (Rank64)") :=
  rank64_of_index_error _ false [] i hi

theorem rank64_newBM_s32_error (idxs : List Nat) (capa i : Nat)
    (hi : 64 * (ofIdx idxs capa).length ≤ i) :
    rank64 (newBM idxs capa "s32") i = .error (.panic "index out of range (Rank64)") :=
  rank64_of_index_error _ true _ i hi

theorem indexRank128_go_getElem? (ws : List Nat) (n k : Nat) :
    (indexRank128.go ws n)[k]?
      = if k ≤ ws.length / 2 then some (n + ((ws.take (2 * k)).map popcount).sum) else none := by
  fun_induction indexRank128.go ws n generalizing k with
  | case1 n => cases k <;> simp
  | case2 w n => cases k <;> simp
  | case3 w1 w2 ws n ih =>
    cases k with
    | zero => simp
    | succ k =>
      have e : (w1 :: w2 :: ws).length / 2 = ws.length / 2 + 1 :=
        Nat.add_div_right _ (Nat.zero_lt_succ 1)
      rw [List.getElem?_cons_succ, ih, e]
      simp only [Nat.add_le_add_iff_right, Nat.mul_succ, List.take_succ_cons, List.map_cons,
        List.sum_cons, Nat.add_assoc]

theorem indexRank128_getElem? (ws : List Nat) (k : Nat) :
    (indexRank128 ws)[k]?
      = if k ≤ ws.length / 2 then some (cnt (getBit ws) (64 * (2 * k))) else none := by
  unfold indexRank128
  rw [indexRank128_go_getElem?, sum_popcount_take, Nat.zero_add]

theorem indexRank128_go_length (ws : List Nat) (n : Nat) :
    (indexRank128.go ws n).length = ws.length / 2 + 1 := by
  fun_induction indexRank128.go ws n with
  | case1 n => rfl
  | case2 w n => simp
  | case3 w1 w2 ws n ih =>
    rw [List.length_cons, ih, List.length_cons, List.length_cons, Nat.add_assoc ws.length,
      Nat.add_div_right _ (by decide)]

theorem indexRank128_length (ws : List Nat) : (indexRank128 ws).length = ws.length / 2 + 1 :=
  indexRank128_go_length ws 0

theorem indexRank128_le (ws : List Nat) : ∀ r ∈ indexRank128 ws, r ≤ 64 * ws.length :=
  forall_mem_of_getElem? (indexRank128_getElem? ws) fun _ _ => cnt_getBit_le ws _

theorem two_mul_succ_div_two (W : Nat) : 2 * ((W + 1) / 2) = W + W % 2 := by
  have e := Nat.div_add_mod W 2
  rw [Nat.add_div (by decide : 0 < 2)]
  generalize W / 2 = q at e ⊢
  rcases Nat.mod_two_eq_zero_or_one W with h | h
  · rw [h] at e ⊢; exact e
  · rw [h] at e ⊢; exact congrArg (· + 1) e

/-- the entry `rank128` reads for word `W` counts up to the pair boundary nearest to `W`: for a
    right word it includes the word -/
theorem indexRank128_near (ws : List Nat) (W : Nat) (hW : W < ws.length) :
    (indexRank128 ws)[(W + 1) / 2]?
      = some (cnt (getBit ws) (64 * W) + W % 2 * popcount (ws.getD W 0)) := by
  have hb : (W + 1) / 2 ≤ ws.length / 2 :=
    (Nat.le_div_iff_mul_le (by decide)).mpr (Nat.le_trans (Nat.div_mul_le_self _ _) hW)
  rw [indexRank128_getElem?, if_pos hb, two_mul_succ_div_two]
  rcases Nat.mod_two_eq_zero_or_one W with h | h
  · rw [h, Nat.zero_mul]; rfl
  · rw [h, cnt_getBit_succ_word, Nat.one_mul]

theorem rank128_mk_cnt (ws : List Nat) (i : Nat) (hi : i < 64 * ws.length) :
    rank128 (mk ws "r128") i = .ok (cnt (getBit ws) i, getBit ws i) := by
  have hk : i / 64 < ws.length := Nat.div_lt_of_lt_mul hi
  have hidx : (i + 64) / 128 = (i / 64 + 1) / 2 := by
    rw [← Nat.add_div_right i (by decide : 0 < 64), Nat.div_div_eq_div_mul]
  have hw : ws.getD (i / 64) 0 = ws[i / 64] := getD_eq_getElem ws 0 hk
  rw [mk_r128]
  unfold rank128
  simp only [hidx, indexRank128_near ws _ hk, List.getElem?_eq_getElem hk, hw]
  rw [Nat.add_sub_cancel, cnt_getBit_split ws i, getBit, hw]

theorem rank128_mk_error (ws : List Nat) (i : Nat) (hi : 64 * ws.length ≤ i) :
    rank128 (mk ws "r128") i = .error (.panic "index out of range (Rank128)") := by
  have hk : ws.length ≤ i / 64 := (Nat.le_div_iff_mul_le (by decide)).mpr (Nat.mul_comm 64 _ ▸ hi)
  rw [mk_r128]
  unfold rank128
  simp only [List.getElem?_eq_none hk]

theorem rank128_ok_inv (b : BitmapMsg) (i R : Nat) (B : Bool) (h : rank128 b i = .ok (R, B)) :
    ∃ w, b.words[i / 64]? = some w ∧ B = w.testBit (i % 64) := by
  unfold rank128 at h
  split at h
  · next w n hw hn =>
    cases h
    exact ⟨w, hw, rfl⟩
  · cases h

theorem rank128_newBM (idxs : List Nat) (capa i : Nat) (hi : i < 64 * (ofIdx idxs capa).length) :
    rank128 (newBM idxs capa "r128") i
      = .ok (((idxs.eraseDups).filter (· < i)).length, decide (i ∈ idxs)) := by
  unfold newBM
  rw [rank128_mk_cnt _ _ hi, rank_ofIdx idxs capa i hi]

theorem rank128_newBM_asc {idxs : List Nat} (h : Asc idxs) (capa i : Nat)
    (hi : i < 64 * (ofIdx idxs capa).length) :
    rank128 (newBM idxs capa "r128") i
      = .ok ((idxs.filter (· < i)).length, decide (i ∈ idxs)) := by
  rw [rank128_newBM idxs capa i hi, eraseDups_of_asc h]

theorem rank128_newBM_error (idxs : List Nat) (capa i : Nat)
    (hi : 64 * (ofIdx idxs capa).length ≤ i) :
    rank128 (newBM idxs capa "r128") i = .error (.panic "index out of range (Rank128)") :=
  rank128_mk_error _ i hi

theorem rankIndex_newBM_r128 (idxs : List Nat) (capa k : Nat) :
    (newBM idxs capa "r128").rankIndex[k]?
      = if k ≤ (ofIdx idxs capa).length / 2
        then some (((idxs.eraseDups).filter (· < 64 * (2 * k))).length) else none := by
  unfold newBM
  rw [mk_r128]; simp only
  rw [indexRank128_getElem?]
  split
  · next h =>
    rw [cnt_getBit_ofIdx idxs capa _
      (Nat.mul_le_mul_left 64 (Nat.le_trans (Nat.mul_le_mul_left 2 h) (Nat.mul_div_le _ 2)))]
  · rfl

end Bits
