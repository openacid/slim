import SlimModel.Bits
/-
  SlimProofs.BitsLemmas.Count — counting over `List.range` (`cnt p n` = number of `j < n` with
  `p j`) and strictly ascending lists.  Nothing here mentions bitmaps.
-/

namespace Bits

abbrev Asc (l : List Nat) : Prop := l.Pairwise (· < ·)
abbrev AscLe (l : List Nat) : Prop := l.Pairwise (· ≤ ·)

theorem getD_eq_getElem {α : Type} (l : List α) (d : α) {i : Nat} (h : i < l.length) :
    l.getD i d = l[i] :=
  (List.getElem_eq_getD d).symm

def cnt (p : Nat → Bool) (n : Nat) : Nat := (List.range n).countP p

theorem cnt_eq_length_filter (p : Nat → Bool) (n : Nat) :
    cnt p n = ((List.range n).filter p).length := List.countP_eq_length_filter

@[simp] theorem cnt_zero (p : Nat → Bool) : cnt p 0 = 0 := by simp [cnt]

theorem cnt_succ (p : Nat → Bool) (n : Nat) :
    cnt p (n + 1) = cnt p n + (if p n then 1 else 0) := by
  simp [cnt, List.range_succ, List.countP_cons]

theorem cnt_last (p : Nat → Bool) {n : Nat} (hn : 0 < n) :
    cnt p (n - 1) + (if p (n - 1) then 1 else 0) = cnt p n := by
  have h := cnt_succ p (n - 1)
  rw [Nat.sub_add_cancel hn] at h
  exact h.symm

theorem cnt_add (p : Nat → Bool) (a b : Nat) :
    cnt p (a + b) = cnt p a + cnt (fun j => p (a + j)) b := by
  simp [cnt, List.range_add, List.countP_map, Function.comp_def]

theorem cnt_le (p : Nat → Bool) (n : Nat) : cnt p n ≤ n := by
  induction n with
  | zero => simp
  | succ n ih =>
    rw [cnt_succ]
    split
    · exact Nat.succ_le_succ ih
    · exact Nat.le_succ_of_le ih

theorem cnt_mono (p : Nat → Bool) {m n : Nat} (h : m ≤ n) : cnt p m ≤ cnt p n := by
  obtain ⟨d, rfl⟩ := Nat.exists_eq_add_of_le h
  rw [cnt_add]; exact Nat.le_add_right _ _

theorem cnt_congr {p q : Nat → Bool} {n : Nat} (h : ∀ j, j < n → p j = q j) :
    cnt p n = cnt q n := by
  apply List.countP_congr
  intro x hx
  rw [h x (List.mem_range.mp hx)]

theorem cnt_succ_le_of_true {p : Nat → Bool} {m n : Nat} (hp : p m = true) (hmn : m < n) :
    cnt p m + 1 ≤ cnt p n := by
  have h1 : cnt p (m + 1) ≤ cnt p n := cnt_mono p hmn
  rw [cnt_succ, hp] at h1
  simpa using h1

theorem cnt_eq_of_none {p : Nat → Bool} {m n : Nat} (hmn : m ≤ n)
    (h : ∀ j, m ≤ j → j < n → p j = false) : cnt p n = cnt p m := by
  obtain ⟨d, rfl⟩ := Nat.exists_eq_add_of_le hmn
  rw [cnt_add]
  have : cnt (fun j => p (m + j)) d = 0 := by
    simp only [cnt, List.countP_eq_zero, List.mem_range]
    intro a ha
    simp [h (m + a) (Nat.le_add_right m a) (Nat.add_lt_add_left ha m)]
  rw [this, Nat.add_zero]

theorem cnt_false (n : Nat) : cnt (fun _ => false) n = 0 := by
  simp [cnt]

theorem cnt_and_lt (p : Nat → Bool) (j n : Nat) :
    cnt (fun i => decide (i < j) && p i) n = cnt p (min j n) := by
  have hlt : ∀ m, m ≤ j → cnt (fun i => decide (i < j) && p i) m = cnt p m := fun m hm =>
    cnt_congr fun i hi => by rw [decide_eq_true (Nat.lt_of_lt_of_le hi hm), Bool.true_and]
  rcases Nat.le_total n j with h | h
  · rw [Nat.min_eq_right h, hlt n h]
  · rw [Nat.min_eq_left h, ← hlt j (Nat.le_refl j)]
    exact cnt_eq_of_none h fun i hi _ => by
      rw [decide_eq_false (Nat.not_lt.mpr hi), Bool.false_and]

theorem cnt_eq_countP_take {α : Type} (l : List α) (p : α → Bool) (q : Nat → Bool)
    (hq : ∀ i a, l[i]? = some a → q i = p a) (j : Nat) (hj : j ≤ l.length) :
    cnt q j = (l.take j).countP p := by
  induction j with
  | zero => simp
  | succ j ih =>
    have hlt : j < l.length := hj
    rw [cnt_succ, ih (Nat.le_of_lt hj), List.take_add_one, List.countP_append,
      List.getElem?_eq_getElem hlt, hq j l[j] (List.getElem?_eq_getElem hlt)]
    simp [List.countP_cons]

theorem filter_range_getElem?_eq_some (p : Nat → Bool) (n k a : Nat) :
    ((List.range n).filter p)[k]? = some a ↔ a < n ∧ p a = true ∧ cnt p a = k := by
  induction n with
  | zero => simp
  | succ n ih =>
    rw [List.range_succ, List.filter_append, List.getElem?_append, ← cnt_eq_length_filter]
    split
    · next hk =>
      rw [ih]
      constructor
      · rintro ⟨h1, h2, h3⟩; exact ⟨Nat.lt_succ_of_lt h1, h2, h3⟩
      · rintro ⟨h1, h2, h3⟩
        refine ⟨Nat.lt_of_le_of_ne (Nat.le_of_lt_succ h1) fun e => ?_, h2, h3⟩
        rw [← e, h3] at hk
        exact Nat.lt_irrefl k hk
    · next hk =>
      constructor
      · intro h
        obtain ⟨hm, hp⟩ := List.mem_filter.mp (List.mem_of_getElem? h)
        obtain rfl := List.mem_singleton.mp hm
        have hl := (List.getElem?_eq_some_iff.mp h).1
        rw [List.filter_cons, hp] at hl
        exact ⟨Nat.lt_succ_self a, hp, by simp at hl; omega⟩
      · rintro ⟨h1, h2, h3⟩
        obtain rfl : a = n := Nat.le_antisymm (Nat.le_of_lt_succ h1)
          (Nat.le_of_not_lt fun h => hk (h3 ▸ Nat.lt_of_succ_le (cnt_succ_le_of_true h2 h)))
        rw [h3, Nat.sub_self, List.filter_cons, h2]; rfl

/-- both sides are the lengths of duplicate-free lists of the same numbers -/
theorem cnt_mem_nodup {d : List Nat} (hd : d.Nodup) (n : Nat) :
    cnt (fun j => decide (j ∈ d)) n = (d.filter (· < n)).length := by
  rw [cnt_eq_length_filter]
  apply List.Perm.length_eq
  rw [List.perm_ext_iff_of_nodup (List.nodup_range.filter _) (hd.filter _)]
  intro a
  simp only [List.mem_filter, List.mem_range, decide_eq_true_eq, and_comm]

theorem Asc.nodup {l : List Nat} (h : Asc l) : l.Nodup := by
  apply List.Pairwise.imp _ h
  exact fun hab => Nat.ne_of_lt hab

theorem Asc.ascLe {l : List Nat} (h : Asc l) : AscLe l := by
  apply List.Pairwise.imp _ h
  exact fun hab => Nat.le_of_lt hab

theorem Asc.ext {l₁ l₂ : List Nat} (h₁ : Asc l₁) (h₂ : Asc l₂) (h : ∀ x, x ∈ l₁ ↔ x ∈ l₂) :
    l₁ = l₂ :=
  ((List.perm_ext_iff_of_nodup h₁.nodup h₂.nodup).mpr h).eq_of_pairwise
    (fun _ _ _ _ hab hba => absurd hab (Nat.lt_asymm hba)) h₁ h₂

theorem asc_filter_range (p : Nat → Bool) (n : Nat) : Asc ((List.range n).filter p) := by
  apply List.Pairwise.filter
  exact List.pairwise_lt_range

theorem filter_range_eq_of_asc {d : List Nat} (hd : Asc d) (n : Nat) (p : Nat → Bool)
    (hp : ∀ x, x < n → (p x = true ↔ x ∈ d)) (hlt : ∀ x ∈ d, x < n) :
    (List.range n).filter p = d := by
  apply Asc.ext (asc_filter_range p n) hd
  intro x
  simp only [List.mem_filter, List.mem_range]
  constructor
  · rintro ⟨h1, h2⟩; exact (hp x h1).mp h2
  · intro h; exact ⟨hlt x h, (hp x (hlt x h)).mpr h⟩

theorem forall_mem_of_getElem? {l : List Nat} {c : Nat → Prop} [DecidablePred c] {f : Nat → Nat}
    {P : Nat → Prop} (h : ∀ k, l[k]? = if c k then some (f k) else none) (hP : ∀ k, c k → P (f k)) :
    ∀ r ∈ l, P r := by
  intro r hr
  obtain ⟨k, hk⟩ := List.mem_iff_getElem?.mp hr
  rw [h] at hk
  split at hk
  · next hc => cases hk; exact hP k hc
  · cases hk

end Bits
