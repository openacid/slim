import SlimProofs.WireVarint
import SlimModel.Wire
/-
  SlimProofs.SizeVarint — arithmetic of `Wire.sizeVarint` and of the field-size functions
  (`sizePackedF`, `sizeBytesF`, `sizeVarintF`, `sizeMsgF`): monotonicity, sub-additivity, explicit
  upper bounds, and what a bounded change of the data does to a size (`Grow`).
-/

namespace SizeV

open Wire

theorem sizeVarint_pos (n : Nat) : 1 ≤ sizeVarint n := by
  rw [sizeVarint]; split <;> omega

theorem sizeVarint_le_of_lt {k : Nat} : ∀ {x}, 0 < k → x < 128 ^ k → sizeVarint x ≤ k := by
  induction k with
  | zero => intro x hk; exact absurd hk (Nat.lt_irrefl 0)
  | succ k ih =>
    intro x _ hx
    by_cases h : x < 128
    · rw [sizeVarint_lt h]; exact Nat.le_add_left 1 _
    · have hk : 0 < k := Nat.pos_of_ne_zero fun hk => h (by rw [hk] at hx; exact hx)
      have hx' : x < 128 * 128 ^ k := by rw [Nat.mul_comm, ← Nat.pow_succ]; exact hx
      rw [sizeVarint_ge (Nat.le_of_not_lt h), Nat.add_comm]
      exact Nat.succ_le_succ (ih hk (Nat.div_lt_of_lt_mul hx'))

theorem lt_pow_sizeVarint (x : Nat) : x < 128 ^ sizeVarint x := by
  induction x using Nat.strongRecOn with
  | _ x ih =>
    by_cases h : x < 128
    · rw [sizeVarint_lt h]; exact h
    · rw [sizeVarint_ge (Nat.le_of_not_lt h), Nat.pow_add, Nat.pow_one]
      have := ih (x / 128) (Nat.div_lt_self (by omega) (by decide))
      omega

/-- the size is the least `k` with `x < 128^k`, so it is monotone -/
theorem sizeVarint_mono {a b : Nat} (h : a ≤ b) : sizeVarint a ≤ sizeVarint b :=
  sizeVarint_le_of_lt (sizeVarint_pos b) (Nat.lt_of_le_of_lt h (lt_pow_sizeVarint b))

theorem add_lt_mul {a b X Y : Nat} (ha : a < X) (hb : b < Y) (hX : 2 ≤ X) (hY : 2 ≤ Y) :
    a + b < X * Y := by
  have h1 := Nat.mul_le_mul_left X hY
  have h2 := Nat.mul_le_mul_right Y hX
  omega

/-- sub-additivity: `a < 128^i` and `b < 128^j` give `a + b < 128^(i+j)` -/
theorem sizeVarint_add_le (a b : Nat) : sizeVarint (a + b) ≤ sizeVarint a + sizeVarint b := by
  have two_le : ∀ x, 2 ≤ 128 ^ sizeVarint x := fun x =>
    Nat.le_trans (by decide) (Nat.pow_le_pow_right (by decide : 0 < 128) (sizeVarint_pos x))
  apply sizeVarint_le_of_lt (Nat.add_pos_left (sizeVarint_pos a) _)
  rw [Nat.pow_add]
  exact add_lt_mul (lt_pow_sizeVarint a) (lt_pow_sizeVarint b) (two_le a) (two_le b)

theorem sizeVarint_succ_le (a : Nat) : sizeVarint (a + 1) ≤ sizeVarint a + 1 := by
  have := sizeVarint_add_le a 1
  rwa [sizeVarint_lt (by decide : 1 < 128)] at this

theorem sizeVarint_le1 {x : Nat} (h : x < 2 ^ 7) : sizeVarint x ≤ 1 :=
  Nat.le_of_eq (sizeVarint_lt h)
theorem sizeVarint_le2 {x : Nat} (h : x < 2 ^ 14) : sizeVarint x ≤ 2 :=
  sizeVarint_le_of_lt (by decide) h
theorem sizeVarint_le3 {x : Nat} (h : x < 2 ^ 21) : sizeVarint x ≤ 3 :=
  sizeVarint_le_of_lt (by decide) h
theorem sizeVarint_le5 {x : Nat} (h : x < 2 ^ 35) : sizeVarint x ≤ 5 :=
  sizeVarint_le_of_lt (by decide) h
theorem sizeVarint_le10 {x : Nat} (h : x < 2 ^ 64) : sizeVarint x ≤ 10 :=
  sizeVarint_le_of_lt (by decide) (Nat.lt_of_lt_of_le h (by decide))

theorem packedSize_nil : packedSize [] = 0 := rfl

theorem packedSize_cons (x : Nat) (l : List Nat) : packedSize (x :: l) = sizeVarint x + packedSize l := by
  simp [packedSize]

theorem packedSize_le (l : List Nat) (c : Nat) (h : ∀ x ∈ l, sizeVarint x ≤ c) :
    packedSize l ≤ c * l.length := by
  induction l with
  | nil => simp [packedSize]
  | cons x l ih =>
    rw [packedSize_cons, List.length_cons, Nat.mul_succ]
    have := h x (by simp)
    have := ih (fun y hy => h y (List.mem_cons_of_mem _ hy))
    omega

/-- the form of every statement about what a change of the data does to a size -/
def Grow (k x y : Nat) : Prop := x ≤ y ∧ y ≤ x + k

theorem Grow.refl (x : Nat) : Grow 0 x x := ⟨Nat.le_refl x, Nat.le_refl x⟩

theorem Grow.add {j k a a' b b' : Nat} (h : Grow j a a') (g : Grow k b b') :
    Grow (j + k) (a + b) (a' + b') := by
  unfold Grow at *
  omega

theorem Grow.mono {k k' x y : Nat} (h : Grow k x y) (hk : k ≤ k') : Grow k' x y :=
  ⟨h.1, Nat.le_trans h.2 (Nat.add_le_add_left hk x)⟩

/-- a payload that grows by at most `k` may lengthen its length prefix by `sizeVarint k` -/
theorem Grow.msgF (fno : Nat) {k s s' : Nat} (h : Grow k s s') :
    Grow (k + sizeVarint k) (sizeMsgF fno (some s)) (sizeMsgF fno (some s')) := by
  have m1 := sizeVarint_mono h.1
  have m2 := sizeVarint_mono h.2
  have m3 := sizeVarint_add_le s k
  unfold Grow at *
  simp only [sizeMsgF]
  omega

theorem Grow.packedF (fno : Nat) {l l' : List Nat} (hnil : l = [] ↔ l' = []) {k : Nat}
    (h : Grow k (packedSize l) (packedSize l')) :
    Grow (k + sizeVarint k) (sizePackedF fno l) (sizePackedF fno l') := by
  unfold sizePackedF
  by_cases hl : l = []
  · rw [if_pos hl, if_pos (hnil.mp hl)]
    exact ⟨Nat.le_refl 0, Nat.zero_le _⟩
  · rw [if_neg hl, if_neg (fun h => hl (hnil.mpr h))]
    exact h.msgF fno

def Near : List Nat → List Nat → Prop
  | [], [] => True
  | x :: l, x' :: l' => x ≤ x' ∧ x' ≤ x + 1 ∧ Near l l'
  | _, _ => False

theorem Near.refl (l : List Nat) : Near l l := by
  induction l with
  | nil => trivial
  | cons x l ih => exact ⟨Nat.le_refl _, by omega, ih⟩

theorem Near.length_eq {l l' : List Nat} (h : Near l l') : l.length = l'.length := by
  induction l generalizing l' with
  | nil => cases l' with
    | nil => rfl
    | cons _ _ => cases h
  | cons x l ih => cases l' with
    | nil => cases h
    | cons x' l' => simp [ih h.2.2]

theorem Near.packedSize {l l' : List Nat} (h : Near l l') :
    Grow l.length (packedSize l) (packedSize l') := by
  induction l generalizing l' with
  | nil => cases l' with
    | nil => exact Grow.refl _
    | cons _ _ => cases h
  | cons x l ih => cases l' with
    | nil => cases h
    | cons x' l' =>
      obtain ⟨h1, h2, h3⟩ := h
      rw [packedSize_cons, packedSize_cons, List.length_cons, Nat.add_comm]
      exact Grow.add ⟨sizeVarint_mono h1, Nat.le_trans (sizeVarint_mono h2) (sizeVarint_succ_le x)⟩
        (ih h3)

theorem Near.eq_nil_iff {l l' : List Nat} (h : Near l l') : l = [] ↔ l' = [] := by
  cases l <;> cases l' <;> simp_all [Near]

/-! ### upper bounds: `a` bytes of tag, `c` bytes of length prefix, at most `N` bytes of payload -/

theorem flatMap_length_le {α : Type} (f : α → Bytes) (c : Nat) (l : List α) (h : ∀ a ∈ l, (f a).length ≤ c) :
    (l.flatMap f).length ≤ c * l.length := by
  induction l with
  | nil => simp
  | cons a as ih =>
    have ha := h a (by simp)
    have := ih (fun x hx => h x (List.mem_cons_of_mem _ hx))
    simp only [List.flatMap_cons, List.length_append, List.length_cons]
    rw [Nat.mul_succ]
    omega

theorem sizeVarint_le_succ (n : Nat) : sizeVarint n ≤ n + 1 := by
  induction n with
  | zero => exact Nat.le_of_eq (sizeVarint_lt (by decide))
  | succ n ih => exact Nat.le_trans (sizeVarint_succ_le n) (Nat.succ_le_succ ih)

theorem sizeVarintF_le (fno v : Nat) {a c : Nat} (hf : sizeVarint (fno * 8) ≤ a) (hv : sizeVarint v ≤ c) :
    sizeVarintF fno v ≤ a + c := by
  unfold sizeVarintF
  split
  · exact Nat.zero_le _
  · exact Nat.add_le_add hf hv

theorem sizeMsgF_some_le (fno s : Nat) {N a c : Nat} (hf : sizeVarint (fno * 8 + 2) ≤ a) (hs : s ≤ N)
    (hN : sizeVarint N ≤ c) : sizeMsgF fno (some s) ≤ a + c + N :=
  Nat.add_le_add (Nat.add_le_add hf (Nat.le_trans (sizeVarint_mono hs) hN)) hs

theorem sizeMsgF_map_le {α : Type} (fno : Nat) (o : Option α) (f : α → Nat) {N a c : Nat}
    (hf : sizeVarint (fno * 8 + 2) ≤ a) (ho : ∀ x, o = some x → f x ≤ N) (hN : sizeVarint N ≤ c) :
    sizeMsgF fno (o.map f) ≤ a + c + N := by
  cases o with
  | none => exact Nat.zero_le _
  | some x => exact sizeMsgF_some_le fno (f x) hf (ho x rfl) hN

theorem sizeBytesF_le (fno : Nat) (b : Bytes) {N a c : Nat} (hf : sizeVarint (fno * 8 + 2) ≤ a)
    (hb : b.length ≤ N) (hN : sizeVarint N ≤ c) : sizeBytesF fno b ≤ a + c + N := by
  unfold sizeBytesF
  split
  · exact Nat.zero_le _
  · exact sizeMsgF_some_le fno b.length hf hb hN

theorem sizePackedF_le (fno : Nat) (l : List Nat) {e n a c : Nat} (hf : sizeVarint (fno * 8 + 2) ≤ a)
    (he : ∀ x ∈ l, sizeVarint x ≤ e) (hn : l.length ≤ n) (hN : sizeVarint (e * n) ≤ c) :
    sizePackedF fno l ≤ a + c + e * n := by
  unfold sizePackedF
  split
  · exact Nat.zero_le _
  · exact sizeMsgF_some_le fno (packedSize l) hf
      (Nat.le_trans (packedSize_le l e he) (Nat.mul_le_mul_left e hn)) hN

theorem sizeVarintF_succ (fno v : Nat) (hf : fno * 8 < 2 ^ 7) :
    Grow 2 (sizeVarintF fno v) (sizeVarintF fno (v + 1)) := by
  unfold sizeVarintF Grow
  have ht : sizeVarint (fno * 8 + 0) = 1 := sizeVarint_lt (by omega)
  have hne : ¬ v + 1 = 0 := by omega
  rw [if_neg hne, ht]
  by_cases hv : v = 0
  · subst hv
    rw [if_pos rfl, sizeVarint_lt (by omega : 0 + 1 < 128)]; omega
  · rw [if_neg hv]
    have : sizeVarint v ≤ sizeVarint (v + 1) := sizeVarint_mono (Nat.le_succ v)
    have := sizeVarint_succ_le v
    omega

theorem sizeBytesF_add_two (fno : Nat) (b b' : Bytes) (hlen : b'.length = b.length + 2)
    (hf : fno * 8 + 2 < 2 ^ 14) : Grow 5 (sizeBytesF fno b) (sizeBytesF fno b') := by
  unfold sizeBytesF
  have hb' : ¬ b' = [] := by intro h; rw [h] at hlen; cases hlen
  have h2 : sizeVarint 2 = 1 := sizeVarint_lt (by decide)
  rw [if_neg hb', hlen]
  split
  · next hb =>
    have ht := sizeVarint_le2 hf
    rw [hb, List.length_nil, Nat.zero_add, h2]
    unfold Grow
    omega
  · exact (Grow.msgF fno ⟨Nat.le_add_right _ 2, Nat.le_refl _⟩).mono (by rw [h2]; decide)

theorem sizeBytesF_congr (fno : Nat) (b b' : Bytes) (hlen : b'.length = b.length) :
    sizeBytesF fno b' = sizeBytesF fno b := by
  unfold sizeBytesF
  have : b' = [] ↔ b = [] := by
    rw [← List.length_eq_zero_iff, ← List.length_eq_zero_iff, hlen]
  by_cases h : b = []
  · rw [if_pos h, if_pos (this.mpr h)]
  · rw [if_neg h, if_neg (fun h' => h (this.mp h')), hlen]

theorem sizeVarintF_zero (fno : Nat) : sizeVarintF fno 0 = 0 := rfl

theorem packedSize_map_le (l : List Nat) (f : Nat → Nat) (hf : ∀ x, f x ≤ x) :
    packedSize (l.map f) ≤ packedSize l := by
  induction l with
  | nil => exact Nat.le_refl _
  | cons x l ih =>
    rw [List.map_cons, packedSize_cons, packedSize_cons]
    exact Nat.add_le_add (sizeVarint_mono (hf x)) ih

theorem sizeMsgF_mono (fno : Nat) {s s' : Nat} (h : s ≤ s') :
    sizeMsgF fno (some s) ≤ sizeMsgF fno (some s') :=
  Nat.add_le_add (Nat.add_le_add_left (sizeVarint_mono h) _) h

theorem sizeMsgF_map_mono {α β : Type} (fno : Nat) (o : Option α) (g : α → β) (sz : α → Nat)
    (sz' : β → Nat) (h : ∀ x, o = some x → sz' (g x) ≤ sz x) :
    sizeMsgF fno ((o.map g).map sz') ≤ sizeMsgF fno (o.map sz) := by
  cases o with
  | none => exact Nat.le_refl _
  | some x => exact sizeMsgF_mono fno (h x rfl)

theorem sizePackedF_map_le (fno : Nat) (l : List Nat) (f : Nat → Nat) (hf : ∀ x, f x ≤ x) :
    sizePackedF fno (l.map f) ≤ sizePackedF fno l := by
  unfold sizePackedF
  cases l with
  | nil => exact Nat.le_refl _
  | cons x l =>
    rw [if_neg (by simp), if_neg (by simp)]
    exact sizeMsgF_mono fno (packedSize_map_le _ f hf)

end SizeV
