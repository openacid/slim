import SlimProofs.SizeShort
/-
  SlimProofs.EncodeAt — `Slim.encodeCreator` with the short size given.

  `findMinShortSize` tries the short sizes 0 … 10 and walks all 2^s short codes for each
  (2047 `popcount`s whatever the trie), so evaluating `encodeCreator` on even the smallest
  concrete trie is slow in the kernel.  `encodeCreatorAt s t` is the same message with the
  short size `s` put in (`encodeCreator_eq_at`), and a trie with at most four inner nodes has
  `eShortSize t = 0` (`SizeShort.eShortSize_small`: a short table is only chosen when it is small
  compared with the number of inner nodes).  Concrete examples rewrite with
  `encodeCreator_eq_eval` or `encode_eq_eval` and evaluate that.
-/

namespace Refine

open Bits Slim

def encodeCreatorAt (s : Nat) (t : Trie1) : SlimMsg :=
  let sub := (eInners t).map (subOf (shortTable (eSorted t) s).2 s)
  { bigInnerCnt := t.bigCnt
    shortSize := s
    nodeTypeBM := if t.nodes.size = 0 then none else some (newBM (eInnerIdx t) t.nodes.size "r64")
    inners := some (mk (ofMany (sub.map (·.1)) (sub.map (·.2.1))) "r128")
    shortBM := some (newBM ((List.range (eInners t).length).filter
      (fun i => (sub.getD i ([], 0, false)).2.2)) (eInners t).length "r64")
    shortTable := (shortTable (eSorted t) s).1
    innerPrefixes := some (eIps t)
    leafPrefixes := eLps t
    leaves := match t.elts with
      | some es => newVLenArray es
      | none => none }

theorem encodeCreator_eq_at (t : Trie1) : encodeCreator t = encodeCreatorAt (eShortSize t) t :=
  encodeCreator_eq t

theorem eShortSize_eq_zero {t : Trie1} (h : (eInners t).length ≤ 4) : eShortSize t = 0 := by
  rcases SizeShort.eShortSize_small t with h0 | h1
  · exact h0
  · refine Nat.eq_zero_of_not_pos fun hp => ?_
    have : 2 ^ 1 ≤ 2 ^ eShortSize t := Nat.pow_le_pow_right (by decide) hp
    omega

def encodeCreatorEval (t : Trie1) : SlimMsg :=
  if (eInners t).length ≤ 4 then encodeCreatorAt 0 t else encodeCreator t

theorem encodeCreator_eq_eval : encodeCreator = encodeCreatorEval := by
  funext t
  unfold encodeCreatorEval
  split
  · next h => rw [encodeCreator_eq_at, eShortSize_eq_zero h]
  · rfl

def encodeEval (t : Trie1) : SlimMsg :=
  if t.nodes.size = 0 then {} else encodeCreatorEval t

theorem encode_eq_eval : encode = encodeEval := by
  funext t
  unfold encode encodeEval
  rw [encodeCreator_eq_eval]

end Refine
