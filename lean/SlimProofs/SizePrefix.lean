import SlimProofs.BuildShape
/-
  SlimProofs.SizePrefix — C17, structural half: prepending a common prefix `P` to every key
  shifts every position the builder computes by `d = 2·|P|` half-bytes and changes nothing else.

  A simulation between the two runs of `buildLoop`:
  same `isBig`/`bigCnt`/`leafKeyIdx`; the queues agree except that every non-root subset starts
  `d` later; the record arrays agree except for the root's step, which grows by `d`.
  Filter mode only (no stored prefixes: `opt.inner = opt.leaf = false`).
-/

namespace SizePrefix

open BuildInv BuildShape

theorem lcp_append_left (p a b : List Nat) : lcp (p ++ a) (p ++ b) = lcp a b + p.length := by
  induction p with
  | nil => simp
  | cons x p ih => simp only [List.cons_append, lcp, if_true, ih, List.length_cons]; omega

theorem labelAt_append_left (p k : List Nat) (ws : Nat) (big : Bool) :
    labelAt (p ++ k) (ws + p.length) big = labelAt k ws big := by
  rw [labelAt_drop, Nat.add_comm, ← List.drop_drop, List.drop_left, ← labelAt_drop]

theorem labelAt_nil (ws : Nat) (big : Bool) : labelAt [] ws big = 0 := by
  simp [labelAt]

/-- `c'` is `c` with every key position shifted by `d` (an even number of half-bytes) -/
structure CtxShift (d n : Nat) (c c' : BCtx) : Prop where
  even : d % 2 = 0
  label : ∀ ws big t, keyLabel c' (ws + d) big t = keyLabel c ws big t
  keep : c'.keep = c.keep
  lcps : ∀ t, t + 1 < n → c'.lcps.getD t 0 = c.lcps.getD t 0 + d
  inner : c.opt.inner = false
  leaf : c.opt.leaf = false
  inner' : c'.opt.inner = false
  leaf' : c'.opt.leaf = false

theorem foldl_min_shift (l : List Nat) (f g : Nat → Nat) (d a : Nat)
    (h : ∀ x ∈ l, g x = f x + d) :
    (l.map g).foldl min (a + d) = (l.map f).foldl min a + d := by
  induction l generalizing a with
  | nil => rfl
  | cons x l ih =>
    simp only [List.map_cons, List.foldl_cons]
    rw [h x (by simp), Nat.add_min_add_right]
    exact ih _ (fun y hy => h y (List.mem_cons_of_mem _ hy))

theorem minLcp_shift {d n : Nat} {c c' : BCtx} (hc : CtxShift d n c c') {s e : Nat}
    (h2 : s + 2 ≤ e) (he : e ≤ n) : minLcp c' s e = minLcp c s e + d := by
  unfold minLcp
  rw [hc.lcps s (by omega)]
  apply foldl_min_shift
  intro t ht
  rw [List.mem_range'_1] at ht
  exact hc.lcps t (by omega)

theorem half_add_even {d : Nat} (hd : d % 2 = 0) (a : Nat) : (a + d) / 2 = a / 2 + d / 2 := by
  obtain ⟨k, rfl⟩ := Nat.dvd_of_mod_eq_zero hd
  rw [Nat.add_mul_div_left _ _ (Nat.zero_lt_succ 1), Nat.mul_div_cancel_left _ (Nat.zero_lt_succ 1)]

theorem prefCnt_shift {d n : Nat} {c c' : BCtx} (hc : CtxShift d n c c') {s e : Nat} (ws : Nat)
    (he : e ≤ n) : prefCnt c' s e (ws + d) = prefCnt c s e ws := by
  unfold prefCnt
  congr 2
  apply List.filter_congr
  intro t ht
  rw [List.mem_range'_1] at ht
  rw [hc.lcps t (by omega), half_add_even hc.even, half_add_even hc.even, Bool.eq_iff_iff]
  simp

theorem keyLabel_shift {d n : Nat} {c c' : BCtx} (hc : CtxShift d n c c') (ws : Nat) (big : Bool) :
    keyLabel c' (ws + d) big = keyLabel c ws big := by
  funext t; exact hc.label ws big t

theorem keptLabels_shift {d n : Nat} {c c' : BCtx} (hc : CtxShift d n c c') (s e ws : Nat)
    (big : Bool) : keptLabels c' s e (ws + d) big = keptLabels c s e ws big := by
  unfold keptLabels
  rw [hc.keep, keyLabel_shift hc]

def shiftSub (d : Nat) (o : Subset) : Subset := { o with fb := o.fb + d }

/-- a step of `m` half-bytes as `setPrefix` records it in filter mode -/
def stepPref (m : Nat) : Pref := if m = 0 then Pref.none else Pref.step m

def RootRel (d : Nat) : Node → Node → Prop
  | .leaf i lp, .leaf i' lp' => i' = i ∧ lp' = lp
  | .inner a, .inner b =>
    b.big = a.big ∧ b.labels = a.labels ∧ b.firstChild = a.firstChild ∧
      ∃ ws, a.pref = stepPref ws ∧ b.pref = stepPref (ws + d)
  | _, _ => False

def NodesRel (d : Nat) (l l' : List Node) : Prop :=
  (l = [] ∧ l' = []) ∨ ∃ r r' ns, l = r :: ns ∧ l' = r' :: ns ∧ RootRel d r r'

structure StShift (d : Nat) (st st' : BSt) : Prop where
  isBig : st'.isBig = st.isBig
  bigCnt : st'.bigCnt = st.bigCnt
  leafKeyIdx : st'.leafKeyIdx = st.leafKeyIdx
  queue : ∃ root rest, st.queue.toList = root :: rest ∧
    st'.queue.toList = root :: rest.map (shiftSub d) ∧ root.fb = 0
  nodes : NodesRel d st.nodes.toList st'.nodes.toList

theorem prefOf_filter {opt : Opt} (h : opt.inner = false) (k : List Nat) (fb ws : Nat) :
    prefOf opt k fb ws = stepPref (ws - fb) := by
  unfold prefOf stepPref
  simp [h]

theorem leafPrefOf_filter {opt : Opt} (h : opt.leaf = false) (key : Bytes) (fb : Nat) :
    leafPrefOf opt key fb = none := by
  unfold leafPrefOf
  simp [h]

theorem kidOf_shift (d ws : Nat) (big : Bool) (x : Nat × Nat × Nat) :
    kidOf (ws + d) big x = shiftSub d (kidOf ws big x) := by
  simp only [kidOf, shiftSub, Nat.add_right_comm ws d]

theorem StShift.queue_size {d : Nat} {st st' : BSt} (hs : StShift d st st') :
    st'.queue.size = st.queue.size := by
  obtain ⟨root, rest, h1, h2, _⟩ := hs.queue
  have e1 := congrArg List.length h1
  have e2 := congrArg List.length h2
  simp only [Array.length_toList, List.length_cons, List.length_map] at e1 e2
  exact e2.trans e1.symm

theorem wordStart_shift {d : Nat} (hd : d % 2 = 0) (m : Nat) (g : Bool) :
    (if g = true then m + d - (m + d) % 2 else m + d) = (if g = true then m - m % 2 else m) + d := by
  split
  · rw [Nat.add_mod, hd, Nat.add_zero, Nat.mod_mod]
    exact Nat.sub_add_comm (Nat.mod_le m 2)
  · rfl

theorem buildStep_shift {d n : Nat} {c c' : BCtx} (hc : CtxShift d n c c') {st st' s1 s1' : BSt}
    (hs : StShift d st st') (o o' : Subset) (hos : o'.s = o.s) (hoe : o'.e = o.e)
    (hlt : o.s < o.e) (hle : o.e ≤ n)
    (h : buildStep c st o = .ok s1) (h' : buildStep c' st' o' = .ok s1') :
    s1'.isBig = s1.isBig ∧ s1'.bigCnt = s1.bigCnt ∧ s1'.leafKeyIdx = s1.leafKeyIdx ∧
    (∃ kids : List _root_.Subset, s1.queue = st.queue ++ kids.toArray ∧
      s1'.queue = st'.queue ++ (kids.map (shiftSub d)).toArray) ∧
    ∃ nd nd', s1.nodes = st.nodes.push nd ∧ s1'.nodes = st'.nodes.push nd' ∧
      (o'.fb = o.fb + d → nd' = nd) ∧ (o'.fb = 0 → o.fb = 0 → RootRel d nd nd') := by
  by_cases hleaf : o.e - o.s = 1
  · have hleaf' : o'.e - o'.s = 1 := by rw [hos, hoe]; exact hleaf
    rw [buildStep_leaf_eq _ _ o hleaf] at h
    rw [buildStep_leaf_eq _ _ o' hleaf'] at h'
    cases h; cases h'
    simp only [leafPrefOf_filter hc.leaf, leafPrefOf_filter hc.leaf', hs.leafKeyIdx, hos]
    refine ⟨hs.isBig, hs.bigCnt, trivial, ⟨[], by simp, by simp⟩, _, _, rfl, rfl, fun _ => rfl,
      fun _ _ => ⟨rfl, rfl⟩⟩
  · have hleaf' : ¬ o'.e - o'.s = 1 := by rw [hos, hoe]; exact hleaf
    have h2 := two_le_of_not_leaf hlt hleaf
    obtain ⟨goBig, ws, hg, hws, _, _, rfl⟩ := buildStep_inner_ok hleaf h
    obtain ⟨goBig', ws', hg', hws', _, _, rfl⟩ := buildStep_inner_ok hleaf' h'
    -- both runs take the same big/small decision, and the second branches `d` later
    rw [hos, hoe, minLcp_shift hc h2 hle, prefCnt_shift hc _ hle, hs.isBig, ← hg] at hg'
    subst hg'
    rw [hos, hoe, minLcp_shift hc h2 hle, wordStart_shift hc.even, ← hws] at hws'
    subst hws'
    simp only [prefOf_filter hc.inner, prefOf_filter hc.inner', hs.bigCnt, hos, hoe,
      keyLabel_shift hc, keptLabels_shift hc]
    refine ⟨trivial, trivial, hs.leafKeyIdx, ⟨_, rfl, ?_⟩, _, _, rfl, rfl, ?_, ?_⟩
    · congr 2
      rw [List.map_map]
      apply List.map_congr_left
      intro x _
      exact kidOf_shift d ws _ x
    · intro hfb
      rw [hfb, hs.queue_size, Nat.add_sub_add_right]
    · intro hfb' hfb
      refine ⟨rfl, rfl, hs.queue_size, ws, ?_, ?_⟩
      · rw [hfb]; rfl
      · rw [hfb']; rfl

theorem buildStep_stShift {d n : Nat} {c c' : BCtx} (hc : CtxShift d n c c') {st st' s1 s1' : BSt}
    (hs : StShift d st st') (i : Nat) (hn : st.nodes.size = i) (hn' : st'.nodes.size = i)
    (hi : i < st.queue.size) (hi' : i < st'.queue.size)
    (hlt : st.queue[i].s < st.queue[i].e) (hle : st.queue[i].e ≤ n)
    (h : buildStep c st st.queue[i] = .ok s1) (h' : buildStep c' st' st'.queue[i] = .ok s1') :
    StShift d s1 s1' ∧ s1'.nodes.size = i + 1 := by
  obtain ⟨root, rest, hq, hq', hroot⟩ := hs.queue
  have ho : st.queue[i] = (root :: rest)[i]'(by rw [← hq]; simpa using hi) := by
    simp only [← hq, Array.getElem_toList]
  have ho' : st'.queue[i] = (root :: rest.map (shiftSub d))[i]'(by rw [← hq']; simpa using hi') := by
    simp only [← hq', Array.getElem_toList]
  have hrel : st'.queue[i].s = st.queue[i].s ∧ st'.queue[i].e = st.queue[i].e ∧
      (i = 0 → st'.queue[i].fb = 0 ∧ st.queue[i].fb = 0) ∧
      (0 < i → st'.queue[i].fb = st.queue[i].fb + d) := by
    rw [ho, ho']
    cases i with
    | zero => simp [hroot]
    | succ i => simp [shiftSub]
  obtain ⟨g1, g2, g3, ⟨kids, g4, g5⟩, nd, nd', g6, g7, g8, g9⟩ :=
    buildStep_shift hc hs _ _ hrel.1 hrel.2.1 hlt hle h h'
  refine ⟨⟨g1, g2, g3, ⟨root, rest ++ kids, ?_, ?_, hroot⟩, ?_⟩, ?_⟩
  · rw [g4, Array.toList_append, hq]; simp
  · rw [g5, Array.toList_append, hq']; simp
  · rw [g6, g7, Array.toList_push, Array.toList_push]
    rcases hs.nodes with ⟨e1, e2⟩ | ⟨r, r', ns, e1, e2, hr⟩
    · have hi0 : i = 0 := by rw [← hn, ← Array.length_toList, e1]; rfl
      obtain ⟨f1, f2⟩ := hrel.2.2.1 hi0
      rw [e1, e2]
      exact Or.inr ⟨nd, nd', [], rfl, rfl, g9 f1 f2⟩
    · have hipos : 0 < i := by rw [← hn, ← Array.length_toList, e1]; exact Nat.succ_pos _
      rw [e1, e2, g8 (hrel.2.2.2 hipos)]
      exact Or.inr ⟨r, r', ns ++ [nd], rfl, rfl, hr⟩
  · rw [g7, Array.size_push, hn']

/-- `BInv` of the first run supplies the key ranges `buildStep_stShift` asks for -/
theorem buildLoop_shift {keys : List Bytes} {keep : List Bool} {opt : Opt} {d : Nat} {c c' : BCtx}
    (hc : CtxShift d keys.length c c') (hok : CtxOK keys keep opt c) (hasc : strictAsc keys = true)
    (fuel i : Nat) {st st' s1 s1' : BSt} (hs : StShift d st st') (hn' : st'.nodes.size = i)
    (hinv : BInv keys keep opt st i)
    (h : buildLoop c fuel i st = .ok s1) (h' : buildLoop c' fuel i st' = .ok s1') :
    StShift d s1 s1' := by
  obtain ⟨_, hR, _⟩ := buildLoop_induct₂
    (fun i st st' => StShift d st st' ∧ st'.nodes.size = i ∧ BInv keys keep opt st i)
    (fun _ _ _ hR => hR.1.queue_size)
    (fun i st st' s2 s2' ⟨hs, hn', hinv⟩ hi hi' hst hst' => by
      have hsub := (hinv.sub i st.queue[i] (Array.getElem?_eq_getElem hi)).1
      obtain ⟨k1, k2⟩ :=
        buildStep_stShift hc hs i hinv.size hn' hi hi' hsub.lt hsub.le hst hst'
      exact ⟨k1, k2, buildStep_inv hok hasc hinv hi hst⟩)
    fuel i st st' s1 s1' ⟨hs, hn', hinv⟩ h h'
  exact hR

theorem mkCtx_shift (keys : List Bytes) (P : Bytes) :
    CtxShift (2 * P.length) keys.length (mkCtx keys none {}) (mkCtx (keys.map (P ++ ·)) none {}) where
  even := by omega
  label ws big t := by
    simp only [keyLabel, mkCtx, List.toArray_getD_eq, map_nibs_getD]
    rw [List.getD_eq_getElem?_getD, List.getD_eq_getElem?_getD, List.getElem?_map]
    cases keys[t]? with
    | none => simp [nibs, labelAt_nil]
    | some k =>
      simp only [Option.map_some, Option.getD_some, nibs_append]
      rw [← nibs_length P]
      exact labelAt_append_left _ _ _ _
  keep := by simp [mkCtx]
  lcps t ht := by
    simp only [mkCtx, List.toArray_getD_eq]
    rw [mkLcps_getD _ _ (by simpa using ht), mkLcps_getD _ _ (by simpa using ht),
      map_nibs_getD, map_nibs_getD, map_nibs_getD, map_nibs_getD]
    have h1 : t < keys.length := by omega
    have h2 : t + 1 < keys.length := ht
    simp only [List.getD_eq_getElem?_getD, List.getElem?_map, List.getElem?_eq_getElem h1,
      List.getElem?_eq_getElem h2, Option.map_some, Option.getD_some, nibs_append]
    rw [lcp_append_left, nibs_length]
  inner := rfl
  leaf := rfl
  inner' := rfl
  leaf' := rfl

end SizePrefix

open SizePrefix BuildInv BuildShape in
/-- C17, structural half: the record array of `P ++ K` is the record array of `K` except for the
    root's step, which is `2·|P|` half-bytes longer (filter mode: default options, no values). -/
theorem C17_prefix_same_shape (keys : List Bytes) (P : Bytes) (t t' : Trie1) (hne : keys ≠ [])
    (hb : build keys none {} = .ok t) (hb' : build (keys.map (P ++ ·)) none {} = .ok t') :
    t'.opt = t.opt ∧ t'.bigCnt = t.bigCnt ∧ t'.leafKeyIdx = t.leafKeyIdx ∧ t'.elts = t.elts ∧
    ∃ r r' ns, t.nodes.toList = r :: ns ∧ t'.nodes.toList = r' :: ns ∧
      RootRel (2 * P.length) r r' := by
  have hne' : keys.map (P ++ ·) ≠ [] := by simpa using hne
  obtain ⟨hasc, hv, st, hst, rfl⟩ := build_ok_elim hb hne
  obtain ⟨_, _, st', hst', rfl⟩ := build_ok_elim hb' hne'
  rw [List.length_map] at hst'
  have hn : keys.length ≠ 0 := fun h => hne (List.length_eq_zero_iff.mp h)
  have hs := buildLoop_shift (mkCtx_shift keys P) (mkCtx_ok keys none {}) hasc _ 0
    (st := initSt keys.length) (st' := initSt keys.length)
    ⟨rfl, rfl, rfl, ⟨_, [], rfl, rfl, rfl⟩, Or.inl ⟨rfl, rfl⟩⟩ rfl (binv_init {} hn hv) hst hst'
  have hfin := build_binv hne hasc hv hst
  refine ⟨rfl, hs.bigCnt, hs.leafKeyIdx, rfl, ?_⟩
  rcases hs.nodes with ⟨e1, _⟩ | h
  · -- impossible: the loop produced at least the root
    have h3 : 0 < st.queue.size := (Array.getElem?_eq_some_iff.mp hfin.root).1
    rw [← hfin.size, ← Array.length_toList, e1] at h3
    cases h3
  · exact h
