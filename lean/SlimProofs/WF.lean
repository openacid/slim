import SlimModel.Build
/-
  SlimProofs.WF — the well-formedness invariant of the L1 record array (group (a) of DESIGN §3.2).

  `WF keys keep t` says: there is a queue of subsets (the BFS queue of `newSlim`), one per
  node, such that node j is exactly what `buildStep` makes of subset j:
  * a singleton subset is a leaf that remembers its key index and (if `opt.leaf`) the key's tail;
  * a larger subset [s,e) examined from position fb is an inner node branching at some position
    ws ≥ fb up to which all its keys agree, whose labels are the labels at ws of its *kept*
    keys, strictly ascending, and whose k-th child is subset `firstChild + k` = exactly the keys
    of [s,e) that carry the k-th label, examined from just behind the label.

  `build_wf` (SlimProofs.BuildInv) establishes it for every successful `build`;
  the query theorems (SlimProofs.Subtree, SlimProofs.SearchDescent …) consume it.
-/

/-- half-bytes of the t-th key -/
def knOf (keys : List Bytes) (t : Nat) : List Nat := nibs (keys.getD t [])

def keptAt (keep : List Bool) (t : Nat) : Bool := keep.getD t false

/-- label index of key t at position ws (`keyLabel` of the builder) -/
def labelOf (keys : List Bytes) (ws : Nat) (big : Bool) (t : Nat) : Nat :=
  labelAt (knOf keys t) ws big

/-- what `setPrefix` records for a run from fb to ws -/
def prefOf (opt : Opt) (k : List Nat) (fb ws : Nat) : Pref :=
  if ws - fb = 0 then Pref.none
  else if opt.inner then Pref.stored (storedPrefix k fb ws)
  else Pref.step (ws - fb)

/-- what `setLeafPrefix` records for a leaf reached at position fb -/
def leafPrefOf (opt : Opt) (key : Bytes) (fb : Nat) : Option Bytes :=
  let tail := key.drop (fb / 2)
  if opt.leaf && !tail.isEmpty then some tail else none

structure SubOK (keys : List Bytes) (keep : List Bool) (o : Subset) : Prop where
  lt : o.s < o.e
  le : o.e ≤ keys.length
  /-- the subset contains a kept key -/
  kept : ∃ t, o.s ≤ t ∧ t < o.e ∧ keptAt keep t = true
  /-- all its keys agree before fb … -/
  agree : ∀ t, o.s ≤ t → t < o.e → (knOf keys t).take o.fb = (knOf keys o.s).take o.fb
  /-- … and are at least fb long -/
  long : ∀ t, o.s ≤ t → t < o.e → o.fb ≤ (knOf keys t).length

/-- node j (an inner record `r`) is what `buildStep` makes of subset `o` -/
def InnerOK (keys : List Bytes) (keep : List Bool) (opt : Opt) (queue : Array Subset)
    (j : Nat) (o : Subset) (r : InnerRec) : Prop :=
  ∃ ws : Nat,
    o.fb ≤ ws ∧
    (∀ t, o.s ≤ t → t < o.e →
      ws ≤ (knOf keys t).length ∧ (knOf keys t).take ws = (knOf keys o.s).take ws) ∧
    (r.big = true → ws % 2 = 0 ∧ o.fb % 2 = 0) ∧
    r.pref = prefOf opt (knOf keys o.s) o.fb ws ∧
    -- labels: exactly the labels of the kept keys, strictly ascending
    (∀ l, l ∈ r.labels ↔ ∃ t, o.s ≤ t ∧ t < o.e ∧ keptAt keep t = true ∧ labelOf keys ws r.big t = l) ∧
    r.labels.Pairwise (· < ·) ∧
    -- labels are monotone along the keys of the subset
    (∀ a b, o.s ≤ a → a ≤ b → b < o.e → labelOf keys ws r.big a ≤ labelOf keys ws r.big b) ∧
    -- children
    j < r.firstChild ∧
    (∀ k (hk : k < r.labels.length), ∃ c : Subset,
      queue[r.firstChild + k]? = some c ∧
      c.fb = ws + labelLen (r.labels[k]) r.big ∧
      o.s ≤ c.s ∧ c.e ≤ o.e ∧
      (∀ t, o.s ≤ t → t < o.e → ((c.s ≤ t ∧ t < c.e) ↔ labelOf keys ws r.big t = r.labels[k])))

/-- node j is what `buildStep` makes of subset `o` -/
def NodeOK (keys : List Bytes) (keep : List Bool) (opt : Opt) (queue : Array Subset)
    (leafKeyIdx : Array Nat) (j : Nat) (o : Subset) : Node → Prop
  | .leaf ith lp =>
    o.e = o.s + 1 ∧ leafKeyIdx[ith]? = some o.s ∧ lp = leafPrefOf opt (keys.getD o.s []) o.fb
  | .inner r => o.s + 2 ≤ o.e ∧ InnerOK keys keep opt queue j o r

/-- the invariant -/
def WF (keys : List Bytes) (keep : List Bool) (t : Trie1) : Prop :=
  ∃ queue : Array Subset,
    queue.size = t.nodes.size ∧
    queue[0]? = some { s := 0, e := keys.length, fb := 0 } ∧
    ∀ j (hj : j < t.nodes.size), ∃ o, queue[j]? = some o ∧ SubOK keys keep o ∧
      NodeOK keys keep t.opt queue t.leafKeyIdx j o t.nodes[j]
