import SlimProofs.LegacyConvertWF
/-
  The fuel of `LegacyWrite.buildOld` (`2n + 1` loop iterations for `n` keys) is sufficient: on
  strictly ascending keys the breadth-first loop terminates by itself, so the reconstructed
  three-section writers are total on every input `NewSlimTrie` accepts (`writeLegacy3_total`).

  Measure, as for today's builder: a queue entry holding `m ≥ 1` keys weighs `2m - 1` (the most
  nodes its subtree can have), and the children of a range weigh less than the range.  This is
  today's step (`BuildTotal.kids_potential`, where the order of the keys is used): on the same
  range, with big nodes off and nothing dropped, `buildStep` makes the old children and perhaps
  one more, the key that ends at the branching position (`LegacyConvert.childRuns_eq`).  The loop
  invariant is that the ranges are non-empty and inside the key list (`Inv`).
-/
namespace LegacyWrite

open LegacyConvert BuildInv

def wt (q : Sub) : Nat := 2 * (q.e - q.s) - 1

theorem kids_weight {keys : List Bytes} {kn : Array (List Nat)}
    (hkn : ∀ t, kn.getD t [] = knOf keys t) (hasc : strictAsc keys = true) {q : Sub}
    (hg : SubGood keys q) : ((kidsOf kn q).map wt).sum + 1 ≤ wt q := by
  unfold kidsOf
  by_cases h1 : q.e - q.s = 1
  · rw [if_pos h1]
    unfold wt
    rw [h1]
    exact Nat.le_refl _
  · rw [if_neg h1]
    have h2 := two_le_of_not_leaf hg.lt h1
    have B := branch_facts hkn hasc hg h2
    have hc : CtxOK keys (List.replicate keys.length true) {} (mkCtx keys none {}) :=
      mkCtx_ok keys none {}
    have hp := BuildTotal.kids_potential hc hasc (o := { s := q.s, e := q.e, fb := q.d }) hg.le h2
      false rfl
    simp only [Bool.false_eq_true, if_false] at hp
    rw [minLcp_eq_brPos hkn hg B hc h2, keyLabel_eq hc, keptLabels_eq hkn hg B hc,
      childRuns_eq hkn hg B, List.map_append, List.map_append, List.sum_append] at hp
    -- today's children: the key that ends, if any, then the old children
    refine Nat.le_trans (Nat.add_le_add_right
      (Nat.le_trans (Nat.le_of_eq ?_) (Nat.le_add_left _ _)) 1) hp
    simp only [List.map_map]
    rfl

theorem oldLoop_ok {keys : List Bytes} (hasc : strictAsc keys = true) (ls : Bool) :
    ∀ fuel i (queue : Array Sub) (nodes : Array OldNode),
      (∀ q ∈ queue.toList, Inv keys.length q) →
      ((queue.toList.drop i).map wt).sum ≤ fuel →
      ∃ res, oldLoop (keys.map nibs).toArray ls fuel i queue nodes = .ok res := by
  intro fuel
  induction fuel with
  | zero =>
    intro i queue nodes hinv hsum
    unfold oldLoop
    by_cases hi : i < queue.size
    · exfalso
      have hi' : i < queue.toList.length := by simpa using hi
      rw [List.drop_eq_getElem_cons hi'] at hsum
      simp only [List.map_cons, List.sum_cons, Array.getElem_toList] at hsum
      have := (hinv _ (Array.mem_def.mp (Array.getElem_mem hi))).1
      unfold wt at hsum
      omega
    · rw [if_neg hi]; exact ⟨nodes, rfl⟩
  | succ fuel ih =>
    intro i queue nodes hinv hsum
    unfold oldLoop
    by_cases hi : i < queue.size
    · rw [dif_pos hi, oldStep_eq]
      have hq := hinv _ (Array.mem_def.mp (Array.getElem_mem hi))
      have hk := (oldStep_inv (keys.map nibs).toArray ls keys.length queue.size queue[i] hq).1
      rw [oldStep_eq] at hk
      -- the depth of a range plays no role in what its children are
      have hw := kids_weight (kn_getD keys) hasc (q := { queue[i] with d := 0 })
        ⟨hq.1, hq.2, fun _ _ _ => ⟨Nat.zero_le _, rfl⟩⟩
      apply ih _ _ _ (inv_append hinv hk)
      have hi' : i < queue.toList.length := by simpa using hi
      rw [Array.toList_append, List.drop_append_of_le_length (by omega), List.map_append,
        List.sum_append]
      rw [List.drop_eq_getElem_cons hi'] at hsum
      simp only [List.map_cons, List.sum_cons, Array.getElem_toList] at hsum
      change ((kidsOf (keys.map nibs).toArray queue[i]).map wt).sum + 1 ≤ wt queue[i] at hw
      dsimp only
      omega
    · rw [dif_neg hi]; exact ⟨nodes, rfl⟩

theorem buildOld_total (keys : List Bytes) (ls : Bool) (h : strictAsc keys = true) :
    ∃ nodes, buildOld keys ls = .ok nodes := by
  unfold buildOld
  simp only
  by_cases hn : keys.length = 0
  · rw [if_pos hn]; exact ⟨#[], rfl⟩
  · rw [if_neg hn]
    apply oldLoop_ok h ls _ _ _ _ (inv_root hn)
    simp [wt]; omega

theorem writeLegacy3_total (variant : String) (vr : Variant) (keys vals : List Bytes)
    (hv : parseVariant variant = some vr) (h : strictAsc keys = true) :
    ∃ b, writeLegacy3 variant keys vals = .ok b := by
  obtain ⟨nodes, hn⟩ := buildOld_total keys vr.leafSteps h
  unfold writeLegacy3 sections3
  simp only [hv, hn, bind, Except.bind, pure, Except.pure]
  exact ⟨_, rfl⟩

end LegacyWrite
