import SlimModel.Scan
import SlimModel.Slim
import SlimProofs.Agree
import SlimProofs.Refine.Enc
/-
  Query results carry over from one `View` to another that decodes the same node records (L1
  record array → L2 bit-level view of the encoded message).

  `ViewSim v₁ v₂ n`: `v₂` returns the node records of `v₁` below `n`, `v₁` fails (Go: panics)
  from `n` on, `v₂` returns the leaf bytes `v₁` returns, same flags, `v₂` has at least the fuel.
  Then every lookup / scan computation that returns normally on `v₁` returns the same on `v₂`
  (`Transport.Le a b := ∀ r, a = .ok r → b = .ok r`): a successful run never reads an id ≥ n,
  and more fuel does not change a successful result.  There is one `_le` lemma per lookup and
  scan function up to `iterNext`; what lies above `iterNext` (`iterTake`, `scanFrom`, `scanFromTo`)
  reads the view through `iterNext` alone and is carried over as a run (`IterStack.Yields.le`,
  SlimProofs/IterScan.lean).  The instance is `viewSim_encode` (L1 view of `t` vs
  `Slim.view (Slim.encode t)`), taking the bit-level facts as hypotheses (`EncodeFacts`;
  established by `Transport.encodeFacts_of_shape` in SlimProofs/Refine.lean).
-/

namespace Transport

def Le {α : Type} (a b : Except Err α) : Prop := ∀ r, a = .ok r → b = .ok r

theorem Le.refl {α : Type} (a : Except Err α) : Le a a := fun _ h => h

theorem Le.eq_of_ok {α : Type} {a b : Except Err α} (h : Le a b) {r : α} (ha : a = .ok r) : b = a :=
  (h r ha).trans ha.symm

theorem Le.error {α : Type} (e : Err) (b : Except Err α) : Le (.error e) b := by
  intro r h; cases h

theorem Le.bind {α β : Type} {a a' : Except Err α} {f f' : α → Except Err β}
    (h : Le a a') (hf : ∀ x, Le (f x) (f' x)) : Le (a >>= f) (a' >>= f') := by
  intro r hr
  cases ha : a with
  | error e => rw [ha] at hr; cases hr
  | ok x =>
    rw [ha] at hr
    rw [h x ha]
    exact hf x r hr

theorem Le.map {α β : Type} {a a' : Except Err α} (f : α → β) (h : Le a a') :
    Le (a.map f) (a'.map f) := by
  intro r hr
  cases ha : a with
  | error e => rw [ha] at hr; cases hr
  | ok x => rw [ha] at hr; rw [h x ha]; exact hr

theorem Le.else {α : Type} {c : Prop} [Decidable c] (a : Except Err α) {b b' : Except Err α}
    (h : ¬ c → Le b b') : Le (if c then a else b) (if c then a else b') := by
  by_cases hc : c
  · rw [if_pos hc, if_pos hc]; exact Le.refl a
  · rw [if_neg hc, if_neg hc]; exact h hc

/-- induction on two fuels in lockstep: the loops below fail at fuel 0 and spend one unit of fuel
    per step on either side -/
theorem Le.fuel {P : Nat → Nat → Prop} (zero : ∀ f₂, P 0 f₂)
    (succ : ∀ f₁ f₂, P f₁ f₂ → P (f₁ + 1) (f₂ + 1)) : ∀ f₁ f₂, f₁ ≤ f₂ → P f₁ f₂ := by
  intro f₁
  induction f₁ with
  | zero => exact fun f₂ _ => zero f₂
  | succ f₁ ih =>
    intro f₂ hf
    cases f₂ with
    | zero => exact absurd hf (Nat.not_succ_le_zero f₁)
    | succ f₂ => exact succ f₁ f₂ (ih f₂ (Nat.le_of_succ_le_succ hf))

structure ViewSim (v₁ v₂ : View) (n : Nat) : Prop where
  node : ∀ id, id < n → v₂.node id = v₁.node id
  out : ∀ id, n ≤ id → ∃ e, v₁.node id = .error e
  leaf : ∀ ith r, v₁.leafBytes ith = .ok r → v₂.leafBytes ith = .ok r
  isEmpty : v₂.isEmpty = v₁.isEmpty
  /-- the two flags are only ever read behind the `isEmpty` guard, so they need to agree on
      non-empty tries only (the encoding of the empty trie is `&Slim{}`: no `LeafPrefixes`) -/
  lpOn : v₁.isEmpty = false → v₂.leafPrefixesOn = v₁.leafPrefixesOn
  scanOK : v₁.isEmpty = false → v₂.scanOK = v₁.scanOK
  cnt : v₁.nodeCnt ≤ v₂.nodeCnt

variable {v₁ v₂ : View} {n : Nat}

theorem ViewSim.node_le (s : ViewSim v₁ v₂ n) (id : Nat) : Le (v₁.node id) (v₂.node id) := by
  intro r h
  by_cases hid : id < n
  · rw [s.node id hid]; exact h
  · obtain ⟨e, he⟩ := s.out id (Nat.le_of_not_lt hid)
    rw [he] at h; cases h

theorem searchLoop_le (s : ViewSim v₁ v₂ n) (kn : List Nat) :
    ∀ f₁ f₂, f₁ ≤ f₂ → ∀ st id, Le (searchLoop v₁ kn f₁ st id) (searchLoop v₂ kn f₂ st id) := by
  refine Le.fuel (fun f₂ st id => Le.error _ _) (fun f₁ f₂ ih st id => ?_)
  unfold searchLoop
  refine Le.bind (s.node_le id) (fun nd => ?_)
  cases nd with
  | leaf ith lp => exact Le.refl _
  | inner r =>
    refine Le.bind (Le.refl _) (fun o => ?_)
    cases o with
    | inl fin => exact Le.refl _
    | inr i => exact Le.else _ fun _ => Le.else _ fun _ => ih _ _

theorem getID_le (s : ViewSim v₁ v₂ n) (key : Bytes) : Le (getID v₁ key) (getID v₂ key) := by
  unfold getID
  rw [s.isEmpty]
  refine Le.else _ (fun he => ?_)
  rw [s.lpOn (Bool.eq_false_iff.mpr he)]
  refine Le.bind ?_ (fun _ => Le.refl _)
  -- the loop of `GetID` is that of `searchID` with its state projected
  rw [Agree.getIDLoop_eq v₁ _ _ {} 0 rfl, Agree.getIDLoop_eq v₂ _ _ {} 0 rfl]
  exact Le.map _ (searchLoop_le s _ _ _ (Nat.succ_le_succ s.cnt) _ _)

theorem getLeaf_le (s : ViewSim v₁ v₂ n) (id : Nat) : Le (getLeaf v₁ id) (getLeaf v₂ id) := by
  unfold getLeaf
  refine Le.bind (s.node_le id) (fun nd => ?_)
  cases nd with
  | inner r => exact Le.refl _
  | leaf ith lp => exact s.leaf ith

theorem get_le (s : ViewSim v₁ v₂ n) (key : Bytes) : Le (get v₁ key) (get v₂ key) := by
  unfold _root_.get
  refine Le.bind (getID_le s key) (fun o => ?_)
  cases o with
  | none => exact Le.refl _
  | some id => exact Le.bind (getLeaf_le s id) (fun _ => Le.refl _)

theorem leftMost_le (s : ViewSim v₁ v₂ n) :
    ∀ f₁ f₂, f₁ ≤ f₂ → ∀ id, Le (leftMost v₁ f₁ id) (leftMost v₂ f₂ id) := by
  refine Le.fuel (fun f₂ id => Le.error _ _) (fun f₁ f₂ ih id => ?_)
  unfold leftMost
  refine Le.bind (s.node_le id) (fun nd => ?_)
  cases nd with
  | leaf ith lp => exact Le.refl _
  | inner r => exact ih _

theorem rightMost_le (s : ViewSim v₁ v₂ n) :
    ∀ f₁ f₂, f₁ ≤ f₂ → ∀ id, Le (rightMost v₁ f₁ id) (rightMost v₂ f₂ id) := by
  refine Le.fuel (fun f₂ id => Le.error _ _) (fun f₁ f₂ ih id => ?_)
  unfold rightMost
  refine Le.bind (s.node_le id) (fun nd => ?_)
  cases nd with
  | leaf ith lp => exact Le.refl _
  | inner r => exact ih _

theorem cmpLeafPrefix_eq (hlp : v₂.leafPrefixesOn = v₁.leafPrefixesOn) (tail : Bytes)
    (lp : Option Bytes) : cmpLeafPrefix v₂ tail lp = cmpLeafPrefix v₁ tail lp := by
  unfold cmpLeafPrefix; rw [hlp]

theorem srEpi_eq (hlp : v₂.leafPrefixesOn = v₁.leafPrefixesOn) (key : Bytes) (st : SearchSt) :
    Agree.srEpi v₂ key st = Agree.srEpi v₁ key st := by
  unfold Agree.srEpi; simp only [cmpLeafPrefix_eq hlp]

theorem srTail_le (s : ViewSim v₁ v₂ n) (st : SearchSt) :
    Le (Agree.srTail v₁ st) (Agree.srTail v₂ st) := by
  have hc := Nat.succ_le_succ s.cnt
  have hr : ∀ id, Le (leftMost v₁ (v₁.nodeCnt + 1) id) (leftMost v₂ (v₂.nodeCnt + 1) id) :=
    leftMost_le s _ _ hc
  unfold Agree.srTail
  cases st.lID with
  | none =>
    refine Le.bind (Le.refl _) (fun _ => ?_)
    cases st.rID with
    | none => exact Le.refl _
    | some id => exact Le.bind (hr id) (fun _ => Le.refl _)
  | some id =>
    refine Le.bind (rightMost_le s _ _ hc id) (fun _ => Le.bind (Le.refl _) (fun _ => ?_))
    cases st.rID with
    | none => exact Le.refl _
    | some id => exact Le.bind (hr id) (fun _ => Le.refl _)

theorem searchID_le (s : ViewSim v₁ v₂ n) (key : Bytes) :
    Le (searchID v₁ key) (searchID v₂ key) := by
  rw [Agree.searchID_eq, Agree.searchID_eq, s.isEmpty]
  refine Le.else _ (fun he => ?_)
  intro r h
  cases h1 : searchLoop v₁ (nibs key) (v₁.nodeCnt + 1) {} 0 with
  | error e => rw [h1] at h; cases h
  | ok st =>
    rw [h1] at h
    rw [searchLoop_le s _ _ _ (Nat.succ_le_succ s.cnt) _ _ st h1]
    show Agree.srTail v₂ (Agree.srEpi v₂ key st) = .ok r
    rw [srEpi_eq (s.lpOn (Bool.eq_false_iff.mpr he))]
    exact srTail_le s _ r h

theorem leafOf_le (s : ViewSim v₁ v₂ n) (o : Option Nat) :
    Le (Agree.leafOf v₁ o) (Agree.leafOf v₂ o) := by
  cases o with
  | none => exact Le.refl _
  | some id => exact Le.bind (getLeaf_le s id) (fun _ => Le.refl _)

theorem rangeGet_le (s : ViewSim v₁ v₂ n) (key : Bytes) :
    Le (rangeGet v₁ key) (rangeGet v₂ key) := by
  unfold rangeGet
  refine Le.bind (searchID_le s key) (fun b => ?_)
  obtain ⟨l, e, r⟩ := b
  cases e with
  | some id => exact Le.bind (getLeaf_le s id) (fun _ => Le.refl _)
  | none =>
    cases l with
    | none => exact Le.refl _
    | some id => exact Le.bind (getLeaf_le s id) (fun _ => Le.refl _)

theorem search_le (s : ViewSim v₁ v₂ n) (key : Bytes) :
    Le (search v₁ key) (search v₂ key) := by
  rw [Agree.search_eq, Agree.search_eq]
  refine Le.bind (searchID_le s key) (fun b => ?_)
  obtain ⟨l, e, r⟩ := b
  exact Le.bind (leafOf_le s l) (fun _ => Le.bind (leafOf_le s e) (fun _ =>
    Le.bind (leafOf_le s r) (fun _ => Le.refl _)))

section scan
open Scan

theorem geLoop_le (s : ViewSim v₁ v₂ n) (kn : List Nat) :
    ∀ f₁ f₂, f₁ ≤ f₂ → ∀ st id, Le (geLoop v₁ kn f₁ st id) (geLoop v₂ kn f₂ st id) := by
  refine Le.fuel (fun f₂ st id => Le.error _ _) (fun f₁ f₂ ih st id => ?_)
  unfold geLoop
  refine Le.bind (s.node_le id) (fun nd => ?_)
  cases nd with
  | leaf ith lp => exact Le.refl _
  | inner r =>
    refine Le.bind (Le.refl _) (fun o => ?_)
    cases o with
    | inl fin => exact Le.refl _
    | inr i => exact Le.else _ fun _ => Le.else _ fun _ => ih _ _

theorem leftMostPath_le (s : ViewSim v₁ v₂ n) :
    ∀ f₁ f₂, f₁ ≤ f₂ → ∀ id acc, Le (leftMostPath v₁ f₁ id acc) (leftMostPath v₂ f₂ id acc) := by
  refine Le.fuel (fun f₂ id acc => Le.error _ _) (fun f₁ f₂ ih id acc => ?_)
  unfold leftMostPath
  refine Le.bind (s.node_le id) (fun nd => ?_)
  cases nd with
  | leaf ith lp => exact Le.refl _
  | inner r => exact ih _ _

theorem fallback_le (s : ViewSim v₁ v₂ n) (st : GESt) :
    Le (getGEPath.fallback v₁ st) (getGEPath.fallback v₂ st) := by
  unfold getGEPath.fallback
  cases st.rID with
  | none => exact Le.refl _
  | some rid =>
    exact Le.bind (leftMostPath_le s _ _ (Nat.succ_le_succ s.cnt) _ _) (fun _ => Le.refl _)

theorem getGEPath_le (s : ViewSim v₁ v₂ n) (key : Bytes) :
    Le (getGEPath v₁ key) (getGEPath v₂ key) := by
  unfold getGEPath
  rw [s.isEmpty]
  refine Le.else _ (fun he => ?_)
  have he' : v₁.isEmpty = false := Bool.eq_false_iff.mpr he
  rw [s.scanOK he']
  refine Le.else _ (fun _ => ?_)
  refine Le.bind (geLoop_le s _ _ _ (Nat.succ_le_succ s.cnt) _ _) (fun x => ?_)
  obtain ⟨st, eqID⟩ := x
  cases eqID with
  | none => exact fallback_le s st
  | some eq =>
    refine Le.else _ (fun _ => ?_)
    rw [cmpLeafPrefix_eq (s.lpOn he')]
    exact Le.else _ (fun _ => fallback_le s st)

theorem buildStack_le (s : ViewSim v₁ v₂ n) :
    ∀ path stack buf bufIdx, Le (buildStack v₁ path stack buf bufIdx)
      (buildStack v₂ path stack buf bufIdx) := by
  intro path
  induction path with
  | nil => intro stack buf bufIdx; unfold buildStack; exact Le.refl _
  | cons a rest ih =>
    intro stack buf bufIdx
    cases rest with
    | nil => unfold buildStack; exact Le.refl _
    | cons b rest =>
      unfold buildStack
      refine Le.bind (s.node_le a) (fun nd => ?_)
      cases nd with
      | leaf ith lp => exact Le.refl _
      | inner r =>
        exact Le.bind (Le.refl _) fun _ => Le.bind (Le.refl _) fun _ =>
          Le.bind (Le.refl _) fun _ => ih _ _ _

theorem newIter_le (s : ViewSim v₁ v₂ n) (p : GEPath) (skipFirst : Bool) :
    Le (newIter v₁ p skipFirst) (newIter v₂ p skipFirst) := by
  unfold newIter
  exact Le.bind (buildStack_le s _ _ _ _) (fun _ => Le.refl _)

theorem leafValue_le (s : ViewSim v₁ v₂ n) (withValue : Bool) (ith : Nat) :
    Le (leafValue v₁ withValue ith) (leafValue v₂ withValue ith) := by
  unfold leafValue
  cases withValue with
  | false => exact Le.refl _
  | true => exact s.leaf ith

theorem descend_le (s : ViewSim v₁ v₂ n) (withValue : Bool) :
    ∀ f₁ f₂, f₁ ≤ f₂ → ∀ stack buf, Le (descend v₁ withValue f₁ stack buf)
      (descend v₂ withValue f₂ stack buf) := by
  refine Le.fuel (fun f₂ stack buf => ?_) (fun f₁ f₂ ih stack buf => ?_)
  · unfold descend; exact Le.error _ _
  · cases stack with
    | nil => unfold descend; exact Le.refl _
    | cons last rest =>
      unfold descend
      refine Le.bind (Le.refl _) (fun buf' => Le.bind (s.node_le _) (fun nd => ?_))
      cases nd with
      | leaf ith lp =>
        exact Le.bind (Le.refl _) (fun _ => Le.bind (leafValue_le s _ _) (fun _ => Le.refl _))
      | inner r =>
        exact Le.bind (Le.refl _) fun _ => Le.bind (Le.refl _) fun _ => ih _ _

theorem iterNext_le (s : ViewSim v₁ v₂ n) (withValue : Bool) (st : IterState) :
    Le (iterNext v₁ withValue st) (iterNext v₂ withValue st) := by
  unfold iterNext
  cases st with
  | single id buf consumed =>
    refine Le.else _ (fun _ => Le.bind (s.node_le id) (fun nd => ?_))
    cases nd with
    | inner r => exact Le.refl _
    | leaf ith lp => exact Le.bind (leafValue_le s _ _) (fun _ => Le.refl _)
  | walk stack buf =>
    cases stack with
    | nil => exact Le.refl _
    | cons e rest =>
      exact Le.bind (descend_le s _ _ _ (Nat.succ_le_succ s.cnt) _ _) (fun _ => Le.refl _)

theorem newIterFrom_le (s : ViewSim v₁ v₂ n) (start : Bytes) (includeStart : Bool) :
    Le (newIterFrom v₁ start includeStart) (newIterFrom v₂ start includeStart) := by
  unfold newIterFrom
  exact Le.bind (getGEPath_le s start) (fun _ => newIter_le s _ _)

end scan

theorem size_ne_zero {t : Trie1} (h : t.view.isEmpty = false) : t.nodes.size ≠ 0 :=
  fun h0 => Bool.false_ne_true (h.symm.trans (beq_iff_eq.mpr h0))

/-- the bit-level facts about `Slim.encode t` (`encodeFacts_of_shape` in SlimProofs/Refine.lean)
    that make the L2 view simulate the L1 view -/
structure EncodeFacts (t : Trie1) : Prop where
  node : ∀ id (h : id < t.nodes.size), Slim.getNode (Slim.encode t) id = .ok t.nodes[id]
  leaf : ∀ ith r, t.view.leafBytes ith = .ok r →
    (Slim.view (Slim.encode t)).leafBytes ith = .ok r
  /-- the node-type bitmap has a bit for every node (fuel) -/
  cnt : t.nodes.size ≤ Slim.nodeCount (Slim.encode t)

theorem view_out (t : Trie1) (id : Nat) (hid : t.nodes.size ≤ id) :
    ∃ e, t.view.node id = .error e := by
  simp only [Trie1.view, Array.getElem?_eq_none hid]
  exact ⟨_, rfl⟩

theorem viewSim_refl (t : Trie1) : ViewSim t.view t.view t.nodes.size :=
  ⟨fun _ _ => rfl, view_out t, fun _ _ h => h, rfl, fun _ => rfl, fun _ => rfl, Nat.le_refl _⟩

theorem viewSim_encode (t : Trie1) (hf : EncodeFacts t) :
    ViewSim t.view (Slim.view (Slim.encode t)) t.nodes.size where
  node := fun id hid => (hf.node id hid).trans (Subtree.view_node t id hid).symm
  out := view_out t
  leaf := hf.leaf
  isEmpty := Refine.view_encode_isEmpty t
  lpOn := fun h => Refine.view_encode_leafPrefixesOn t (size_ne_zero h)
  scanOK := fun h => Refine.view_encode_scanOK t (size_ne_zero h)
  cnt := hf.cnt

end Transport
