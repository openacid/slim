import SlimProofs.SearchDescent
/-
  C13, query half: two record arrays built from the same keys with the same queue of subsets and
  the same shape, one storing at least the prefix information of the other (`Joint`, discharged
  for two `build`s in `SlimProps.C13`), answer `GetID` in lock-step: whenever the richer one
  reports an id, the poorer one reports the same id.  The two loops can be compared node by node
  (`getIDLoop_mono`) because in a well-formed trie the position at node `j` is `queue[j].fb`
  whatever the query.
-/

namespace Monotone
open Descent Agree Subtree SearchDescent

/-- `t` (richer) and `t'` (poorer) are well-formed for the same keys with the same queue — so node
    `j` is a leaf in both or inner in both —, their inner records differ in `pref` only, and `t'`
    stores no more prefix information than `t` -/
structure Joint (keys : List Bytes) (keep : List Bool) (t t' : Trie1) (queue : Array Subset) :
    Prop where
  q : QOK keys keep t queue
  q' : QOK keys keep t' queue
  inner : ∀ (j : Nat) (r : InnerRec), t.nodes[j]? = some (.inner r) →
    ∃ p, t'.nodes[j]? = some (.inner { r with pref := p })
  optInner : t'.opt.inner = true → t.opt.inner = true
  optLeaf : t'.opt.leaf = true → t.opt.leaf = true

theorem runCmp_poorer {o o' : Opt} {ks kn : List Nat} {fb ws : Nat}
    (hin : o'.inner = true → o.inner = true) (h : runCmp o ks kn fb ws = .eq) :
    runCmp o' ks kn fb ws = .eq := by
  unfold runCmp at h ⊢
  split
  · next h' => rwa [if_pos ⟨hin h'.1, h'.2⟩] at h
  · rfl

variable {keys : List Bytes} {keep : List Bool} {t t' : Trie1} {queue : Array Subset}

/-- an equation for the poorer array's loop: the same node and position; `lp` is forgotten where it
    stores no tails, since its leaves then carry `none` -/
theorem getIDLoop_mono (J : Joint keys keep t t' queue) (kn : List Nat)
    (hkne : kn.length % 2 = 0) :
    ∀ f j oj r, queue[j]? = some oj → oj.fb ≤ kn.length →
      getIDLoop t.view kn f j oj.fb = .ok (some r) →
      getIDLoop t'.view kn f j oj.fb =
        .ok (some { r with lp := if t'.opt.leaf = true then r.lp else none }) := by
  intro f
  induction f with
  | zero => intro j oj r _ _ h; simp [getIDLoop] at h
  | succ f ih =>
    intro j oj r hqj hlen h
    obtain ⟨hsub, nd, hview, hnd, hnode⟩ := J.q.view hqj
    obtain ⟨_, nd', hview', hnd', hnode'⟩ := J.q'.view hqj
    rw [getIDLoop_seen] at h ⊢
    cases nd with
    | leaf ith lp =>
      rw [observe_leaf kn _ hview] at h
      cases h
      cases nd' with
      -- an inner node has at least two keys
      | inner r' => exact absurd (hnode.1 ▸ hnode'.1) (Nat.not_succ_le_self _)
      | leaf ith' lp' =>
        rw [observe_leaf kn _ hview', hnode.2.2, hnode'.2.2]
        unfold leafPrefOf
        cases hl' : t'.opt.leaf with
        | false => rfl
        | true => rw [J.optLeaf hl']; rfl
    | inner rr =>
      obtain ⟨p, hn'⟩ := J.inner j rr hnd
      cases Option.some.inj (hnd'.symm.trans hn')
      obtain ⟨ws, F⟩ := inner_facts J.q hsub hnode.2
      obtain ⟨ws', F'⟩ := inner_facts J.q' hsub hnode'.2
      -- both records branch at the same position: their first children are the same queue entry
      have hws : ws' = ws := by
        obtain ⟨c, hc, hcfb, _⟩ := F.kid 0 F.ne
        obtain ⟨c', hc', hcfb', _⟩ := F'.kid 0 F'.ne
        cases hc.symm.trans hc'
        exact (Nat.add_right_cancel (hcfb.symm.trans hcfb')).symm
      subst hws
      rw [observe_inner hsub F hview kn hlen] at h
      rw [observe_inner hsub F' hview' kn hlen]
      cases hc : runCmp t.opt (knOf keys oj.s) kn oj.fb ws' with
      | lt => rw [hc] at h; cases h
      | gt => rw [hc] at h; cases h
      | eq =>
        rw [hc] at h
        rw [runCmp_poorer J.optInner hc]
        simp only at h ⊢
        by_cases hov : ws' > kn.length
        · rw [if_pos hov] at h; cases h
        rw [if_neg hov] at h ⊢
        -- the branch: the same labels, hence the same child
        by_cases hmem : labelAt kn ws' rr.big ∈ rr.labels
        · obtain ⟨k, hk, hkl⟩ := List.mem_iff_getElem.mp hmem
          obtain ⟨c, hqc, hcfb, _⟩ := F.kid k hk
          rw [branch_present F kn hk hkl] at h
          rw [branch_present F' kn hk hkl]
          by_cases hil : ws' = kn.length
          · rw [if_pos hil] at h ⊢
            cases h
            rw [ite_self]; rfl
          · rw [if_neg hil] at h ⊢
            have hnext := kid_next hkl (Nat.lt_of_le_of_ne (Nat.le_of_not_lt hov) hil) hcfb
            show getIDLoop t'.view kn f (rr.firstChild + k) (ws' + wordSize rr.big) = _
            rw [hnext]
            refine ih _ c r hqc ?_ (hnext ▸ h)
            rw [hcfb, hkl]
            exact label_long (fun _ => hkne) (fun hb => (F.big hb).1) (Nat.le_of_not_lt hov)
        · rw [branch_absent F kn hmem] at h; cases h

theorem getID_mono (J : Joint keys keep t t' queue)
    (hroot : queue[0]? = some { s := 0, e := keys.length, fb := 0 }) (key : Bytes) (id : Nat)
    (h : getID t.view key = .ok (some id)) : getID t'.view key = .ok (some id) := by
  have hc : t'.view.nodeCnt = t.view.nodeCnt := J.q'.size.symm.trans J.q.size
  rw [getID_eq, view_nonempty (J.q.lt hroot)] at h
  rw [getID_eq, view_nonempty (J.q'.lt hroot), hc]
  cases hl : getIDLoop t.view (nibs key) (t.view.nodeCnt + 1) 0 0 with
  | error e => rw [hl] at h; cases h
  | ok o =>
    rw [hl] at h
    cases o with
    | none => cases h
    | some r =>
      rw [getIDLoop_mono J (nibs key) (by rw [nibs_length]; exact Nat.mul_mod_right 2 _)
        _ 0 _ r hroot (Nat.zero_le _) hl]
      simp only [Bool.false_eq_true, if_false] at h ⊢
      cases hleaf' : t'.opt.leaf with
      | false => rw [idEpi_off (v := t'.view) hleaf', idEpi_id _ _ _ _ h]
      | true =>
        -- both arrays store leaf tails: the same state, the same epilogue
        have h1 : t'.view.leafPrefixesOn = true := hleaf'
        have h2 : t.view.leafPrefixesOn = true := J.optLeaf hleaf'
        simp only [idEpi, h1, h2, if_true] at h ⊢
        exact h

end Monotone
