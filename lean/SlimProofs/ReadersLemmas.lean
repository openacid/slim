import SlimModel.Readers
/-
  The frame property of `Readers.step` (`step_shared`) and what follows from it:
  a thread's answers and local state depend only on its own calls; an iterator's yields depend
  only on the `next` calls made on it.
-/
namespace Readers

theorem step_shared (sh : Shared) (loc : Local) (op : ReadOp) : (step sh loc op).1 = sh := by
  cases op <;> simp only [step]
  · split <;> rfl
  · split
    · rfl
    · split <;> rfl

theorem runAlone_shared (sh : Shared) (loc : Local) (ops : List ReadOp) :
    (runAlone sh loc ops).1 = sh := by
  induction ops generalizing loc with
  | nil => rfl
  | cons op rest ih => simp only [runAlone]; rw [step_shared, ih]

theorem run_shared (sh : Shared) (locs : Locals) (sched : Schedule) : (run sh locs sched).1 = sh := by
  induction sched generalizing locs with
  | nil => rfl
  | cons p rest ih =>
    obtain ⟨t, op⟩ := p
    simp only [run]; rw [step_shared, ih]

theorem setLocal_same (locs : Locals) (t : ThreadId) (l : Local) : setLocal locs t l t = l := by
  simp [setLocal]

theorem setLocal_other (locs : Locals) {t u : ThreadId} (l : Local) (h : u ≠ t) :
    setLocal locs t l u = locs u := by
  simp [setLocal, h]

theorem run_thread (sh : Shared) (t : ThreadId) (sched : Schedule) (locs : Locals) :
    answersOf t (run sh locs sched).2.2 = (runAlone sh (locs t) (opsOf t sched)).2.2 ∧
    (run sh locs sched).2.1 t = (runAlone sh (locs t) (opsOf t sched)).2.1 := by
  induction sched generalizing locs with
  | nil => exact ⟨rfl, rfl⟩
  | cons p rest ih =>
    obtain ⟨u, op⟩ := p
    simp only [run, step_shared]
    have h := ih (setLocal locs u (step sh (locs u) op).2.1)
    by_cases hu : u = t
    · subst hu
      rw [setLocal_same] at h
      simp only [answersOf, opsOf, List.filterMap_cons, if_true, runAlone, step_shared]
      exact ⟨congrArg _ h.1, h.2⟩
    · rw [setLocal_other _ _ (fun e => hu e.symm)] at h
      simp only [answersOf, opsOf, List.filterMap_cons, hu, if_false]
      exact h

def nextCalls (a : Nat) : List ReadOp → Nat
  | [] => 0
  | op :: ops => (if op = .next a then 1 else 0) + nextCalls a ops

theorem step_keeps_iter (sh : Shared) (loc : Local) (op : ReadOp) (a : Nat) (it : Iter)
    (h : loc[a]? = some it) (hop : op ≠ .next a) : (step sh loc op).2.1[a]? = some it := by
  have ha : a < loc.length := (List.getElem?_eq_some_iff.mp h).1
  cases op <;> simp only [step] <;> try exact h
  · split
    · simp only; rw [List.getElem?_append_left ha]; exact h
    · exact h
  · next b =>
    have hb : b ≠ a := fun e => hop (by rw [e])
    split
    · exact h
    · split
      · simp only; rw [List.getElem?_set_ne hb]; exact h
      · exact h

theorem step_next (sh : Shared) (loc : Local) (a : Nat) (it : Iter) (h : loc[a]? = some it) :
    ∃ it', (step sh loc (.next a)).2.1[a]? = some it' ∧
      (step sh [it] (.next 0)).2.1 = [it'] ∧
      (step sh loc (.next a)).2.2 = (step sh [it] (.next 0)).2.2 := by
  have ha : a < loc.length := (List.getElem?_eq_some_iff.mp h).1
  simp only [step, h, List.getElem?_cons_zero]
  cases hn : Scan.iterNext (Slim.view sh.inner) it.withValue it.st with
  | error e => exact ⟨it, h, rfl, rfl⟩
  | ok r =>
    obtain ⟨s', k, val⟩ := r
    refine ⟨{ it with st := s' }, ?_, rfl, rfl⟩
    simp only
    rw [List.getElem?_set_self ha]

theorem yields_alone (sh : Shared) (a : Nat) (ops : List ReadOp) (loc : Local) (it : Iter)
    (h : loc[a]? = some it) :
    yields a ops (runAlone sh loc ops).2.2
      = (runAlone sh [it] (List.replicate (nextCalls a ops) (.next 0))).2.2 := by
  induction ops generalizing loc it with
  | nil => rfl
  | cons op rest ih =>
    simp only [runAlone, step_shared, yields, nextCalls]
    by_cases hop : op = .next a
    · subst hop
      obtain ⟨it', h1, h2, h3⟩ := step_next sh loc a it h
      simp only [if_true, Nat.add_comm 1, List.replicate_succ, runAlone, step_shared]
      rw [ih _ it' h1, h2, h3]
    · simp only [hop, if_false, Nat.zero_add]
      exact ih _ it (step_keeps_iter sh loc op a it h hop)

theorem runAlone_append (sh : Shared) (loc : Local) (xs ys : List ReadOp) :
    (runAlone sh loc (xs ++ ys)).2.2
      = (runAlone sh loc xs).2.2 ++ (runAlone sh (runAlone sh loc xs).2.1 ys).2.2 ∧
    (runAlone sh loc (xs ++ ys)).2.1 = (runAlone sh (runAlone sh loc xs).2.1 ys).2.1 := by
  induction xs generalizing loc with
  | nil => exact ⟨rfl, rfl⟩
  | cons x xs ih =>
    simp only [List.cons_append, runAlone, step_shared]
    obtain ⟨h1, h2⟩ := ih (step sh loc x).2.1
    exact ⟨by rw [h1], h2⟩

end Readers
