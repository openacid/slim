import SlimProofs.Runs
/-
  Every successful `build` produces a well-formed record array (`build_wf`), by a loop invariant
  `BInv` over `buildLoop`: the queue is append-only, so what was established of a record stays true
  (`NodeOK_mono`).  Induction along a successful run of the loop is `buildLoop_induct`
  (`buildLoop_induct₂` for two runs in lockstep); every fact about the final state of the loop is
  an instance.  Three ways into `build keys vals opt = .ok t`, by what the caller wants of it:
  `build_pre` for the input checks alone (the keys ascend, as many values as keys);
  `BuildShape.build_ok_elim` for these and the run of the loop from `initSt` whose final state `t`
  is made of — every fact about a built trie starts here; `BuildShape.build_eq_loop` for the
  equation on valid input, errors included (`C08Accept`).  The second half of the file is in
  namespace `BuildShape`.
-/

namespace BuildInv

structure CtxOK (keys : List Bytes) (keep : List Bool) (opt : Opt) (c : BCtx) : Prop where
  kn : ∀ t, c.kn.getD t [] = knOf keys t
  kb : ∀ t, c.kb.getD t [] = keys.getD t []
  keep : ∀ t, c.keep.getD t false = keptAt keep t
  lcps : ∀ t, t + 1 < keys.length → c.lcps.getD t 0 = lcp (knOf keys t) (knOf keys (t + 1))
  opt : c.opt = opt

theorem map_nibs_getD (keys : List Bytes) (t : Nat) :
    (keys.map nibs).getD t [] = nibs (keys.getD t []) := by
  rw [List.getD_eq_getElem?_getD, List.getD_eq_getElem?_getD, List.getElem?_map]
  cases keys[t]? <;> rfl

theorem mkLcps_getD (l : List (List Nat)) (t : Nat) (h : t + 1 < l.length) :
    (mkLcps l).getD t 0 = lcp (l.getD t []) (l.getD (t + 1) []) := by
  induction l generalizing t with
  | nil => exact absurd h (Nat.not_lt_zero _)
  | cons a rest ih =>
    cases rest with
    | nil => exact absurd (Nat.lt_of_succ_lt_succ h) (Nat.not_lt_zero _)
    | cons b rest =>
      cases t with
      | zero => rfl
      | succ t =>
        simp only [mkLcps, List.getD_cons_succ]
        exact ih t (Nat.lt_of_succ_lt_succ h)

/-- the context that `build.go` constructs -/
def mkCtx (keys : List Bytes) (vals : Option (List Bytes)) (opt : Opt) : BCtx :=
  { kn := (keys.map nibs).toArray, kb := keys.toArray
    keep := (keepMask keys.length vals opt.dedup).toArray
    lcps := (mkLcps (keys.map nibs)).toArray, opt := opt }

theorem mkCtx_ok (keys : List Bytes) (vals : Option (List Bytes)) (opt : Opt) :
    CtxOK keys (keepMask keys.length vals opt.dedup) opt (mkCtx keys vals opt) where
  kn t := by simp only [mkCtx, List.toArray_getD_eq, map_nibs_getD, knOf]
  kb t := by simp only [mkCtx, List.toArray_getD_eq]
  keep t := by simp only [mkCtx, List.toArray_getD_eq, keptAt]
  lcps t h := by
    simp only [mkCtx, List.toArray_getD_eq, knOf]
    rw [mkLcps_getD _ _ (by simpa using h), map_nibs_getD, map_nibs_getD]
  opt := rfl

theorem knOf_lt {keys : List Bytes} (hasc : strictAsc keys = true) {a b : Nat} (hab : a < b)
    (hb : b < keys.length) : lexCmp (knOf keys a) (knOf keys b) = .lt :=
  bytesLt_iff_nibs.mp (strictAsc_lt hasc hab hb)

theorem labelOf_mono {keys : List Bytes} (hasc : strictAsc keys = true) {s e ws : Nat} (big : Bool)
    (he : e ≤ keys.length) (hws : big = true → ws % 2 = 0)
    (hagree : ∀ t, s ≤ t → t < e → (knOf keys t).take ws = (knOf keys s).take ws) :
    ∀ a b, s ≤ a → a ≤ b → b < e → labelOf keys ws big a ≤ labelOf keys ws big b := by
  intro a b h1 h2 h3
  by_cases hab : a = b
  · rw [hab]; exact Nat.le_refl _
  · unfold labelOf
    apply labelAt_mono (Words.knOf keys a hws) (Words.knOf keys b hws)
      (knOf_lt hasc (Nat.lt_of_le_of_ne h2 hab) (Nat.lt_of_lt_of_le h3 he))
    rw [hagree a h1 (Nat.lt_of_le_of_lt h2 h3), hagree b (Nat.le_trans h1 h2) h3]

theorem keyLabel_eq {keys : List Bytes} {keep : List Bool} {opt : Opt} {c : BCtx}
    (hc : CtxOK keys keep opt c) (ws : Nat) (big : Bool) :
    keyLabel c ws big = labelOf keys ws big := by
  funext t; simp only [keyLabel, labelOf, hc.kn]

theorem add_labelLen_even {ws : Nat} (l : Nat) (h : ws % 2 = 0) :
    (ws + labelLen l true) % 2 = 0 := by
  unfold labelLen; split <;> simp <;> omega

/-- the child subset made from a run `(l, s', j)` -/
def kidOf (ws : Nat) (big : Bool) (x : Nat × Nat × Nat) : Subset :=
  { s := x.2.1, e := x.2.2, fb := ws + labelLen x.1 big }

theorem prefix_of_minLcp {keys : List Bytes} {keep : List Bool} {opt : Opt} {c : BCtx}
    (hc : CtxOK keys keep opt c) {s e ws : Nat} (he : e ≤ keys.length) (h2 : s + 2 ≤ e)
    (hws : ws ≤ minLcp c s e) :
    ∀ t, s ≤ t → t < e →
      ws ≤ (knOf keys t).length ∧ (knOf keys t).take ws = (knOf keys s).take ws := by
  apply common_prefix_of_le_lcp (knOf keys) s e ws h2
  intro t h1 h3
  have := (minLcp_spec c h2).2 t h1 h3
  rw [hc.lcps t (Nat.lt_of_lt_of_le h3 he)] at this
  exact Nat.le_trans hws this

/-- `keptLabels` in the vocabulary of the proofs; its users go through this equation and the lemmas
    of `keptIn` and do not unfold it -/
theorem keptLabels_keptIn {keys : List Bytes} {keep : List Bool} {opt : Opt} {c : BCtx}
    (hc : CtxOK keys keep opt c) (s e ws : Nat) (big : Bool) :
    keptLabels c s e ws big = dedupAdj ((LeafCount.keptIn keep s e).map (labelOf keys ws big)) := by
  unfold keptLabels LeafCount.keptIn
  rw [keyLabel_eq hc]
  congr 3
  funext t
  exact hc.keep t

theorem keptLabels_spec {keys : List Bytes} {keep : List Bool} {opt : Opt} {c : BCtx}
    (hc : CtxOK keys keep opt c) {s e ws : Nat} {big : Bool}
    (hmono : ∀ a b, s ≤ a → a ≤ b → b < e → labelOf keys ws big a ≤ labelOf keys ws big b) :
    (∀ l, l ∈ keptLabels c s e ws big ↔
      ∃ t, s ≤ t ∧ t < e ∧ keptAt keep t = true ∧ labelOf keys ws big t = l) ∧
    (keptLabels c s e ws big).Pairwise (· < ·) := by
  rw [keptLabels_keptIn hc]
  refine ⟨fun l => ?_, dedupAdj_pairwise_lt ?_⟩
  · simp only [mem_dedupAdj, List.mem_map, LeafCount.mem_keptIn, and_assoc]
  · rw [List.pairwise_map]
    refine List.Pairwise.imp_of_mem (fun ha hb hab => ?_) (LeafCount.keptIn_asc keep s e)
    exact hmono _ _ (LeafCount.mem_keptIn.mp ha).1 (Nat.le_of_lt hab) (LeafCount.mem_keptIn.mp hb).2.1

theorem inner_ok {keys : List Bytes} {keep : List Bool} {opt : Opt} {c : BCtx}
    (hc : CtxOK keys keep opt c) (hasc : strictAsc keys = true)
    {o : Subset} (hsub : SubOK keys keep o) (h2 : o.s + 2 ≤ o.e) {ws : Nat} {big : Bool}
    (hfb : o.fb ≤ ws) (hws : ws ≤ minLcp c o.s o.e)
    (hbig : big = true → ws % 2 = 0 ∧ o.fb % 2 = 0)
    (q : Array Subset) (j : Nat) (hj : j < q.size) :
    InnerOK keys keep opt
      (q ++ ((childRuns (keyLabel c ws big) o.e (keptLabels c o.s o.e ws big) o.s).map
        (kidOf ws big)).toArray) j o
      { big := big, labels := keptLabels c o.s o.e ws big, firstChild := q.size,
        pref := prefOf opt (knOf keys o.s) o.fb ws } ∧
    ∀ x ∈ childRuns (keyLabel c ws big) o.e (keptLabels c o.s o.e ws big) o.s,
      SubOK keys keep (kidOf ws big x) ∧ (big = true → (kidOf ws big x).fb % 2 = 0) := by
  have hpre := prefix_of_minLcp hc hsub.le h2 hws
  have hmono := labelOf_mono hasc big hsub.le (fun h => (hbig h).1)
    (fun t h1 h3 => (hpre t h1 h3).2)
  obtain ⟨hmem, hpw⟩ := keptLabels_spec hc hmono
  rw [keyLabel_eq hc]
  generalize keptLabels c o.s o.e ws big = labels at hmem hpw ⊢
  -- every label is carried by a (kept) key, so each run is exactly the keys of its label
  have hruns := childRuns_spec (labelOf keys ws big) o.e labels o.s hmono hpw (by
    intro l hl
    obtain ⟨t, h1, h3, _, h5⟩ := (hmem l).mp hl
    exact ⟨t, h1, h3, h5⟩)
  -- the two lists are linked by `runs.map (·.1) = labels` only
  have hmap := childRuns_map_fst (labelOf keys ws big) o.e labels o.s
  generalize childRuns (labelOf keys ws big) o.e labels o.s = runs at hruns hmap ⊢
  subst hmap
  constructor
  · refine ⟨ws, hfb, hpre, hbig, rfl, hmem, hpw, hmono, hj, ?_⟩
    intro k hk
    dsimp only at hk ⊢
    have hk' : k < runs.length := by rw [List.length_map] at hk; exact hk
    have hfst : (runs[k]).1 = (runs.map (·.1))[k] := (List.getElem_map _).symm
    have hrun := hruns runs[k] (List.getElem_mem hk')
    refine ⟨kidOf ws big runs[k], ?_, ?_, hrun.ge, hrun.le, ?_⟩
    · rw [Array.getElem?_append_right (Nat.le_add_right _ _)]
      simp only [Nat.add_sub_cancel_left, List.getElem?_toArray, List.getElem?_map,
        List.getElem?_eq_getElem hk', Option.map_some]
    · simp only [kidOf, hfst]
    · intro t h1 h3
      rw [← hfst]
      exact hrun.iff t h1 h3
  · -- the child made of a run: its keys carry one label, so they agree up to behind it
    intro x hx
    have hrun := hruns x hx
    have hxl : x.1 ∈ runs.map (·.1) := List.mem_map_of_mem hx
    have hb1 : big = true → ws % 2 = 0 := fun h => (hbig h).1
    -- a key of the run is a key of `o` and carries the label of the run
    have hkey : ∀ t, x.2.1 ≤ t → t < x.2.2 →
        (ws ≤ (knOf keys t).length ∧ (knOf keys t).take ws = (knOf keys o.s).take ws) ∧
          labelAt (knOf keys t) ws big = x.1 := fun t h1 h3 =>
      have h1' := Nat.le_trans hrun.ge h1
      have h3' := Nat.lt_of_lt_of_le h3 hrun.le
      ⟨hpre t h1' h3', (hrun.iff t h1' h3').mp ⟨h1, h3⟩⟩
    constructor
    · refine ⟨hrun.lt, Nat.le_trans hrun.le hsub.le, ?_, ?_, ?_⟩
      · obtain ⟨t, h1, h3, h4, h5⟩ := (hmem x.1).mp hxl
        have := (hrun.iff t h1 h3).mpr h5
        exact ⟨t, this.1, this.2, h4⟩
      · intro t h1 h3
        obtain ⟨⟨_, ht⟩, hl⟩ := hkey t h1 h3
        obtain ⟨⟨_, hs⟩, hls⟩ := hkey x.2.1 (Nat.le_refl _) hrun.lt
        have := take_label_eq (Words.knOf keys t hb1) (Words.knOf keys x.2.1 hb1)
          (ht.trans hs.symm)
          (hl.trans hls.symm)
        rw [hl] at this
        exact this
      · intro t h1 h3
        obtain ⟨⟨hlen, _⟩, hl⟩ := hkey t h1 h3
        have := label_long (ws := ws) (big := big) (fun _ => knOf_even keys t) hb1 hlen
        rw [hl] at this
        exact this
    · intro hb
      subst hb
      exact add_labelLen_even x.1 (hb1 rfl)

/-- the inner-node branch of `buildStep`, with the big/small decision and the branching position named -/
theorem buildStep_inner_eq (c : BCtx) (st : BSt) (o : Subset) (h : ¬ o.e - o.s = 1)
    (goBig : Bool) (hgo : goBig = (st.isBig && decide (prefCnt c o.s o.e (minLcp c o.s o.e) > 10)))
    (ws : Nat) (hws : ws = if goBig then minLcp c o.s o.e - minLcp c o.s o.e % 2 else minLcp c o.s o.e) :
    buildStep c st o =
      if ws < o.fb then .error (.panic "wordStart smaller than o.fromKeyBit") else
      if !c.opt.inner && decide (ws - o.fb > 0xffff) then .error .stepTooLong else
      .ok { st with
            isBig := goBig
            bigCnt := if goBig then st.bigCnt + 1 else st.bigCnt
            queue := st.queue ++ ((childRuns (keyLabel c ws goBig) o.e (keptLabels c o.s o.e ws goBig) o.s).map
              (kidOf ws goBig)).toArray
            nodes := st.nodes.push (Node.inner
              { big := goBig, labels := keptLabels c o.s o.e ws goBig, firstChild := st.queue.size, pref := prefOf c.opt (c.kn.getD o.s []) o.fb ws }) } := by
  subst hgo hws
  unfold buildStep
  rw [if_neg h]
  rfl

theorem buildStep_leaf_eq (c : BCtx) (st : BSt) (o : Subset) (h : o.e - o.s = 1) :
    buildStep c st o =
      .ok { st with nodes := st.nodes.push (.leaf st.leafKeyIdx.size (leafPrefOf c.opt (c.kb.getD o.s []) o.fb))
                    leafKeyIdx := st.leafKeyIdx.push o.s } := by
  unfold buildStep
  rw [if_pos h]
  rfl

theorem two_le_of_not_leaf {s e : Nat} (hlt : s < e) (hleaf : ¬ e - s = 1) : s + 2 ≤ e :=
  Nat.lt_of_le_of_ne hlt fun h => hleaf (by rw [← h, Nat.add_sub_cancel_left])

theorem ok_of_guards {ε α : Type} {p q : Prop} [Decidable p] [Decidable q] {e1 e2 : ε} {x y : α}
    (h : (if p then Except.error e1 else if q then Except.error e2 else Except.ok x) = Except.ok y) :
    ¬ p ∧ ¬ q ∧ x = y := by
  by_cases hp : p
  · rw [if_pos hp] at h; cases h
  · by_cases hq : q
    · rw [if_neg hp, if_pos hq] at h; cases h
    · rw [if_neg hp, if_neg hq] at h; exact ⟨hp, hq, Except.ok.inj h⟩

theorem buildStep_inner_ok {c : BCtx} {st st' : BSt} {o : Subset} (hleaf : ¬ o.e - o.s = 1)
    (h : buildStep c st o = .ok st') :
    ∃ goBig ws, goBig = (st.isBig && decide (prefCnt c o.s o.e (minLcp c o.s o.e) > 10)) ∧
      ws = (if goBig then minLcp c o.s o.e - minLcp c o.s o.e % 2 else minLcp c o.s o.e) ∧
      o.fb ≤ ws ∧ (c.opt.inner = false → ws - o.fb ≤ 0xffff) ∧
      st' = { st with
            isBig := goBig
            bigCnt := if goBig then st.bigCnt + 1 else st.bigCnt
            queue := st.queue ++ ((childRuns (keyLabel c ws goBig) o.e (keptLabels c o.s o.e ws goBig) o.s).map
              (kidOf ws goBig)).toArray
            nodes := st.nodes.push (Node.inner
              { big := goBig, labels := keptLabels c o.s o.e ws goBig, firstChild := st.queue.size, pref := prefOf c.opt (c.kn.getD o.s []) o.fb ws }) } := by
  refine ⟨_, _, rfl, rfl, ?_⟩
  rw [buildStep_inner_eq c st o hleaf _ rfl _ rfl] at h
  obtain ⟨hfb, hguard, rfl⟩ := ok_of_guards h
  refine ⟨Nat.le_of_not_lt hfb, fun hin => ?_, rfl⟩
  exact Nat.le_of_not_lt (fun hlt => hguard (by rw [hin]; exact decide_eq_true hlt))

theorem buildStep_push {c : BCtx} {st st' : BSt} {o : Subset} (h : buildStep c st o = .ok st') :
    ∃ nd, st'.nodes = st.nodes.push nd := by
  by_cases hleaf : o.e - o.s = 1
  · rw [buildStep_leaf_eq c st o hleaf] at h
    cases h
    exact ⟨_, rfl⟩
  · obtain ⟨_, _, _, _, _, _, rfl⟩ := buildStep_inner_ok hleaf h
    exact ⟨_, rfl⟩

theorem NodeOK_mono {keys : List Bytes} {keep : List Bool} {opt : Opt} {q q' : Array Subset}
    {lk lk' : Array Nat} {j : Nat} {o : Subset} {nd : Node}
    (hq : ∀ (j : Nat) c, q[j]? = some c → q'[j]? = some c)
    (hl : ∀ (j : Nat) x, lk[j]? = some x → lk'[j]? = some x)
    (h : NodeOK keys keep opt q lk j o nd) : NodeOK keys keep opt q' lk' j o nd := by
  cases nd with
  | leaf ith lp =>
    obtain ⟨h1, h2, h3⟩ := h
    exact ⟨h1, hl _ _ h2, h3⟩
  | inner r =>
    -- only the children are looked up in the queue
    obtain ⟨h0, ws, h1, h2, h3, h4, h5, h6, h7, h8, h9⟩ := h
    refine ⟨h0, ws, h1, h2, h3, h4, h5, h6, h7, h8, fun k hk => ?_⟩
    obtain ⟨c, hc1, hc2⟩ := h9 k hk
    exact ⟨c, hq _ _ hc1, hc2⟩

theorem getElem?_append_mono {α : Type} (q k : Array α) (j : Nat) (c : α)
    (h : q[j]? = some c) : (q ++ k)[j]? = some c := by
  have hj : j < q.size := (Array.getElem?_eq_some_iff.mp h).1
  exact (Array.getElem?_append_left hj).trans h

theorem getElem?_push_mono {α : Type} (q : Array α) (a : α) (j : Nat) (c : α)
    (h : q[j]? = some c) : (q.push a)[j]? = some c := by
  rw [← Array.append_singleton]
  exact getElem?_append_mono q #[a] j c h

/-- What holds before turn `i` of `buildLoop`: entries `0 … i-1` of the queue have their records
    (`size`, `node`), the others wait (`le`).  `sub` speaks of every entry, waiting or not: it is a
    proper subset, and — an 8-bit node follows 8-bit nodes only, so `fb` is even — starts at a byte
    boundary as long as `isBig` holds, which an 8-bit node needs when it rounds its branching
    position down to one (`le_wsRound`).  `node` is stated over the current queue and leaf index;
    both only grow (`NodeOK_mono`).  `root` is what `WF` asks of entry 0. -/
structure BInv (keys : List Bytes) (keep : List Bool) (opt : Opt) (st : BSt) (i : Nat) : Prop where
  size : st.nodes.size = i
  le : i ≤ st.queue.size
  root : st.queue[0]? = some { s := 0, e := keys.length, fb := 0 }
  sub : ∀ (j : Nat) o, st.queue[j]? = some o →
    SubOK keys keep o ∧ (st.isBig = true → o.fb % 2 = 0)
  node : ∀ j, j < i → ∃ o nd, st.queue[j]? = some o ∧ st.nodes[j]? = some nd ∧
    NodeOK keys keep opt st.queue st.leafKeyIdx j o nd

theorem buildStep_inv {keys : List Bytes} {keep : List Bool} {opt : Opt} {c : BCtx}
    (hc : CtxOK keys keep opt c) (hasc : strictAsc keys = true)
    {st st' : BSt} {i : Nat} (hinv : BInv keys keep opt st i) (hi : i < st.queue.size)
    (hstep : buildStep c st st.queue[i] = .ok st') : BInv keys keep opt st' (i + 1) := by
  generalize ho : st.queue[i] = o at hstep
  have ho' : st.queue[i]? = some o := by rw [← ho]; exact Array.getElem?_eq_getElem hi
  obtain ⟨hsub, heven⟩ := hinv.sub i o ho'
  have hsize := hinv.size
  -- the record pushed describes entry `i`; the earlier ones stay valid as queue and leaf index grow
  have hnode : ∀ {q : Array Subset} {lk : Array Nat} {nd : Node},
      (∀ (j : Nat) c, st.queue[j]? = some c → q[j]? = some c) →
      (∀ (j : Nat) x, st.leafKeyIdx[j]? = some x → lk[j]? = some x) →
      NodeOK keys keep opt q lk i o nd → ∀ j, j < i + 1 → ∃ o nd', q[j]? = some o ∧
        (st.nodes.push nd)[j]? = some nd' ∧ NodeOK keys keep opt q lk j o nd' := by
    intro q lk nd hq hl hnd j hj
    by_cases hji : j = i
    · rw [hji]
      exact ⟨o, nd, hq _ _ ho', by rw [← hsize]; exact Array.getElem?_push_size, hnd⟩
    · obtain ⟨o2, nd2, h1, h2, h3⟩ := hinv.node j (Nat.lt_of_le_of_ne (Nat.le_of_lt_succ hj) hji)
      exact ⟨o2, nd2, hq _ _ h1, getElem?_push_mono _ _ _ _ h2, NodeOK_mono hq hl h3⟩
  by_cases hleaf : o.e - o.s = 1
  · rw [buildStep_leaf_eq c st o hleaf] at hstep
    cases hstep
    have he1 : o.e = o.s + 1 :=
      (Nat.eq_add_of_sub_eq (Nat.le_of_lt hsub.lt) hleaf).trans (Nat.add_comm 1 _)
    refine ⟨by simp only [Array.size_push, hsize], hi, hinv.root, hinv.sub,
      hnode (fun _ _ h => h) (fun _ _ h => getElem?_push_mono _ _ _ _ h)
        ⟨he1, Array.getElem?_push_size, by rw [hc.opt, hc.kb]⟩⟩
  · have h2 := two_le_of_not_leaf hsub.lt hleaf
    obtain ⟨goBig, ws, hgo, hws, hfb, _, rfl⟩ := buildStep_inner_ok hleaf hstep
    have hstbig : goBig = true → st.isBig = true := fun hb =>
      (Bool.and_eq_true_iff.mp (hgo ▸ hb)).1
    have hwsle : ws ≤ minLcp c o.s o.e := hws ▸ wsRound_le _ goBig
    have hbig : goBig = true → ws % 2 = 0 ∧ o.fb % 2 = 0 := by
      intro hb
      refine ⟨?_, heven (hstbig hb)⟩
      rw [hws, if_pos hb]; exact wsRound_even _
    obtain ⟨hin, hkids⟩ := inner_ok hc hasc hsub h2 hfb hwsle hbig st.queue i hi
    refine ⟨by simp only [Array.size_push, hsize],
      by simp only [Array.size_append]; exact Nat.le_trans hi (Nat.le_add_right _ _),
      getElem?_append_mono _ _ _ _ hinv.root, fun j o2 h => ?_,
      hnode (fun _ _ h => getElem?_append_mono _ _ _ _ h) (fun _ _ h => h)
        ⟨h2, by rw [hc.opt, hc.kn]; exact hin⟩⟩
    -- an entry of the new queue is an old entry or one of the children
    rw [Array.getElem?_append] at h
    split at h
    · exact (hinv.sub j o2 h).imp_right fun he hb => he (hstbig hb)
    · rw [List.getElem?_toArray, List.getElem?_map, Option.map_eq_some_iff] at h
      obtain ⟨x, hx1, rfl⟩ := h
      exact hkids x (List.mem_of_getElem? hx1)

theorem buildLoop_induct {c : BCtx} (P : Nat → BSt → Prop)
    (hstep : ∀ i st st', P i st → (hi : i < st.queue.size) →
      buildStep c st st.queue[i] = .ok st' → P (i + 1) st')
    (fuel i : Nat) (st st' : BSt) (h0 : P i st) (h : buildLoop c fuel i st = .ok st') :
    ∃ j, j ≤ i + fuel ∧ ¬ j < st'.queue.size ∧ P j st' := by
  induction fuel generalizing i st with
  | zero =>
    simp only [buildLoop] at h
    split at h
    · cases h
    · next hi => cases h; exact ⟨i, Nat.le_refl _, hi, h0⟩
  | succ fuel ih =>
    simp only [buildLoop] at h
    split at h
    · next hi =>
      split at h
      · next st2 hst =>
        obtain ⟨j, hj, hP⟩ := ih _ _ (hstep i st st2 h0 hi hst) h
        exact ⟨j, Nat.add_right_comm i 1 fuel ▸ hj, hP⟩
      · cases h
    · next hi => cases h; exact ⟨i, Nat.le_add_right _ _, hi, h0⟩

/-- `hsize` makes the two runs stop at the same step, so one induction on the shared fuel serves
    both. -/
theorem buildLoop_induct₂ {c c' : BCtx} (R : Nat → BSt → BSt → Prop)
    (hsize : ∀ i st st', R i st st' → st'.queue.size = st.queue.size)
    (hstep : ∀ i st st' s1 s1', R i st st' → (hi : i < st.queue.size) → (hi' : i < st'.queue.size) →
      buildStep c st st.queue[i] = .ok s1 → buildStep c' st' st'.queue[i] = .ok s1' →
      R (i + 1) s1 s1')
    (fuel i : Nat) (st st' s1 s1' : BSt) (h0 : R i st st')
    (h : buildLoop c fuel i st = .ok s1) (h' : buildLoop c' fuel i st' = .ok s1') :
    ∃ j, R j s1 s1' := by
  induction fuel generalizing i st st' with
  | zero =>
    simp only [buildLoop] at h h'
    split at h
    · cases h
    split at h'
    · cases h'
    cases h; cases h'; exact ⟨i, h0⟩
  | succ fuel ih =>
    simp only [buildLoop, hsize i st st' h0] at h h'
    split at h
    · next hi =>
      rw [dif_pos hi] at h'
      split at h
      · next s2 hst =>
        split at h'
        · next s2' hst' => exact ih _ _ _ (hstep i st st' s2 s2' h0 hi _ hst hst') h h'
        · cases h'
      · cases h
    · next hi =>
      rw [dif_neg hi] at h'
      cases h; cases h'; exact ⟨i, h0⟩

theorem buildLoop_inv {keys : List Bytes} {keep : List Bool} {opt : Opt} {c : BCtx}
    (hc : CtxOK keys keep opt c) (hasc : strictAsc keys = true)
    (fuel i : Nat) (st st' : BSt) (hinv : BInv keys keep opt st i)
    (h : buildLoop c fuel i st = .ok st') : BInv keys keep opt st' st'.queue.size := by
  obtain ⟨j, _, hj, hP⟩ := buildLoop_induct (fun i st => BInv keys keep opt st i)
    (fun i st st' hinv hi hs => buildStep_inv hc hasc hinv hi hs) fuel i st st' hinv h
  exact Nat.le_antisymm hP.le (Nat.le_of_not_lt hj) ▸ hP

theorem keptAt_replicate (n t : Nat) (h : t < n) : keptAt (List.replicate n true) t = true := by
  unfold keptAt
  rw [List.getD_eq_getElem?_getD, List.getElem?_replicate, if_pos h]; rfl

theorem _root_.LeafCount.keptIn_replicate {n s e : Nat} (he : e ≤ n) :
    LeafCount.keptIn (List.replicate n true) s e = List.range' s (e - s) :=
  List.filter_eq_self.mpr fun t ht =>
    keptAt_replicate n t (by rw [List.mem_range'_1] at ht; omega)

theorem keepMask_zero {n : Nat} {vals : Option (List Bytes)} (dedup : Bool) (hn : n ≠ 0)
    (hv : ∀ vs, vals = some vs → vs.length = n) :
    keptAt (keepMask n vals dedup) 0 = true := by
  have hpos := Nat.pos_of_ne_zero hn
  unfold keepMask
  cases vals with
  | none => exact keptAt_replicate n 0 hpos
  | some vs =>
    cases dedup with
    | false => exact keptAt_replicate n 0 hpos
    | true =>
      have := hv vs rfl
      cases vs with
      | nil => exact absurd this.symm hn
      | cons v vs => rfl

theorem keptAt_succ (vs : List Bytes) (dedup : Bool) (i : Nat) (h : i + 1 < vs.length) :
    keptAt (keepMask vs.length (some vs) dedup) (i + 1) =
      (!dedup || vs.getD i [] != vs.getD (i + 1) []) := by
  cases dedup with
  | false => exact keptAt_replicate vs.length (i + 1) h
  | true => exact LeafCount.keepMaskVals_succ none vs i h

theorem binv_init {keys : List Bytes} {vals : Option (List Bytes)} (opt : Opt)
    (hne : keys.length ≠ 0) (hv : ∀ vs, vals = some vs → vs.length = keys.length) {b : Bool} :
    BInv keys (keepMask keys.length vals opt.dedup) opt
      { queue := #[{ s := 0, e := keys.length, fb := 0 }], isBig := b } 0 := by
  refine ⟨rfl, Nat.zero_le _, rfl, ?_, ?_⟩
  · intro j o h
    obtain ⟨hj, rfl⟩ := Array.getElem?_eq_some_iff.mp h
    obtain rfl : j = 0 := Nat.lt_one_iff.mp hj
    exact ⟨⟨Nat.pos_of_ne_zero hne, Nat.le_refl _, ⟨0, Nat.le_refl _, Nat.pos_of_ne_zero hne,
      keepMask_zero _ hne hv⟩, fun t _ _ => rfl, fun t _ _ => Nat.zero_le _⟩, fun _ => rfl⟩
  · intro j hj; exact absurd hj (Nat.not_lt_zero j)

end BuildInv

namespace BuildShape

open BuildInv

def initSt (n : Nat) : BSt := { queue := #[{ s := 0, e := n, fb := 0 }] }

def trieOf (opt : Opt) (vals : Option (List Bytes)) (st : BSt) : Trie1 :=
  { opt := opt, nodes := st.nodes, bigCnt := st.bigCnt, leafKeyIdx := st.leafKeyIdx
    elts := vals.map (fun vs => st.leafKeyIdx.toList.map (fun i => vs.getD i [])) }

end BuildShape

open BuildInv BuildShape

theorem build_pre (keys : List Bytes) (vals : Option (List Bytes)) (opt : Opt) (t : Trie1)
    (hb : build keys vals opt = .ok t) (hne : keys ≠ []) :
    strictAsc keys = true ∧ ∀ vs, vals = some vs → vs.length = keys.length := by
  have hn : keys.length ≠ 0 := fun h => hne (List.length_eq_zero_iff.mp h)
  unfold build at hb
  simp only [if_neg hn] at hb
  split at hb
  · cases hb
  next hasc =>
  refine ⟨by simpa using hasc, ?_⟩
  split at hb
  · next vs =>
    split at hb
    · cases hb
    next hlen => exact fun _ h => Option.some.inj h ▸ Decidable.of_not_not hlen
  · exact fun _ h => nomatch h

theorem BuildShape.build_nil (vals : Option (List Bytes)) (opt : Opt) (t : Trie1)
    (hb : build [] vals opt = .ok t) : t = Trie1.empty opt := by
  simp only [build, List.length_nil, if_true, Except.ok.injEq] at hb
  exact hb.symm

theorem BuildShape.build_nil_or {keys : List Bytes} {vals : Option (List Bytes)} {opt : Opt}
    {t : Trie1} (hb : build keys vals opt = .ok t) :
    keys = [] ∧ t = Trie1.empty opt ∨ keys ≠ [] := by
  by_cases hne : keys = []
  · subst hne
    exact .inl ⟨rfl, BuildShape.build_nil vals opt t hb⟩
  · exact .inr hne

namespace BuildShape

theorem build_eq_loop (keys : List Bytes) (vals : Option (List Bytes)) (opt : Opt)
    (hne : keys ≠ []) (hasc : strictAsc keys = true)
    (hv : ∀ vs, vals = some vs → vs.length = keys.length) :
    build keys vals opt =
      match buildLoop (mkCtx keys vals opt) (2 * keys.length) 0 (initSt keys.length) with
      | .error e => .error e
      | .ok st => .ok (trieOf opt vals st) := by
  have hn : keys.length ≠ 0 := fun h => hne (List.length_eq_zero_iff.mp h)
  -- behind the input checks `build` is `build.go`, which is the right-hand side by definition
  show build keys vals opt = build.go keys vals opt keys.length
  unfold build
  simp only [if_neg hn, hasc, Bool.not_true, Bool.false_eq_true, if_false]
  cases vals with
  | none => rfl
  | some vs => simp only [hv vs rfl, ne_eq, not_true_eq_false, if_false]

theorem build_ok_elim {keys : List Bytes} {vals : Option (List Bytes)} {opt : Opt} {t : Trie1}
    (hb : build keys vals opt = .ok t) (hne : keys ≠ []) :
    strictAsc keys = true ∧ (∀ vs, vals = some vs → vs.length = keys.length) ∧
    ∃ st, buildLoop (mkCtx keys vals opt) (2 * keys.length) 0 (initSt keys.length) = .ok st ∧
      t = trieOf opt vals st := by
  obtain ⟨hasc, hv⟩ := build_pre keys vals opt t hb hne
  refine ⟨hasc, hv, ?_⟩
  rw [build_eq_loop keys vals opt hne hasc hv] at hb
  split at hb
  · cases hb
  · next st hst => cases hb; exact ⟨st, hst, rfl⟩

theorem build_binv {keys : List Bytes} {vals : Option (List Bytes)} {opt : Opt} {st : BSt}
    (hne : keys ≠ []) (hasc : strictAsc keys = true)
    (hv : ∀ vs, vals = some vs → vs.length = keys.length)
    (hst : buildLoop (mkCtx keys vals opt) (2 * keys.length) 0 (initSt keys.length) = .ok st) :
    BInv keys (keepMask keys.length vals opt.dedup) opt st st.queue.size :=
  buildLoop_inv (mkCtx_ok keys vals opt) hasc _ _ _ _
    (binv_init opt (fun h => hne (List.length_eq_zero_iff.mp h)) hv) hst

/-- the loop's queue is the queue whose existence `Subtree.wf_iff` asks for -/
theorem qok_of_binv {keys : List Bytes} {keep : List Bool} {opt : Opt} {vals : Option (List Bytes)}
    {st : BSt} (hinv : BInv keys keep opt st st.queue.size) :
    Subtree.QOK keys keep (trieOf opt vals st) st.queue := by
  refine ⟨hinv.size.symm, fun j hj => ?_⟩
  obtain ⟨o, nd, h1, h2, h3⟩ := hinv.node j (hinv.size ▸ hj)
  obtain ⟨_, h4⟩ := Array.getElem?_eq_some_iff.mp h2
  exact ⟨o, h1, (hinv.sub j o h1).1, h4 ▸ h3⟩

theorem wf_of_binv {keys : List Bytes} {keep : List Bool} {opt : Opt} {vals : Option (List Bytes)}
    {st : BSt} (hinv : BInv keys keep opt st st.queue.size) : WF keys keep (trieOf opt vals st) :=
  (Subtree.wf_iff _ _ _).mpr ⟨_, qok_of_binv hinv, hinv.root⟩

end BuildShape

theorem build_wf (keys : List Bytes) (vals : Option (List Bytes)) (opt : Opt) (t : Trie1)
    (hb : build keys vals opt = .ok t) (hne : keys ≠ []) :
    WF keys (keepMask keys.length vals opt.dedup) t ∧ t.opt = opt := by
  obtain ⟨hasc, hv, st, hst, rfl⟩ := build_ok_elim hb hne
  exact ⟨wf_of_binv (build_binv hne hasc hv hst), rfl⟩

theorem build_elts (keys : List Bytes) (vals : Option (List Bytes)) (opt : Opt) (t : Trie1)
    (hb : build keys vals opt = .ok t) (hne : keys ≠ []) :
    t.elts = vals.map (fun vs => t.leafKeyIdx.toList.map (fun i => vs.getD i [])) := by
  obtain ⟨_, _, st, _, rfl⟩ := build_ok_elim hb hne
  rfl

/-- a concrete input (three keys, values with a duplicate, default options) on which `build`
    succeeds, so the hypotheses of `build_wf` are satisfiable -/
example : ∃ t, build [[0x61], [0x61, 0x62], [0x62, 0x63]] (some [[1], [1], [2]]) {} = .ok t ∧
    ([[0x61], [0x61, 0x62], [0x62, 0x63]] : List Bytes) ≠ [] := by
  generalize hr : build [[0x61], [0x61, 0x62], [0x62, 0x63]] (some [[1], [1], [2]]) {} = r
  have h : r.toBool = true := by rw [← hr]; decide +kernel
  cases r with
  | ok t => exact ⟨t, rfl, List.cons_ne_nil _ _⟩
  | error e => cases h

#print axioms build_wf
#print axioms build_elts
