import SlimProofs.Runs
import SlimProofs.Subtree
/-
  One iteration of a descent, stated once for the loops of `GetID`, `searchID` and `getGEPath`.

  `observe v kn j pos` is what an iteration meets at node `j`, entered at position `pos`, for the
  query `kn` — a leaf; a single-branch run that compares below or above the query, or leads beyond
  it; a branching word that is absent, or present with the query ending there or going on
  (`Seen`).  It does not mention any loop state.  Each loop is what it does with what it sees:
  `getIDLoop_seen` here, `Agree.searchLoop_seen`, `IterLemmas.geLoop_seen`.  What `observe` is in
  a well-formed record array is in SlimProofs.SearchDescent (`observe_inner`).

  `idEpi` is what `GetID` does after the loop; it and `getID_eq` are declared in namespace `Agree`.
-/

namespace Descent
open Subtree

/-- `getLabelIdxOfKey` is `bmtree.PathOf` whenever a 257-bit node is read at a byte-aligned
    position (always, in a built trie) -/
theorem labelIdxOfKey_eq_labelAt (kn : List Nat) (i : Nat) (big : Bool)
    (hal : big = true → i % 2 = 0) :
    labelIdxOfKey kn i big = labelAt kn i big := by
  unfold labelIdxOfKey labelAt
  by_cases h : i < kn.length
  · cases big with
    | false => simp [h, List.getD_eq_getElem?_getD]
    | true =>
      have h0 : i % 2 = 0 := hal rfl
      simp [h, h0, List.getD_eq_getElem?_getD]
  · simp [h]

theorem rankLabels_getElem (labels : List Nat) (hp : labels.Pairwise (· < ·)) (k : Nat)
    (hk : k < labels.length) : rankLabels labels labels[k] = k := by
  have hr := isRank_rank hp labels[k]
  rcases Nat.lt_trichotomy (rankLabels labels labels[k]) k with h | h | h
  · exact absurd ((hr _ (Nat.lt_trans h hk)).mp (asc_lt hp _ hk h)) (Nat.lt_irrefl _)
  · exact h
  · exact absurd ((hr k hk).mpr h) (Nat.lt_irrefl _)

/-- the single-branch run of an inner node against a query entered at position `i`: how the run
    compares (`.eq` where only its length is recorded) and where it ends -/
def runEnd (pref : Pref) (kn : List Nat) (i : Nat) : Except Err (Ordering × Nat) :=
  match pref with
  | .stored p =>
    if i / 2 > kn.length / 2 then .error (.panic "slice bounds out of range: key[i>>3:]")
    else .ok (cmpUpto (kn.drop (i - i % 2)) p, i - i % 2 + p.length)
  | .step n => .ok (.eq, i + n)
  | .none => .ok (.eq, i)

/-- what an iteration meets.  `over i`: the run ends at `i`, beyond the query.  `absent`, `last`,
    `next`: the branching word at position `i`, with `rk` labels below it, is not a label / is a
    label and the query ends at `i` / is a label and the query goes on. -/
inductive Seen where
  | err (e : Err)
  | leaf (lp : Option Bytes)
  | lt
  | gt
  | over (i : Nat)
  | absent (r : InnerRec) (i rk : Nat)
  | last (r : InnerRec) (i rk : Nat)
  | next (r : InnerRec) (i rk : Nat)

def branch (r : InnerRec) (kn : List Nat) (i : Nat) : Seen :=
  if !r.labels.contains (labelIdxOfKey kn i r.big) then
    .absent r i (rankLabels r.labels (labelIdxOfKey kn i r.big))
  else if i = kn.length then .last r i (rankLabels r.labels (labelIdxOfKey kn i r.big))
  else .next r i (rankLabels r.labels (labelIdxOfKey kn i r.big))

def seenInner (r : InnerRec) (kn : List Nat) (pos : Nat) : Seen :=
  match runEnd r.pref kn pos with
  | .error e => .err e
  | .ok (.lt, _) => .lt
  | .ok (.gt, _) => .gt
  | .ok (.eq, i) => if i > kn.length then .over i else branch r kn i

def observe (v : View) (kn : List Nat) (j pos : Nat) : Seen :=
  match v.node j with
  | .error e => .err e
  | .ok (.leaf _ lp) => .leaf lp
  | .ok (.inner r) => seenInner r kn pos

theorem observe_leaf {v : View} {j ith : Nat} {lp : Option Bytes} (kn : List Nat) (pos : Nat)
    (h : v.node j = .ok (.leaf ith lp)) : observe v kn j pos = .leaf lp := by
  unfold observe; rw [h]

theorem seenInner_ne_leaf (r : InnerRec) (kn : List Nat) (pos : Nat) (lp : Option Bytes) :
    seenInner r kn pos ≠ .leaf lp := by
  unfold seenInner branch
  repeat' split
  all_goals nofun

theorem cmpUpto_eq_length (a p : List Nat) (h : cmpUpto a p = .eq) : p.length ≤ a.length := by
  unfold cmpUpto at h
  rw [lexCmp_eq_iff] at h
  have := congrArg List.length h
  rw [List.length_take] at this
  exact this ▸ Nat.min_le_right _ _

/-- a run of `p` half-bytes that fits behind the byte boundary below `i` ends inside the key -/
theorem run_end_le {i l p : Nat} (h1 : ¬ i / 2 > l / 2) (h2 : p ≤ l - (i - i % 2)) :
    ¬ i - i % 2 + p > l := by
  have ha : i - i % 2 = 2 * (i / 2) := Nat.sub_eq_of_eq_add (Nat.div_add_mod i 2).symm
  have hle : i - i % 2 ≤ l :=
    ha ▸ Nat.le_trans (Nat.mul_le_mul_left 2 (Nat.le_of_not_gt h1)) (Nat.mul_div_le l 2)
  rw [Nat.add_comm]
  exact Nat.not_lt.mpr (Nat.add_le_of_le_sub hle h2)

theorem runEnd_stored_eq {p kn : List Nat} {pos : Nat} (h1 : ¬ pos / 2 > kn.length / 2)
    (hc : cmpUpto (kn.drop (pos - pos % 2)) p = .eq) : ¬ pos - pos % 2 + p.length > kn.length := by
  have := cmpUpto_eq_length _ _ hc
  rw [List.length_drop] at this
  exact run_end_le h1 this

/-- the second half of one iteration of `GetID` on an inner node, from the branching position -/
def idBranch (v : View) (kn : List Nat) (fuel : Nat) (r : InnerRec) (i : Nat) :
    Except Err (Option Reached) :=
  if i > kn.length then .ok none
  else if !(leftChildID r (labelIdxOfKey kn i r.big)).2 then .ok none
  else if i = kn.length then
    .ok (some ⟨((leftChildID r (labelIdxOfKey kn i r.big)).1 + 1).toNat, i, none⟩)
  else getIDLoop v kn fuel ((leftChildID r (labelIdxOfKey kn i r.big)).1 + 1).toNat
        (i + wordSize r.big)

def idNext (v : View) (kn : List Nat) (fuel j pos : Nat) : Seen → Except Err (Option Reached)
  | .err e => .error e
  | .leaf lp => .ok (some ⟨j, pos, lp⟩)
  | .lt | .gt | .over _ | .absent .. => .ok none
  | .last r i rk => .ok (some ⟨r.firstChild + rk, i, none⟩)
  | .next r i rk => getIDLoop v kn fuel (r.firstChild + rk) (i + wordSize r.big)

/-- the id that the Go code computes in `int32` for the child of rank `k` -/
theorem childID_toNat (fc k : Nat) : ((fc : Int) - 1 + k + 1).toNat = fc + k := by
  rw [Int.add_right_comm, Int.sub_add_cancel, ← Int.natCast_add]
  exact Int.toNat_natCast _

theorem idBranch_seen (v : View) (kn : List Nat) (fuel j pos : Nat) (r : InnerRec) (i : Nat) :
    idBranch v kn fuel r i =
      idNext v kn fuel j pos (if i > kn.length then .over i else branch r kn i) := by
  unfold idBranch branch leftChildID
  by_cases h : i > kn.length
  · rw [if_pos h, if_pos h]; rfl
  · rw [if_neg h, if_neg h]
    cases r.labels.contains (labelIdxOfKey kn i r.big)
    · rfl
    · simp only [Bool.not_true, Bool.false_eq_true, if_false, childID_toNat]
      split <;> rfl

theorem getIDLoop_seen (v : View) (kn : List Nat) (fuel j pos : Nat) :
    getIDLoop v kn (fuel + 1) j pos = idNext v kn fuel j pos (observe v kn j pos) := by
  rw [getIDLoop]
  unfold observe
  cases v.node j with
  | error e => rfl
  | ok nd =>
    cases nd with
    | leaf ith lp => rfl
    | inner r =>
      have hb := fun i => idBranch_seen v kn fuel j pos r i
      simp only [bind, Except.bind, seenInner, runEnd]
      cases r.pref with
      | none => exact hb _
      | step n => exact hb _
      | stored p =>
        simp only
        by_cases h1 : pos / 2 > kn.length / 2
        · simp only [if_pos h1]; rfl
        · simp only [if_neg h1]
          cases cmpUpto (List.drop (pos - pos % 2) kn) p
          · rfl
          · exact hb _
          · rfl

theorem drop_half_nil (key : Bytes) (i : Nat) (h : i = (nibs key).length) :
    key.drop (i / 2) = [] := by
  rw [List.drop_eq_nil_iff, h, nibs_length]; omega

theorem drop_half_ne_nil (key : Bytes) (i : Nat) (h : i < (nibs key).length) :
    key.drop (i / 2) ≠ [] := by
  rw [Ne, List.drop_eq_nil_iff, nibs_length] at *; omega

theorem leafPrefOf_end (opt : Opt) (key : Bytes) (fb : Nat) (h : fb = (nibs key).length) :
    leafPrefOf opt key fb = none := by
  simp [leafPrefOf, drop_half_nil key fb h]

/-- `setLeafPrefix` stores no empty tail -/
theorem leafPrefOf_ne (opt : Opt) (key : Bytes) (fb : Nat) : leafPrefOf opt key fb ≠ some [] := by
  unfold leafPrefOf
  simp only
  split
  · next hc => intro h; rw [Option.some.inj h] at hc; simp at hc
  · nofun

theorem no_two_label0 (keys : List Bytes) (hasc : strictAsc keys = true) (ws : Nat) (big : Bool)
    (a : Nat) (ha : a + 1 < keys.length)
    (hl0 : labelOf keys ws big a = 0) (hl1 : labelOf keys ws big (a + 1) = 0)
    (hag : (knOf keys a).take ws = (knOf keys (a + 1)).take ws) : False := by
  unfold labelOf at hl0 hl1
  rw [labelAt_eq_zero_iff] at hl0 hl1
  rw [List.take_of_length_le hl0, List.take_of_length_le hl1] at hag
  exact Nat.succ_ne_self a (strictAsc_inj hasc (Nat.lt_of_succ_lt ha) ha (nibs_injective hag)).symm

theorem label0_single {keys : List Bytes} (hasc : strictAsc keys = true) {ws : Nat} {big : Bool}
    {s e cs ce : Nat} (he : e ≤ keys.length)
    (hag : ∀ t, s ≤ t → t < e → (knOf keys t).take ws = (knOf keys s).take ws)
    (hcs : s ≤ cs) (hce : ce ≤ e)
    (h0 : ∀ t, cs ≤ t → t < ce → labelOf keys ws big t = 0) : ce ≤ cs + 1 := by
  apply Nat.le_of_not_lt
  intro h
  have hlt : cs + 1 < e := Nat.lt_of_lt_of_le h hce
  refine no_two_label0 keys hasc ws big cs (Nat.lt_of_lt_of_le hlt he)
    (h0 cs (Nat.le_refl _) (Nat.lt_of_succ_lt h)) (h0 (cs + 1) (Nat.le_succ _) h) ?_
  rw [hag cs hcs (Nat.lt_of_succ_lt hlt), hag (cs + 1) (Nat.le_succ_of_le hcs) hlt]

end Descent

namespace Agree
open Descent

/-- the epilogue of `GetID` (the `LeafPrefixes != nil` checks) -/
def idEpi (v : View) (key : Bytes) (r : Reached) : Except Err (Option Nat) :=
  if v.leafPrefixesOn then
    if r.i = (nibs key).length then
      .ok (if r.lp.isSome then none else some r.id)
    else
      match r.lp with
      | none => .ok none
      | some lp =>
        if r.i / 2 > (nibs key).length / 2 then
          .error (.panic "slice bounds out of range: key[i>>3:]")
        else .ok (if lp == key.drop (r.i / 2) then some r.id else none)
  else .ok (some r.id)

theorem getID_eq (v : View) (key : Bytes) :
    getID v key =
      if v.isEmpty then .ok none else
      match getIDLoop v (nibs key) (v.nodeCnt + 1) 0 0 with
      | .error e => .error e
      | .ok none => .ok none
      | .ok (some r) => idEpi v key r := by
  unfold getID
  by_cases he : v.isEmpty = true
  · simp [he, pure, Except.pure]
  · simp only [he, bind, Except.bind]
    cases getIDLoop v (nibs key) (v.nodeCnt + 1) 0 0 with
    | error e => rfl
    | ok o =>
      cases o with
      | none => rfl
      | some r => rfl

end Agree
