import SlimProofs.LegacyConvertWF
import SlimProofs.LegacyArray
import SlimProofs.SizeLabels
/-
  Stage (ii-c) (the stages: LegacyConvertOld): the invariant of the conversion loop (`CInv`).
  Against the old trie: the loader's queue elements stand for the old nodes `0,1,2,…` in order
  (plus one `leafOnly` element per inner-and-leaf node) and `nextOldID` is the old first-child id
  (`fcOf`).  Against today's builder: a state `st` of `buildLoop` on all keys with big nodes off
  goes along (`Sim`), and one turn of the loader is one `buildStep` of it (`step_leaf`,
  `step_inner`); so what the records are is said by the builder's own invariants, carried by
  its own step lemmas (`SizeLabels.FullInv`, `FullInv.step`).  `loop_spec`: the loop runs to the
  end of its queue and keeps `CInv`; the fuel is enough because the queue never exceeds twice the
  number of old nodes (`qsize_le`).
-/

namespace LegacyConvert
open LegacyWrite Legacy BuildInv BuildShape

structure Ctx where
  keys : List Bytes
  kn : Array (List Nat)
  ls : Bool
  nodes : Array OldNode
  oq : Array Sub
  vals : List Bytes
  w : Nat
  ch : Array32Msg
  steps : Array32Msg
  lvs : Array32Msg

/-- the context is that of a written stream: `nodes`, `oq` are the old builder's result and final
    queue for `keys` (`OInv`), the sections read as `nodes` (`Reads`), steps are uint16 -/
structure Ctx.OK (X : Ctx) : Prop where
  hkn : ∀ t, X.kn.getD t [] = knOf X.keys t
  hasc : strictAsc X.keys = true
  O : OInv X.keys X.kn X.ls X.oq.size X.oq X.nodes
  R : Reads X.ch X.steps X.lvs X.w X.nodes.toList X.vals.toArray
  stepLim : ∀ (o : Nat) (h : o < X.nodes.size), X.nodes[o].step < 65536

/-- the range of keys the old node `o` stands for: entry `o` of the old builder's final queue -/
def Ctx.sub (X : Ctx) (o : Nat) : Sub := X.oq.getD o default

theorem Ctx.sub_eq {X : Ctx} {o : Nat} {s : Sub} (h : X.oq[o]? = some s) : X.sub o = s := by
  unfold Ctx.sub
  rw [Array.getD_eq_getD_getElem?, h]; rfl

theorem old_at {X : Ctx} (H : X.OK) (o : Nat) (ho : o < X.oq.size) :
    ∃ h : o < X.nodes.size, X.nodes[o] = nodeOf X.kn X.ls (fcOf X.kn X.oq o) (X.sub o) ∧
      ∀ k (hk : k < (kidsOf X.kn (X.sub o)).length),
        X.oq[fcOf X.kn X.oq o + k]? = some ((kidsOf X.kn (X.sub o))[k]) := by
  obtain ⟨h2, h3⟩ := H.O.node o ho
  obtain ⟨hn, hnode⟩ := Array.getElem?_eq_some_iff.mp h2
  exact ⟨hn, hnode, h3⟩

theorem fc_succ (X : Ctx) (o : Nat) :
    fcOf X.kn X.oq (o + 1) = fcOf X.kn X.oq o + (kidsOf X.kn (X.sub o)).length :=
  fcOf_succ X.kn X.oq o

/-- the range today's builder would have for a queue element of the loader -/
def subOf (X : Ctx) (q : QElt) : Subset :=
  if q.leafOnly then
    { s := (X.oq.getD q.oldid default).s, e := (X.oq.getD q.oldid default).s + 1,
      fb := brPos X.kn (X.oq.getD q.oldid default) }
  else
    { s := (X.oq.getD q.oldid default).s, e := (X.oq.getD q.oldid default).e,
      fb := (X.oq.getD q.oldid default).d }

theorem subOf_node (X : Ctx) {q : QElt} (h : q.leafOnly = false) :
    subOf X q = { s := (X.sub q.oldid).s, e := (X.sub q.oldid).e, fb := (X.sub q.oldid).d } := by
  unfold subOf; rw [h]; rfl

theorem subOf_lo (X : Ctx) {q : QElt} (h : q.leafOnly = true) :
    subOf X q = { s := (X.sub q.oldid).s, e := (X.sub q.oldid).s + 1,
                  fb := brPos X.kn (X.sub q.oldid) } := by
  unfold subOf; rw [h]; rfl

structure EltOK (X : Ctx) (q : QElt) : Prop where
  lt : q.oldid < X.oq.size
  step : q.leafOnly = false → q.step = (X.nodes.getD q.oldid default).step - 1
  lo : q.leafOnly = true → (X.sub q.oldid).s + 2 ≤ (X.sub q.oldid).e ∧
    endsAt X.kn (X.sub q.oldid) = true

/-- the element stands for an old node (a `leafOnly` element is the extra leaf the loader makes for
    an old node that is inner and leaf at once) -/
def nonLO (q : QElt) : Bool := !q.leafOnly

def procCnt (c : Conv) (newid : Nat) : Nat := ((c.queue.toList.take newid).filter nonLO).length

/-- the loader's state `c` beside a state `st` of today's builder working on the same ranges with
    big nodes off: same queue (as ranges), same records up to `firstChild`, same leaves -/
structure Sim (X : Ctx) (c : Conv) (st : BSt) : Prop where
  queue : st.queue = c.queue.map (subOf X)
  nodes : c.nodes = st.nodes.map stripNode
  leaves : c.leaves.toList = st.leafKeyIdx.toList.map (fun k => X.vals.getD k [])
  small : st.isBig = false
  zero : st.bigCnt = 0

/-- The state `c` after `newid` queue elements have been made into records, and the state `st`
    today's builder has reached on the same ranges. -/
structure CInv (X : Ctx) (newid : Nat) (c : Conv) (st : BSt) : Prop where
  le : newid ≤ c.queue.size
  -- the queue against the old trie: the elements that stand for old nodes are the old nodes
  -- `0, 1, 2, …` in order, and `nextOldID` is the old first-child id of the next one
  elts : ∀ (j : Nat) q, c.queue[j]? = some q → EltOK X q
  ids : (c.queue.toList.filter nonLO).map (·.oldid) = List.range c.nextOldID
  next : c.nextOldID = fcOf X.kn X.oq (procCnt c newid)
  nle : c.nextOldID ≤ X.oq.size
  -- at most one `leafOnly` element per processed old node: this bounds the queue for the fuel
  lo : (c.queue.toList.filter (·.leafOnly)).length ≤ procCnt c newid
  -- one turn of the loader is one `buildStep`: what the records are is said by its invariants
  sim : Sim X c st
  g : SizeLabels.FullInv X.keys {} st newid

/-- the range of an old node in the loader's queue is well formed: it is a range of the builder -/
theorem CInv.good {X : Ctx} {newid : Nat} {c : Conv} {st : BSt} (hinv : CInv X newid c st)
    (q : QElt) (hq : c.queue[newid]? = some q) (hlo : q.leafOnly = false) :
    SubGood X.keys (X.sub q.oldid) := by
  have h : st.queue[newid]? = some (subOf X q) := by
    rw [hinv.sim.queue, Array.getElem?_map, hq]; rfl
  have hs := (hinv.g.b.sub newid _ h).1
  rw [subOf_node X hlo] at hs
  exact ⟨hs.lt, hs.le, fun t h1 h2 => ⟨hs.long t h1 h2, hs.agree t h1 h2⟩⟩

theorem procCnt_step (c c' : Conv) (kids : List QElt) (h : c'.queue = c.queue ++ kids.toArray)
    (newid : Nat) (q : QElt) (hq : c.queue[newid]? = some q) :
    procCnt c' (newid + 1) = procCnt c newid + (if nonLO q then 1 else 0) := by
  have hlt : newid < c.queue.size := (Array.getElem?_eq_some_iff.mp hq).1
  unfold procCnt
  rw [h, Array.toList_append, List.take_append_of_le_length (by rw [Array.length_toList]; exact hlt),
    List.take_add_one, Array.getElem?_toList, hq, List.filter_append, List.length_append]
  cases h : nonLO q <;> simp [h]

theorem oldid_eq_proc {X : Ctx} {newid : Nat} {c : Conv} {st : BSt}
    (hinv : CInv X newid c st) (q : QElt) (hq : c.queue[newid]? = some q)
    (hn : nonLO q = true) : q.oldid = procCnt c newid := by
  have h2 := congrArg (Option.map (·.oldid)) (Refine.getElem?_filter_take nonLO c.queue.toList newid _
    (by rw [Array.getElem?_toList]; exact hq) hn)
  rw [List.countP_eq_length_filter] at h2
  rw [← List.getElem?_map, hinv.ids] at h2
  unfold procCnt
  simpa using (List.getElem?_eq_some_iff.mp h2).2.symm

/-- the queue elements the loader appends for an old inner node -/
def newKids (X : Ctx) (q : QElt) (nxt : Nat) : List QElt :=
  (if endsAt X.kn (X.sub q.oldid)
    then [{ oldid := q.oldid, step := 0, leafOnly := true }] else []) ++
  kidElts X.nodes nxt (runsOf X.kn (X.sub q.oldid)).length

def newRec (X : Ctx) (q : QElt) : InnerRec :=
  { big := false
    labels := newLabelsOf (endsAt X.kn (X.sub q.oldid))
      (runsOf X.kn (X.sub q.oldid))
    firstChild := 0
    pref := if q.step = 0 then Pref.none else Pref.step q.step }

theorem kidElts_length (nodes : Array OldNode) (oid k : Nat) : (kidElts nodes oid k).length = k := by
  simp [kidElts]

theorem kidElts_getElem? (nodes : Array OldNode) (oid k i : Nat) (hi : i < k) :
    (kidElts nodes oid k)[i]? =
      some { oldid := oid + i, step := (nodes.getD (oid + i) default).step - 1, leafOnly := false } := by
  unfold kidElts
  rw [List.getElem?_map, List.getElem?_range' hi, Nat.one_mul]; rfl

theorem kidElts_nonLO {nodes : Array OldNode} {oid k : Nat} {a : QElt}
    (ha : a ∈ kidElts nodes oid k) : a.leafOnly = false := by
  obtain ⟨i, _, rfl⟩ := List.mem_map.mp ha
  rfl

theorem newKids_filter_nonLO (X : Ctx) (q : QElt) (nxt : Nat) :
    ((newKids X q nxt).filter nonLO).map (·.oldid)
      = List.range' nxt (runsOf X.kn (X.sub q.oldid)).length := by
  unfold newKids
  rw [List.filter_append]
  have h1 : (if endsAt X.kn (X.sub q.oldid)
      then [({ oldid := q.oldid, step := 0, leafOnly := true } : QElt)] else []).filter nonLO = [] := by
    cases endsAt X.kn (X.sub q.oldid) <;> simp [nonLO]
  have h2 : (kidElts X.nodes nxt (runsOf X.kn (X.sub q.oldid)).length).filter nonLO
      = kidElts X.nodes nxt (runsOf X.kn (X.sub q.oldid)).length := by
    rw [List.filter_eq_self]
    intro a ha
    unfold nonLO
    rw [kidElts_nonLO ha]; rfl
  rw [h1, h2, List.nil_append]
  unfold kidElts
  rw [List.map_map]; exact List.map_id _

theorem newKids_filter_LO (X : Ctx) (q : QElt) (nxt : Nat) :
    ((newKids X q nxt).filter (·.leafOnly)).length ≤ 1 := by
  unfold newKids
  rw [List.filter_append]
  have h2 : (kidElts X.nodes nxt (runsOf X.kn (X.sub q.oldid)).length).filter
      (·.leafOnly) = [] := by
    rw [List.filter_eq_nil_iff]
    intro a ha
    rw [kidElts_nonLO ha]; exact Bool.false_ne_true
  rw [h2, List.append_nil]
  cases endsAt X.kn (X.sub q.oldid) <;> simp

theorem not_single {s e : Nat} (h : s + 2 ≤ e) : ¬ e - s = 1 :=
  Nat.ne_of_gt (Nat.lt_sub_iff_add_lt'.mpr h)

theorem kidsOf_branch (kn : Array (List Nat)) (q : Sub) (h : ¬ q.e - q.s = 1) :
    kidsOf kn q = (runsOf kn q).map (kidOfRun (brPos kn q)) := by
  unfold kidsOf; rw [if_neg h]

theorem old_inner {X : Ctx} (H : X.OK) (o : Nat) (ho : o < X.oq.size)
    (hg : SubGood X.keys (X.sub o)) (h2 : (X.sub o).s + 2 ≤ (X.sub o).e) :
    BranchFacts X.keys X.kn (X.sub o) ∧
    (X.nodes.getD o default).step - 1 = brPos X.kn (X.sub o) - (X.sub o).d ∧
    ∀ k (hk : k < (runsOf X.kn (X.sub o)).length),
      X.oq[fcOf X.kn X.oq o + k]? =
        some (kidOfRun (brPos X.kn (X.sub o)) ((runsOf X.kn (X.sub o))[k])) := by
  obtain ⟨hn, hnode, hkids⟩ := old_at H o ho
  have hne := not_single h2
  refine ⟨branch_facts H.hkn H.hasc hg h2, ?_, ?_⟩
  · rw [← Array.getElem_eq_getD (h := hn) default, hnode]
    unfold nodeOf
    rw [if_neg hne]
    simp only
    split
    · rfl
    · next h => exact (Nat.eq_zero_of_not_pos fun hp => h (Nat.succ_lt_succ hp)).symm
  · intro k hk
    have hko := kidsOf_branch X.kn (X.sub o) hne
    have hk' : k < (kidsOf X.kn (X.sub o)).length := by rw [hko, List.length_map]; exact hk
    rw [hkids k hk']
    simp only [hko, List.getElem_map]

theorem newKids_sub {X : Ctx} (q : QElt) (nxt : Nat)
    (hkids : ∀ k (hk : k < (runsOf X.kn (X.sub q.oldid)).length),
      X.oq[nxt + k]? =
        some (kidOfRun (brPos X.kn (X.sub q.oldid)) ((runsOf X.kn (X.sub q.oldid))[k]))) :
    (newKids X q nxt).map (subOf X) =
      (if endsAt X.kn (X.sub q.oldid)
        then [{ s := (X.sub q.oldid).s, e := (X.sub q.oldid).s + 1, fb := brPos X.kn (X.sub q.oldid) }]
        else []) ++
        (runsOf X.kn (X.sub q.oldid)).map
          (fun x => { s := x.2.1, e := x.2.2, fb := brPos X.kn (X.sub q.oldid) + 1 }) := by
  unfold newKids
  rw [List.map_append]
  have h2 : (kidElts X.nodes nxt (runsOf X.kn (X.sub q.oldid)).length).map (subOf X) =
      (runsOf X.kn (X.sub q.oldid)).map
        (fun x => ({ s := x.2.1, e := x.2.2, fb := brPos X.kn (X.sub q.oldid) + 1 } : Subset)) := by
    apply List.ext_getElem?
    intro k
    rw [List.getElem?_map, List.getElem?_map]
    by_cases hk : k < (runsOf X.kn (X.sub q.oldid)).length
    · rw [kidElts_getElem? _ _ _ _ hk, List.getElem?_eq_getElem hk, Option.map_some, Option.map_some,
        subOf_node X rfl, Ctx.sub_eq (hkids k hk)]
      -- not `rfl`: the unifier would unfold `(runsOf …)[k]`
      simp only [kidOfRun]
    · rw [List.getElem?_eq_none (by rw [kidElts_length]; exact Nat.not_lt.mp hk),
        List.getElem?_eq_none (Nat.not_lt.mp hk)]
      rfl
  rw [h2]
  cases endsAt X.kn (X.sub q.oldid)
  · rfl
  · rw [if_pos rfl, if_pos rfl, List.map_singleton, subOf_lo X rfl]

theorem newKids_elts {X : Ctx} (q : QElt) (nxt : Nat) (hlt : q.oldid < X.oq.size)
    (h2 : (X.sub q.oldid).s + 2 ≤ (X.sub q.oldid).e)
    (hkidlt : ∀ k, k < (runsOf X.kn (X.sub q.oldid)).length → nxt + k < X.oq.size) :
    ∀ q' ∈ newKids X q nxt, EltOK X q' := by
  intro q' hmem
  unfold newKids at hmem
  rcases List.mem_append.mp hmem with hm | hm
  · cases he : endsAt X.kn (X.sub q.oldid) with
    | false => rw [he] at hm; simp at hm
    | true =>
      rw [he] at hm
      obtain rfl : q' = { oldid := q.oldid, step := 0, leafOnly := true } := by simpa using hm
      exact ⟨hlt, (fun h => by cases h), fun _ => ⟨h2, he⟩⟩
  · unfold kidElts at hm
    obtain ⟨i, hi, rfl⟩ := List.mem_map.mp hm
    obtain ⟨h1, h2⟩ := List.mem_range'_1.mp hi
    exact ⟨Nat.add_sub_cancel' h1 ▸ hkidlt (i - nxt) (Nat.sub_lt_left_of_lt_add h1 h2), fun _ => rfl,
      (fun h => by cases h)⟩

theorem step_inner {X : Ctx} (H : X.OK) {bc : BCtx}
    (hc : CtxOK X.keys (List.replicate X.keys.length true) {} bc)
    {newid : Nat} {c : Conv} {st : BSt} (S : Sim X c st)
    (q : QElt) (hq : c.queue[newid]? = some q) (helt : EltOK X q) (hlo : q.leafOnly = false)
    (hg : SubGood X.keys (X.sub q.oldid))
    (h2 : (X.sub q.oldid).s + 2 ≤ (X.sub q.oldid).e)
    (hnext : c.nextOldID = fcOf X.kn X.oq q.oldid) :
    ∃ st', ∃ hi : newid < st.queue.size, buildStep bc st st.queue[newid] = .ok st' ∧
      Sim X (innerUpd c (newKids X q c.nextOldID)
        (runsOf X.kn (X.sub q.oldid)).length (newRec X q)) st' := by
  obtain ⟨B, hstep, hkids⟩ := old_inner H q.oldid helt.lt hg h2
  rw [← hnext] at hkids
  obtain ⟨hltc, hqe⟩ := Array.getElem?_eq_some_iff.mp hq
  have hlt : newid < st.queue.size := by rw [S.queue, Array.size_map]; exact hltc
  have hsq : st.queue[newid] = subOf X q := by simp only [S.queue, Array.getElem_map, hqe]
  rw [subOf_node X hlo] at hsq
  have hlim : brPos X.kn (X.sub q.oldid) - (X.sub q.oldid).d ≤ 0xffff := by
    have hn : q.oldid < X.nodes.size := by rw [H.O.size]; exact helt.lt
    have := H.stepLim q.oldid hn
    rw [Array.getElem_eq_getD default] at this
    omega
  have hstepEq := buildStep_old_inner H.hkn hg B hc st S.small h2 hlim
  rw [← hsq] at hstepEq
  refine ⟨_, hlt, hstepEq, ?_, ?_, ?_, ?_, ?_⟩
  · show st.queue ++ _ = (c.queue ++ (newKids X q c.nextOldID).toArray).map (subOf X)
    rw [Array.map_append, ← S.queue, List.map_toArray, newKids_sub q c.nextOldID hkids]
  · show c.nodes.push (.inner (newRec X q)) = (st.nodes.push _).map stripNode
    rw [Array.map_push, ← S.nodes]
    unfold newRec stripNode
    rw [helt.step hlo, hstep]
  · exact S.leaves
  · rfl
  · exact S.zero

theorem step_leaf {X : Ctx} {bc : BCtx}
    (hc : CtxOK X.keys (List.replicate X.keys.length true) {} bc)
    {newid : Nat} {c : Conv} {st : BSt} (S : Sim X c st)
    (q : QElt) (hq : c.queue[newid]? = some q) (hone : (subOf X q).e - (subOf X q).s = 1) :
    ∃ st', ∃ hi : newid < st.queue.size, buildStep bc st st.queue[newid] = .ok st' ∧
      Sim X (leafUpd c (X.vals.getD (subOf X q).s [])) st' := by
  obtain ⟨hltc, hqe⟩ := Array.getElem?_eq_some_iff.mp hq
  have hlt : newid < st.queue.size := by rw [S.queue, Array.size_map]; exact hltc
  have hsq : st.queue[newid] = subOf X q := by simp only [S.queue, Array.getElem_map, hqe]
  have hstepEq := buildStep_leaf_eq bc st (subOf X q) hone
  have hlp : leafPrefOf bc.opt (bc.kb.getD (subOf X q).s []) (subOf X q).fb = none := by
    unfold leafPrefOf; rw [hc.opt]; rfl
  have hsz : c.leaves.size = st.leafKeyIdx.size := by
    have := congrArg List.length S.leaves
    simpa using this
  rw [hlp, ← hsq] at hstepEq
  refine ⟨_, hlt, hstepEq, ?_, ?_, ?_, ?_, ?_⟩
  · exact S.queue
  · show c.nodes.push (.leaf c.leaves.size none) = (st.nodes.push _).map stripNode
    rw [Array.map_push, ← S.nodes, hsz]; rfl
  · show (c.leaves.push _).toList = (st.leafKeyIdx.push _).toList.map _
    rw [Array.toList_push, Array.toList_push, List.map_append, S.leaves, hsq]; rfl
  · exact S.small
  · exact S.zero

theorem cinv_leaf {X : Ctx} {bc : BCtx}
    (hc : CtxOK X.keys (List.replicate X.keys.length true) {} bc) (hasc : strictAsc X.keys = true)
    {newid : Nat} {c : Conv} {st : BSt}
    (hinv : CInv X newid c st) (q : QElt) (hq : c.queue[newid]? = some q)
    (hty : q.leafOnly = true ∨
      (X.sub q.oldid).e - (X.sub q.oldid).s = 1) :
    ∃ st', CInv X (newid + 1) (leafUpd c (X.vals.getD (X.sub q.oldid).s [])) st' := by
  have hlt : newid < c.queue.size := (Array.getElem?_eq_some_iff.mp hq).1
  have hone : q.leafOnly = false →
      (X.sub q.oldid).e - (X.sub q.oldid).s = 1 :=
    fun hlo => hty.resolve_left (by rw [hlo]; exact Bool.false_ne_true)
  have hsub : (subOf X q).e - (subOf X q).s = 1 ∧ (subOf X q).s = (X.sub q.oldid).s := by
    cases hlo : q.leafOnly with
    | true => rw [subOf_lo X hlo]; exact ⟨Nat.add_sub_cancel_left _ _, rfl⟩
    | false => rw [subOf_node X hlo]; exact ⟨hone hlo, rfl⟩
  obtain ⟨st', hi, hstep, S'⟩ := step_leaf hc hinv.sim q hq hsub.1
  rw [hsub.2] at S'
  have hpc := procCnt_step c (leafUpd c (X.vals.getD (X.sub q.oldid).s [])) []
    Array.append_empty.symm newid q hq
  refine ⟨st', hlt, hinv.elts, hinv.ids, ?_, hinv.nle, ?_, S', hinv.g.step hc hasc hi hstep⟩
  · show c.nextOldID = _
    rw [hpc, hinv.next]
    cases hn : nonLO q with
    | false => rfl
    | true =>
      simp only [if_true]
      have hoid := oldid_eq_proc hinv q hq hn
      have hlo : q.leafOnly = false := Eq.mp (Bool.not_eq_true' _) hn
      rw [fc_succ, ← hoid]
      unfold kidsOf
      rw [if_pos (hone hlo)]; rfl
  · show (c.queue.toList.filter (·.leafOnly)).length ≤ _
    rw [hpc]
    exact Nat.le_trans hinv.lo (Nat.le_add_right _ _)

theorem cinv_inner {X : Ctx} (H : X.OK) {bc : BCtx}
    (hc : CtxOK X.keys (List.replicate X.keys.length true) {} bc)
    {newid : Nat} {c : Conv} {st : BSt}
    (hinv : CInv X newid c st) (q : QElt) (hq : c.queue[newid]? = some q)
    (hlo : q.leafOnly = false)
    (h2 : (X.sub q.oldid).s + 2 ≤ (X.sub q.oldid).e) :
    ∃ st', CInv X (newid + 1)
      (innerUpd c (newKids X q c.nextOldID)
        (runsOf X.kn (X.sub q.oldid)).length (newRec X q)) st' := by
  have hlt : newid < c.queue.size := (Array.getElem?_eq_some_iff.mp hq).1
  have helt := hinv.elts newid q hq
  have hnl : nonLO q = true := by unfold nonLO; rw [hlo]; rfl
  have hoid := oldid_eq_proc hinv q hq hnl
  have hnext : c.nextOldID = fcOf X.kn X.oq q.oldid := by rw [hoid]; exact hinv.next
  have hg := hinv.good q hq hlo
  obtain ⟨st', hi, hstep, S'⟩ := step_inner H hc hinv.sim q hq helt hlo hg h2 hnext
  refine ⟨st', ?_⟩
  have G' := hinv.g.step hc H.hasc hi hstep
  obtain ⟨B, _, hkids⟩ := old_inner H q.oldid helt.lt hg h2
  rw [← hnext] at hkids
  have hkidlt : ∀ k, k < (runsOf X.kn (X.sub q.oldid)).length → c.nextOldID + k < X.oq.size :=
    fun k hk => (Array.getElem?_eq_some_iff.mp (hkids k hk)).1
  have hkelts := newKids_elts q c.nextOldID helt.lt h2 hkidlt
  have hnle : c.nextOldID + (runsOf X.kn (X.sub q.oldid)).length ≤ X.oq.size := by
    cases hl : (runsOf X.kn (X.sub q.oldid)).length with
    | zero => exact hinv.nle
    | succ n => exact hkidlt n (by rw [hl]; exact Nat.lt_succ_self n)
  have hpc := procCnt_step c
    (innerUpd c (newKids X q c.nextOldID) (runsOf X.kn (X.sub q.oldid)).length (newRec X q)) _ rfl newid q hq
  rw [hnl, if_pos rfl] at hpc
  unfold innerUpd at hpc S' ⊢
  have e : (c.queue ++ (newKids X q c.nextOldID).toArray).toList
      = c.queue.toList ++ newKids X q c.nextOldID := Array.toList_append
  refine ⟨?_, ?_, ?_, ?_, hnle, ?_, S', G'⟩
  · show newid + 1 ≤ (c.queue ++ _).size
    rw [Array.size_append]; exact Nat.le_trans hlt (Nat.le_add_right _ _)
  · intro j q' (hq' : (c.queue ++ (newKids X q c.nextOldID).toArray)[j]? = some q')
    rw [Array.getElem?_append] at hq'
    split at hq'
    · exact hinv.elts j q' hq'
    · rw [List.getElem?_toArray] at hq'
      exact hkelts q' (List.mem_of_getElem? hq')
  · show ((c.queue ++ (newKids X q c.nextOldID).toArray).toList.filter nonLO).map (·.oldid)
      = List.range (c.nextOldID + (runsOf X.kn (X.sub q.oldid)).length)
    rw [e, List.filter_append, List.map_append, hinv.ids, newKids_filter_nonLO, List.range_add,
      List.range'_eq_map_range]
  · show c.nextOldID + (runsOf X.kn (X.sub q.oldid)).length = _
    rw [hpc, fc_succ, ← hoid, ← hnext, kidsOf_branch X.kn _ (not_single h2), List.length_map]
  · show ((c.queue ++ (newKids X q c.nextOldID).toArray).toList.filter (·.leafOnly)).length ≤ _
    rw [hpc, e, List.filter_append, List.length_append]
    exact Nat.add_le_add hinv.lo (newKids_filter_LO X q c.nextOldID)

theorem qsize_le {X : Ctx} {newid : Nat} {c : Conv} {st : BSt} (hinv : CInv X newid c st) :
    c.queue.size ≤ 2 * X.oq.size := by
  have h1 : c.queue.toList.length = (c.queue.toList.filter (·.leafOnly)).length
      + (c.queue.toList.filter nonLO).length := by
    show _ = _ + (c.queue.toList.filter fun a => !a.leafOnly).length
    simpa [List.countP_eq_length_filter] using
      List.length_eq_countP_add_countP (·.leafOnly) (l := c.queue.toList)
  have h2 : (c.queue.toList.filter nonLO).length ≤ X.oq.size := by
    have := congrArg List.length hinv.ids
    rw [List.length_map, List.length_range] at this
    rw [this]; exact hinv.nle
  have h3 : procCnt c newid ≤ (c.queue.toList.filter nonLO).length :=
    (List.Sublist.filter _ (List.take_sublist _ _)).length_le
  rw [← Array.length_toList, h1, Nat.two_mul]
  exact Nat.add_le_add (Nat.le_trans hinv.lo (Nat.le_trans h3 h2)) h2

theorem nodeOf_single (kn : Array (List Nat)) (ls : Bool) (fc : Nat) (q : Sub)
    (h : q.e - q.s = 1) :
    (nodeOf kn ls fc q).inner = false ∧ (nodeOf kn ls fc q).leaf = some q.s := by
  unfold nodeOf; rw [if_pos h]; exact ⟨rfl, rfl⟩

theorem nodeOf_branch (kn : Array (List Nat)) (ls : Bool) (fc : Nat) (q : Sub)
    (h : ¬ q.e - q.s = 1) :
    (nodeOf kn ls fc q).inner = true ∧
    (nodeOf kn ls fc q).bm = (runsOf kn q).foldl (fun a r => a ||| (1 <<< r.1)) 0 ∧
    (nodeOf kn ls fc q).leaf = (if endsAt kn q then some q.s else none) := by
  simp only [nodeOf, if_neg h, and_self]

theorem loop_spec {X : Ctx} (H : X.OK) {bc : BCtx}
    (hc : CtxOK X.keys (List.replicate X.keys.length true) {} bc) :
    ∀ fuel newid c st, CInv X newid c st → 2 * X.oq.size < fuel + newid →
      ∃ c' st', convert.loop X.ch X.steps X.lvs (some X.w) fuel newid c = .ok c' ∧
        CInv X c'.queue.size c' st' := by
  intro fuel
  induction fuel with
  | zero =>
    intro newid c st hinv hf
    rw [Nat.zero_add] at hf
    exact absurd (Nat.le_trans hinv.le (qsize_le hinv)) (Nat.not_le.mpr hf)
  | succ fuel ih =>
    intro newid c st hinv hf
    have hf' : 2 * X.oq.size < fuel + (newid + 1) := Nat.add_right_comm fuel 1 newid ▸ hf
    by_cases hlt : newid < c.queue.size
    · have hq : c.queue[newid]? = some c.queue[newid] := Array.getElem?_eq_getElem hlt
      generalize c.queue[newid] = q at hq
      have helt := hinv.elts newid q hq
      obtain ⟨hn, hnode, _⟩ := old_at H q.oldid helt.lt
      by_cases hleaf : q.leafOnly = true ∨
          (X.sub q.oldid).e - (X.sub q.oldid).s = 1
      · have hkey : X.nodes[q.oldid].leaf = some (X.sub q.oldid).s := by
          rw [hnode]
          rcases hleaf with h | h
          · have h2 := helt.lo h
            rw [(nodeOf_branch _ _ _ _ (not_single h2.1)).2.2, h2.2]; rfl
          · exact (nodeOf_single _ _ _ _ h).2
        have hty : q.leafOnly = true ∨ X.nodes[q.oldid].inner = false :=
          hleaf.imp_right fun h => by rw [hnode]; exact (nodeOf_single _ _ _ _ h).1
        rw [loop_leaf H.R fuel newid c q hq hn _ hkey hty]
        obtain ⟨st', hinv'⟩ := cinv_leaf hc H.hasc hinv q hq hleaf
        exact ih _ _ _ hinv' hf'
      · rw [not_or] at hleaf
        have hlo : q.leafOnly = false := by simpa using hleaf.1
        have hg := hinv.good q hq hlo
        have h2 : (X.sub q.oldid).s + 2 ≤ (X.sub q.oldid).e :=
          Nat.lt_of_le_of_ne hg.lt fun h => hleaf.2 (by rw [← h]; exact Nat.add_sub_cancel_left _ _)
        obtain ⟨st', hinv'⟩ := cinv_inner H hc hinv q hq hlo h2
        obtain ⟨B, _, _⟩ := old_inner H q.oldid helt.lt hg h2
        have hbr := nodeOf_branch X.kn X.ls (fcOf X.kn X.oq q.oldid) _ hleaf.2
        have hlt16 : ∀ x ∈ runsOf X.kn (X.sub q.oldid), x.1 < 16 := by
          intro x hx
          obtain ⟨h1, h3, h4, hx1⟩ := groupRuns_mem _ _ _ _ x hx
          have hl := B.longer x.2.1 h1 (Nat.lt_of_lt_of_le h3 h4)
          rw [hx1, nibAt_eq H.hkn _ _ hl]
          exact BuildInv.knOf_lt16 X.keys _ _ (List.getElem_mem hl)
        have hkids : c.nextOldID + (runsOf X.kn (X.sub q.oldid)).length
            ≤ X.nodes.size := by
          rw [H.O.size]; exact hinv'.nle
        rw [loop_inner H.R H.stepLim fuel newid c q hq hn hlo (by rw [hnode]; exact hbr.1)
          (endsAt X.kn (X.sub q.oldid)) (runsOf X.kn (X.sub q.oldid))
          (by rw [hnode]; exact hbr.2.1)
          (by rw [hnode, hbr.2.2]; cases endsAt X.kn (X.sub q.oldid) <;> rfl)
          (newLabelsOf_asc H.hkn hg B H.hasc hc) hlt16 hkids]
        exact ih _ _ _ hinv' hf'
    · have : newid = c.queue.size := Nat.le_antisymm hinv.le (Nat.not_lt.mp hlt)
      exact ⟨c, st, loop_done _ _ _ _ _ newid c hlt, this ▸ hinv⟩

end LegacyConvert
