import SlimProofs.WireMsg
/-
  SlimProofs.WireSlim — trie.Slim: the proto3 normal form, decode ∘ encode = id, size = length.
-/

namespace SlimMsg
/-- proto3 normal form of a `Slim` message: scalars, repeated fields and sub-message pointers are
    always normal in these structures (0 / [] / none are the omitted forms, `some {}` is a present
    empty sub-message and round-trips); the only condition is on `XXX_unrecognized`: it holds
    well-formed fields, canonically keyed, none of which the Slim unmarshaler would consume itself. -/
def NF (s : SlimMsg) : Prop := Wire.unknownOnly Wire.slimKnown s.unrecognized = true
end SlimMsg

namespace Wire

/-- In each branch of `slimH` either the unmarshaler declines a value of that wire type, or the
    pair is one of `slimKnown`. -/
theorem slimH_unknown (acc : SlimMsg) (fno wire : Nat) (v : WVal)
    (hk : slimKnown fno wire = false) (hf : Fits wire v) : slimH acc fno v = .ok none := by
  rcases hf with ⟨rfl, w, rfl⟩ | ⟨rfl, p, rfl⟩ | ⟨h0, h2, rfl⟩
  · unfold slimH; split <;> first | rfl | exact absurd hk (by decide)
  · unfold slimH; split <;> first | rfl | exact absurd hk (by decide)
  · unfold slimH; split <;> rfl

theorem decodeSlimInto_unknown (acc : SlimMsg) (bs : Bytes) (h : unknownOnly slimKnown bs = true) :
    decodeSlimInto acc bs = .ok { acc with unrecognized := acc.unrecognized ++ bs } := by
  unfold decodeSlimInto
  exact decodeMsg_unknownOnly slimH slimU slimKnown slimH_unknown
    (fun a => by simp [slimU]) (fun a x y => by simp [slimU]) bs acc h

/-- The seven fields after the two scalars, read into a state that holds only those scalars and
    unknown bytes: what the reader of the current format and the 0.5.10 reader (whose stream has
    the retired scalars 12, 13, 15 among 11 and 14) have in common. -/
theorem slimTail_eats (B S : Nat) (U : Bytes) (m : SlimMsg) (hwf : m.WF) :
    Eats slimH slimU { bigInnerCnt := B, shortSize := S, unrecognized := U }
      (encodeSlimKnown { m with bigInnerCnt := 0, shortSize := 0 })
      { m with bigInnerCnt := B, shortSize := S, unrecognized := U } := by
  obtain ⟨_, _, hst, hnt, hinn, hsb, hip, hlp, hlv⟩ := hwf
  -- the two scalars of the chunk are 0 and not written; the chain must still name their (empty) chunks
  exact
  .append .nil <| .append .nil <|
  .append (.sub (fun a x => { a with nodeTypeBM := x }) _ decodeBitmap_encode hnt
      (fun _ _ hd => by simp [slimH, msgF, hd]) rfl) <|
  .append (.sub (fun a x => { a with inners := x }) _ decodeBitmap_encode hinn
      (fun _ _ hd => by simp [slimH, msgF, hd]) rfl) <|
  .append (.sub (fun a x => { a with shortBM := x }) _ decodeBitmap_encode hsb
      (fun _ _ hd => by simp [slimH, msgF, hd]) rfl) <|
  .append (.packed (fun a l => { a with shortTable := l }) _ (by simp [slimH, repU32_packed _ hst]) rfl) <|
  .append (.sub (fun a x => { a with innerPrefixes := x }) _ decodeVLenArray_encode hip
      (fun _ _ hd => by simp [slimH, msgF, hd]) rfl) <|
  .append (.sub (fun a x => { a with leafPrefixes := x }) _ decodeVLenArray_encode hlp
      (fun _ _ hd => by simp [slimH, msgF, hd]) rfl) <|
  .sub (fun (a : SlimMsg) x => { a with leaves := x }) _ decodeVLenArray_encode hlv
      (fun _ _ hd => by simp [slimH, msgF, hd]) rfl

theorem decodeSlimInto_encode (m : SlimMsg) (hwf : m.WF) (hnf : m.NF) (hsz : (encodeSlim m).length < 2 ^ 64) :
    decodeSlimInto {} (encodeSlim m) = .ok m := by
  have E : Eats slimH slimU {} (encodeSlimKnown m) { m with unrecognized := [] } :=
    .append (.scalar (fun a x => { a with bigInnerCnt := x }) (fun _ => rfl) rfl (lt32 hwf.1)) <|
    .append (.scalar (fun a x => { a with shortSize := x }) (fun _ => rfl) rfl (lt32 hwf.2.1)) <|
    slimTail_eats _ _ _ m hwf
  rw [encodeSlim, List.length_append] at hsz
  rw [decodeSlimInto, encodeSlim, E (by omega), ← decodeSlimInto, decodeSlimInto_unknown _ _ hnf, List.nil_append]

theorem slimI32OK_of_WF (m : SlimMsg) (h : m.WF) : slimI32OK m = true := by
  obtain ⟨hb, hss, _, hnt, hinn, hsb, hip, hlp, hlv⟩ := h
  simp [slimI32OK, i32ok, hb, hss,
    optOK_of bitmapI32OK_of_WF hnt,
    optOK_of bitmapI32OK_of_WF hinn,
    optOK_of bitmapI32OK_of_WF hsb,
    optOK_of vlenI32OK_of_WF hip,
    optOK_of vlenI32OK_of_WF hlp,
    optOK_of vlenI32OK_of_WF hlv]

theorem decodeSlim_encode (m : SlimMsg) (hwf : m.WF) (hnf : m.NF) (hsz : (encodeSlim m).length < 2 ^ 64) :
    decodeSlim (encodeSlim m) = .ok m := by
  unfold decodeSlim
  rw [decodeSlimInto_encode m hwf hnf hsz, checkI32_ok _ _ (slimI32OK_of_WF m hwf)]

theorem protoSizeSlim_eq (m : SlimMsg) : protoSizeSlim m = (encodeSlim m).length := by
  simp only [protoSizeSlim, encodeSlim, encodeSlimKnown, List.length_append, encVarintF_length,
    encPackedF_length, encMsgF_length protoSizeBitmap_eq, encMsgF_length protoSizeVLenArray_eq]

end Wire
