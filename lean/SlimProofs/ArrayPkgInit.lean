import SlimProofs.ArrayPkgGet
/-
  SlimProofs.ArrayPkgInit — the constructors of package array on valid input (`C16.Valid`), and the
  generic accessor on what they build (C16).  `built a0 idx chunks` is the receiver after `Init`:
  `Base.init_eq` and `Array.init_eq` say that the constructors return it, `built_holds` that its
  fields satisfy `Holds`.  An encoder enters only through `FixedRT` (fixed width, round trip on a
  domain; `encOf` names its bytes).  `Holds.getU`, `Holds.getS` are the typed accessors of the
  generated arrays (`array.U16` … `array.I64`); the file ends with the two rejections of `Init`,
  which `(*Array).Init` hands on as they are (`Array.init_of_err`).
-/
namespace ArrayPkg
open Encode

/-- A fixed-width round-tripping encoder: on the domain `D` it encodes `v` to the `w` bytes `f v`
    and decodes exactly these bytes back to `v`; `GetEncodedSize(nil)` is `w`. -/
structure FixedRT (c : Codec Val) (D : Val → Prop) (w : Nat) (f : Val → Bytes) : Prop where
  ges : c.getEncodedSize [] = .ok w
  enc : ∀ v, D v → c.encode v = .ok (f v)
  len : ∀ v, D v → (f v).length = w
  dec : ∀ v, D v → c.decode (f v) = .ok (w, v)

/-- The bytes a codec produces (`[]` where it panics). -/
def encOf (c : Codec Val) (v : Val) : Bytes :=
  match c.encode v with
  | .ok e => e
  | .error _ => []

/-- A round-tripping codec whose `GetSize` and `GetEncodedSize` are the constant `w` is a fixed-width
    one: `RoundTrips` makes every encoding as long as `GetSize` says. -/
theorem FixedRT_of_roundTrips (c : Codec Val) (D : Val → Prop) (w : Nat)
    (hges : c.getEncodedSize [] = .ok w) (hrt : c.RoundTrips D)
    (hsz : ∀ v, D v → c.getSize v = .ok w) : FixedRT c D w (encOf c) := by
  refine ⟨hges, ?_, ?_, ?_⟩
  · intro v hv
    obtain ⟨e, h1, _⟩ := hrt v hv []
    simp [encOf, h1]
  · intro v hv
    obtain ⟨e, h1, _, h3, _⟩ := hrt v hv []
    simp only [encOf, h1]
    exact Except.ok.inj (h3.symm.trans (hsz v hv))
  · intro v hv
    obtain ⟨e, h1, h2, h3, _⟩ := hrt v hv []
    simp only [encOf, h1]
    rw [List.append_nil, Except.ok.inj (h3.symm.trans (hsz v hv))] at h2
    exact h2

theorem te_fixedRT (bo : BO) (t : Ty) :
    FixedRT (Enc.typ bo t).codec (InDom t) t.size (encOf (TE bo t)) :=
  FixedRT_of_roundTrips (TE bo t) (InDom t) t.size rfl (te_roundTrips bo t) fun _ _ => rfl

theorem encodeAll_eq (c : Codec Val) (f : Val → Bytes) (vs : List Val)
    (h : ∀ v ∈ vs, c.encode v = .ok (f v)) : encodeAll c vs = .ok (vs.map f).flatten := by
  induction vs with
  | nil => rfl
  | cons v vs ih =>
    simp only [encodeAll, h v (List.mem_cons_self ..),
      ih (fun x hx => h x (List.mem_cons_of_mem _ hx)), bind, Except.bind, pure, Except.pure]
    simp

theorem lookup_mem {α : Type} (idx : List Nat) (elts : List α) (x : Nat) (v : α)
    (h : lookup idx elts x = some v) : v ∈ elts := by
  induction idx generalizing elts with
  | nil => simp [lookup] at h
  | cons i is ih =>
    cases elts with
    | nil => simp [lookup] at h
    | cons e es =>
      simp only [lookup] at h
      split at h
      · cases h; exact List.mem_cons_self ..
      · exact List.mem_cons_of_mem _ (ih es h)

theorem initIndex_ok (a0 : Base) (idx : List Nat) (hasc : StrictAsc idx)
    (hrange : ∀ x ∈ idx, x + 65 ≤ 2 ^ 31) :
    a0.initIndex (idx.map Int.ofNat) =
      .ok ({ a0 with bitmaps := Bits.ofIdx idx 0,
                     offsets := zeroEmpty (Bits.ofIdx idx 0) (indexRank64 (Bits.ofIdx idx 0)),
                     cnt := wrap32 ((idx.map Int.ofNat).length : Int) }, none) := by
  unfold Base.initIndex
  rw [(ascCheck_ofNat idx).mpr hasc, bitmapOf_eq_ofIdx idx hasc hrange]
  rfl

theorem length_lt_of_range (idx : List Nat) (hasc : StrictAsc idx)
    (hrange : ∀ x ∈ idx, x + 65 ≤ 2 ^ 31) : idx.length < 2147483648 := by
  have := length_le_of_strictAsc hasc 2147483584 fun x hx => by have := hrange x hx; omega
  omega

end ArrayPkg

/-- Valid constructor input: `n` elements of encoded width `w` at the positions `idx`. -/
structure C16.Valid (idx : List Nat) (n w : Nat) : Prop where
  asc : ArrayPkg.StrictAsc idx
  len : idx.length = n
  range : ∀ x ∈ idx, x + 65 ≤ 2 ^ 31
  size : idx.length * w < 2147483648

namespace ArrayPkg
open Encode C16

/-- What `Init` leaves in the receiver `a0` for the positions `idx` and the element bytes `chunks`
    (with no element, `Init` returns before `InitElts`: `Elts` keeps its old value). -/
def built (a0 : Base) (idx : List Nat) (chunks : List Bytes) : Base :=
  { a0 with bitmaps := Bits.ofIdx idx 0,
            offsets := zeroEmpty (Bits.ofIdx idx 0) (indexRank64 (Bits.ofIdx idx 0)),
            cnt := (idx.length : Int),
            elts := if idx.length = 0 then a0.elts else chunks.flatten }

theorem built_holds (a0 : Base) {c : Codec Val} {D : Val → Prop} {w : Nat} {f : Val → Bytes}
    (hF : FixedRT c D w f) {idx : List Nat} {vals : List Val} (hv : Valid idx vals.length w)
    (hdom : ∀ v ∈ vals, D v) (hfresh : idx = [] → a0.elts = []) :
    Holds (built a0 idx (vals.map f)).toArray32 idx (vals.map f) w := by
  refine ⟨hv.asc, isBitmapOf_ofIdx idx, rfl, ?_, by rw [List.length_map, hv.len],
    List.forall_mem_map.mpr fun v h => hF.len v (hdom v h), length_lt_of_range idx hv.asc hv.range, hv.size⟩
  show (if idx.length = 0 then a0.elts else _) = _
  split
  · next h =>
    have hn : vals = [] := List.length_eq_zero_iff.mp (hv.len ▸ h)
    rw [hfresh (List.length_eq_zero_iff.mp h), hn]; rfl
  · rfl

/-- `(*Base).Init` on valid input, with the element encoder `enc` that the Go code resolves
    (the preset `EltEncoder`, else a little-endian `TypeEncoder` of the element type). -/
theorem Base.init_eq (a0 : Base) (ety : Option Ty) {enc : Enc} {D : Val → Prop} {w : Nat}
    {f : Val → Bytes} (henc : resolveEnc a0.eltEncoder ety = some enc)
    (hF : FixedRT enc.codec D w f) {idx : List Nat} {vals : List Val}
    (hv : Valid idx vals.length w) (hdom : ∀ v ∈ vals, D v) :
    a0.init ety (idx.map Int.ofNat) vals = .ok (built a0 idx (vals.map f), none) := by
  have hii := initIndex_ok a0 idx hv.asc hv.range
  rw [List.length_map, wrap32_nat (length_lt_of_range idx hv.asc hv.range)] at hii
  unfold Base.init
  rw [if_neg (by simp [hv.len])]
  simp only [hii, bind, Except.bind, List.length_map, built]
  split
  · rfl
  · simp only [henc, Base.initElts, hF.ges,
      encodeAll_eq enc.codec f vals fun v h => hF.enc v (hdom v h), bind, Except.bind]
    rfl

/-- `(*Array).Init` after `Base.Init`: a nil `EltEncoder` of a non-empty array becomes the resolved one. -/
theorem Array.init_eq {a0 a1 : Base} {ety : Option Ty} {index : List Int} {vals : List Val}
    {enc : Enc} (h1 : a0.init ety index vals = .ok (a1, none))
    (henc : resolveEnc a1.eltEncoder ety = some enc) :
    Array.init a0 ety index vals =
      .ok ({ a1 with eltEncoder := a1.eltEncoder <|> if a1.cnt > 0 then some enc else none }, none) := by
  unfold Array.init
  simp only [h1, bind, Except.bind]
  obtain ⟨m, _ | e⟩ := a1
  · -- nil encoder: `resolveEnc` took the element type's
    cases ety with
    | none => cases henc
    | some t =>
      cases henc
      by_cases hc : m.cnt > 0
      · rw [if_pos ⟨hc, rfl⟩, if_pos hc]
        rfl
      · rw [if_neg fun h => hc h.1, if_neg hc]
        rfl
  · rw [if_neg fun h => Bool.false_ne_true h.2]
    rfl

theorem Holds.get {a : Base} {idx : List Nat} {vals : List Val} {w : Nat} {f : Val → Bytes}
    {enc : Enc} {D : Val → Prop}
    (H : Holds a.toArray32 idx (vals.map f) w) (he : a.eltEncoder = some enc)
    (hF : FixedRT enc.codec D w f) (hdom : ∀ v ∈ vals, D v)
    (i : Nat) (hi : i < 64 * a.bitmaps.length) :
    a.get (i : Int) = .ok (lookup idx vals i) := by
  unfold Base.get
  simp only [he, hF.ges, bind, Except.bind, H.getBytes i hi, lookup_map]
  cases hl : lookup idx vals i with
  | none => rfl
  | some v =>
    have hv := hdom v (lookup_mem idx vals i v hl)
    simp only [Option.map_some, hF.dec v hv]
    rfl

theorem encOf_prim (s : Bool) (w : Nat) (x : Int) :
    encOf (TE .le (.prim s w)) (.int x) = leBytes w (toU w x) := by
  simp [encOf, TE, tyEncode, intBytes]

theorem new_ok (t : Ty) {idx : List Nat} {vals : List Val} (hv : Valid idx vals.length t.size)
    (hdom : ∀ v ∈ vals, InDom t v) :
    ∃ a, ArrayPkg.new (some t) (idx.map Int.ofNat) vals = .ok (some a, none) ∧
      Holds a.toArray32 idx (vals.map (encOf (TE .le t))) t.size ∧
      (idx ≠ [] → a.eltEncoder = some (.typ .le t)) := by
  have h1 := Base.init_eq {} (some t) rfl (te_fixedRT .le t) hv hdom
  refine ⟨?_, ?h, ?_, fun hne => ?_⟩
  case h =>
    unfold ArrayPkg.new
    simp only [Array.init_eq h1 rfl, bind, Except.bind]
    rfl
  · exact built_holds {} (te_fixedRT .le t) hv hdom fun _ => rfl
  · exact if_pos (Int.natCast_pos.mpr (List.length_pos_iff.mpr hne))

/-- `array.NewU16 … NewI64` on valid input (element kind `.prim s w`). -/
theorem newTyped_ok (s : Bool) {w : Nat} {idx : List Nat} {elts : List Int}
    (hv : Valid idx elts.length w) (hdom : ∀ e ∈ elts, InDom (.prim s w) (.int e)) :
    ∃ a, newTyped (.prim s w) (idx.map Int.ofNat) elts = .ok (some a, none) ∧
      Holds a.toArray32 idx ((elts.map Val.int).map (encOf (TE .le (.prim s w)))) w ∧
      a.eltEncoder = none := by
  have hdom' : ∀ v ∈ elts.map Val.int, InDom (.prim s w) v := List.forall_mem_map.mpr hdom
  have hv' : Valid idx (elts.map Val.int).length w := (List.length_map Val.int).symm ▸ hv
  have hF := te_fixedRT .le (.prim s w)
  refine ⟨_, ?_, built_holds {} hF hv' hdom' fun _ => rfl, rfl⟩
  unfold newTyped
  simp only [Base.init_eq {} (some (.prim s w)) rfl hF hv' hdom', bind, Except.bind]
  rfl

/-- Go result pair `(value, found)` with the zero value when absent. -/
def resU (o : Option Nat) : Nat × Bool :=
  match o with
  | some e => (e, true)
  | none => (0, false)

def resS (o : Option Int) : Int × Bool :=
  match o with
  | some e => (e, true)
  | none => (0, false)

theorem toU_natCast {w e : Nat} (h : InU w e) : toU w (e : Int) = e := by
  rw [toU_of_nonneg (Int.natCast_nonneg e) (by exact_mod_cast h), Int.toNat_natCast]

theorem Holds.getU {a : Base} {idx : List Nat} {elts : List Nat} {w : Nat}
    (H : Holds a.toArray32 idx
      ((elts.map (fun e : Nat => Val.int (e : Int))).map (encOf (TE .le (.prim false w)))) w)
    (hdom : ∀ e ∈ elts, InU w e) (i : Nat) (hi : i < 64 * a.bitmaps.length) :
    a.getU w (i : Int) = .ok (resU (lookup idx elts i)) := by
  unfold Base.getU
  simp only [H.typedGetBytes i hi, bind, Except.bind, lookup_map]
  cases hl : lookup idx elts i with
  | none => rfl
  | some e =>
    have he := hdom e (lookup_mem idx elts i e hl)
    simp only [Option.map_some, encOf_prim, toU_natCast he, leVal_leBytes_of_lt he]
    rfl

theorem Holds.getS {a : Base} {idx : List Nat} {elts : List Int} {w : Nat} (hw : 1 ≤ w)
    (H : Holds a.toArray32 idx ((elts.map Val.int).map (encOf (TE .le (.prim true w)))) w)
    (hdom : ∀ e ∈ elts, InS w e) (i : Nat) (hi : i < 64 * a.bitmaps.length) :
    a.getS w (i : Int) = .ok (resS (lookup idx elts i)) := by
  unfold Base.getS
  simp only [H.typedGetBytes i hi, bind, Except.bind, lookup_map]
  cases hl : lookup idx elts i with
  | none => rfl
  | some e =>
    have he := hdom e (lookup_mem idx elts i e hl)
    simp only [Option.map_some, encOf_prim, leVal_leBytes_of_lt (toU_lt w e), toS_toU hw he]
    rfl

theorem Base.init_len_mismatch (a0 : Base) (ety : Option Ty) (index : List Int) (vals : List Val)
    (h : index.length ≠ vals.length) : a0.init ety index vals = .ok (a0, some .indexLen) := by
  unfold Base.init; rw [if_pos h]

theorem Base.init_not_asc (a0 : Base) (ety : Option Ty) (index : List Int) (vals : List Val)
    (hl : index.length = vals.length) (h : ¬ index.Pairwise (· < ·)) :
    a0.init ety index vals = .ok (a0, some .indexNotAscending) := by
  unfold Base.init
  have hne : ¬ (index.length ≠ vals.length) := by simp [hl]
  rw [if_neg hne]
  have hasc : ascCheck index = false := by
    cases hc : ascCheck index with
    | false => rfl
    | true => exact absurd ((ascCheck_iff index).mp hc) h
  simp [Base.initIndex, hasc, bind, Except.bind, pure, Except.pure]

theorem Array.init_of_err {a0 a1 : Base} {ety : Option Ty} {index : List Int} {vals : List Val}
    {e : ArrErr} (h : a0.init ety index vals = .ok (a1, some e)) :
    Array.init a0 ety index vals = .ok (a1, some e) := by
  unfold Array.init; rw [h]; rfl

end ArrayPkg
