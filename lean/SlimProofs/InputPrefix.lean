import SlimProofs.InputCount
/-
  SlimProofs.InputPrefix — the stored key material of a built trie is bounded by the total length
  of the keys:

    Σ over inner nodes (half-bytes of the stored prefix) + 2 · Σ over leaves (bytes of the stored tail)
        ≤ 2 · (total key bytes) + (number of nodes)

  Proof: give every queue entry (subset `[s,e)` examined from half-byte `fb`) the weight
  `w = Σ_{t ∈ [s,e)} (|key t| in half-bytes − fb)`.  An inner node with branching position `ws`
  spends `ws − fb` (+1 for byte alignment) on its stored prefix and hands its children — disjoint
  sub-ranges examined from `≥ ws` — at most the rest (`inner_local`); a leaf's tail is its whole
  weight (`leaf_local`).  The BFS numbering law says every node but the root is exactly one child,
  so the sum telescopes to the root's weight (`Tree.telescope`), which is twice the total key length.
-/

namespace InputPrefix

open Refine InputCount

theorem sum_children (q F : Nat → Nat) : ∀ (ls : List Nat) (fc : Nat),
    (∀ k (hk : k < ls.length), q (fc + k) ≤ F ls[k]) →
    ((List.range' fc ls.length).map q).sum ≤ (ls.map F).sum := by
  intro ls
  induction ls with
  | nil => intro fc _; simp
  | cons l ls ih =>
    intro fc h
    simp only [List.length_cons, List.range'_succ, List.map_cons, List.sum_cons]
    have h0 := h 0 (by simp)
    simp only [Nat.add_zero, List.getElem_cons_zero] at h0
    exact Nat.add_le_add h0 (ih (fc + 1) (fun k hk => by
      have := h (k + 1) (Nat.succ_lt_succ hk)
      rwa [List.getElem_cons_succ, ← Nat.add_assoc, Nat.add_right_comm] at this))

/-- weight of the key range `[s,e)` examined from half-byte `fb` -/
def wAt (keys : List Bytes) (s e fb : Nat) : Nat :=
  ((List.range' s (e - s)).map (fun t => (knOf keys t).length - fb)).sum

def w (keys : List Bytes) (o : Subset) : Nat := wAt keys o.s o.e o.fb

def qw (keys : List Bytes) (queue : Array Subset) (i : Nat) : Nat :=
  match queue[i]? with
  | some o => w keys o
  | none => 0

theorem qw_of {keys : List Bytes} {queue : Array Subset} {i : Nat} {o : Subset}
    (h : queue[i]? = some o) : qw keys queue i = w keys o := by
  unfold qw; rw [h]

def prefNibs : Pref → Nat
  | .stored ns => ns.length
  | _ => 0

/-- what a node stores of the keys: half-bytes of the inner prefix / twice the bytes of the leaf tail -/
def cost : Node → Nat
  | .inner r => prefNibs r.pref
  | .leaf _ lp => 2 * (lp.getD []).length

theorem prefNibs_prefOf (opt : Opt) (k : List Nat) (fb ws : Nat) :
    prefNibs (prefOf opt k fb ws) ≤ ws - fb + 1 := by
  unfold prefOf
  split
  · exact Nat.zero_le _
  · split
    · show ((k.take ws).drop (fb - fb % 2)).length ≤ _
      rw [List.length_drop, List.length_take]
      exact Nat.le_trans (Nat.sub_le_sub_right (Nat.min_le_left _ _) _) (by omega)
    · exact Nat.zero_le _

theorem inner_local {keys : List Bytes} {keep : List Bool} {opt : Opt} {queue : Array Subset}
    {j : Nat} {o : Subset} {r : InnerRec} (hlt : o.s < o.e)
    (hin : InnerOK keys keep opt queue j o r) :
    prefNibs r.pref + ((List.range' r.firstChild r.labels.length).map (qw keys queue)).sum
      ≤ w keys o + 1 := by
  obtain ⟨ws, hfb, hag, _, hpref, _, hpw, _, _, hkids⟩ := hin
  -- a child weighs at most what its keys have behind `ws`; a key lies in the child of its label only
  have hkid : ∀ k (hk : k < r.labels.length), qw keys queue (r.firstChild + k) ≤
      (fun l => ((List.range' o.s (o.e - o.s)).map
        (fun t => if labelOf keys ws r.big t = l then (knOf keys t).length - ws else 0)).sum)
        r.labels[k] := by
    intro k hk
    obtain ⟨c, hq, hcfb, hcs, hce, hiff⟩ := hkids k hk
    rw [qw_of hq]
    refine Nat.le_trans (SizeShort.sum_map_le_sum_map _ _ (fun t => (knOf keys t).length - ws)
      fun t _ => Nat.sub_le_sub_left (hcfb ▸ Nat.le_add_right _ _) _) ?_
    refine Nat.le_trans (sum_interval_le _ hcs hce) (Nat.le_of_eq (sum_map_congr _ _ _ fun t ht => ?_))
    rw [List.mem_range'_1] at ht
    simp only [hiff t ht.1 (by omega)]
  have hsum := Nat.le_trans (sum_children (qw keys queue) _ r.labels r.firstChild hkid)
    (sum_by_label_le (labelOf keys ws r.big) (fun t => (knOf keys t).length - ws)
      (List.range' o.s (o.e - o.s)) r.labels (hpw.imp (fun h => Nat.ne_of_lt h)))
  -- every key of the subset gives up `ws - fb` half-bytes, and the subset has a key
  have hw : w keys o = _ + ((List.range' o.s (o.e - o.s)).map fun _ => ws - o.fb).sum :=
    (sum_map_congr _ _ _ fun t ht => by
      rw [List.mem_range'_1] at ht
      exact (Nat.sub_add_sub_cancel (hag t ht.1 (by omega)).1 hfb).symm).trans (sum_map_add _ _ _)
  have hone : ws - o.fb ≤ ((List.range' o.s (o.e - o.s)).map fun _ => ws - o.fb).sum :=
    mem_le_sum _ _ (List.mem_map.mpr ⟨o.s, List.mem_range'_1.mpr ⟨Nat.le_refl _, by omega⟩, rfl⟩)
  rw [hw, hpref, Nat.add_comm _ (List.sum _), Nat.add_assoc]
  exact Nat.add_le_add hsum
    (Nat.le_trans (prefNibs_prefOf _ _ _ _) (Nat.add_le_add_right hone 1))

theorem leaf_local {keys : List Bytes} {opt : Opt} {o : Subset} {lp : Option Bytes}
    (he : o.e = o.s + 1) (hlp : lp = leafPrefOf opt (keys.getD o.s []) o.fb) :
    2 * (lp.getD []).length ≤ w keys o + 1 := by
  have hw : w keys o = 2 * (keys.getD o.s []).length - o.fb := by
    unfold w wAt
    rw [he, Nat.add_sub_cancel_left]
    simp [knOf, nibs_length]
  rw [hw, hlp]
  unfold leafPrefOf
  simp only
  split
  · simp only [Option.getD_some, List.length_drop]; omega
  · exact Nat.zero_le _

theorem sum_two_mul (l : List Bytes) :
    (l.map (fun k => 2 * k.length)).sum = 2 * totalLen l := by
  unfold totalLen
  induction l with
  | nil => rfl
  | cons a l ih => simp only [List.map_cons, List.sum_cons, ih]; omega

theorem w_root (keys : List Bytes) :
    w keys { s := 0, e := keys.length, fb := 0 } = 2 * totalLen keys := by
  unfold w wAt
  simp only [Nat.sub_zero]
  rw [← List.range_eq_range', ← sum_two_mul]
  have := map_range_getD keys (fun k => 2 * k.length) []
  rw [← this]
  apply sum_map_congr
  intro t _
  simp [knOf, nibs_length]

theorem cost_le {keys : List Bytes} {keep : List Bool} {t : Trie1} (hwf : WF keys keep t)
    (hs : ShapeOK t) :
    (t.nodes.toList.map cost).sum ≤ 2 * totalLen keys + t.nodes.size := by
  obtain ⟨queue, hsz, hroot, hq⟩ := hwf
  have h := Tree.telescope t.nodes cost (qw keys queue) (fun j hj => ?_) t.nodes.size (Nat.le_refl _)
  · rw [List.take_of_length_le (Nat.le_of_eq Array.length_toList), Tree.bfs_size hs, qw_of hroot,
      w_root] at h
    omega
  · obtain ⟨o, hqo, hsub, hnode⟩ := hq j hj
    rw [qw_of hqo]
    cases hnd : t.nodes[j] with
    | leaf ith lp =>
      rw [hnd] at hnode
      -- a leaf has no children: the sum over `range' _ 0` computes to `0`
      exact leaf_local hnode.1 hnode.2.2
    | inner r =>
      rw [hnd] at hnode
      exact Tree.fc_eq hs (Array.getElem?_eq_some_iff.mpr ⟨hj, hnd⟩) ▸ inner_local hsub.lt hnode.2

/-- a stored prefix of `n` half-bytes takes `⌈n/2⌉ + 1` bytes, a leaf tail is charged in full -/
theorem bytes_le_cost (l : List Node) :
    2 * ((l.filterMap innerOf).filterMap storedOf).flatten.length
      + 2 * ((l.filterMap leafOf).filterMap id).flatten.length
      ≤ (l.map cost).sum + 3 * l.length := by
  induction l with
  | nil => exact Nat.le_refl _
  | cons nd l ih =>
    simp only [List.map_cons, List.sum_cons, List.length_cons, Nat.mul_succ]
    -- a node that stores nothing
    have hskip : ∀ c S n : Nat, S + n ≤ c + S + (n + 3) := fun _ _ _ =>
      Nat.add_le_add (Nat.le_add_left _ _) (Nat.le_add_right _ _)
    cases nd with
    | inner r =>
      simp only [List.filterMap_cons, innerOf, leafOf, storedOf, cost]
      cases r.pref with
      | none => exact Nat.le_trans ih (hskip _ _ _)
      | step n => exact Nat.le_trans ih (hskip _ _ _)
      | stored ns =>
        simp only [List.flatten_cons, List.length_append]
        have e0 : prefNibs (Pref.stored ns) = ns.length := rfl
        have : (Slim.bitstrOf ns).length = (ns.length + 1) / 2 + 1 := by
          simp [Slim.bitstrOf, unnibs_length]
        omega
    | leaf ith lp =>
      cases lp with
      | none => exact Nat.le_trans ih (hskip _ _ _)
      | some b =>
        simp only [List.filterMap_cons, innerOf, leafOf, cost, id, Option.getD_some,
          List.flatten_cons, List.length_append]
        omega

theorem prefix_bytes_le {keys : List Bytes} {keep : List Bool} {t : Trie1} (hwf : WF keys keep t)
    (hs : ShapeOK t) :
    2 * (eStoredPs t).flatten.length + 2 * (eLeafPs t).flatten.length
      ≤ 2 * totalLen keys + 4 * t.nodes.size := by
  have h1 := cost_le hwf hs
  have h2 := bytes_le_cost t.nodes.toList
  have e1 : eStoredPs t = (eInners t).filterMap storedOf := rfl
  have e2 : eLeafPs t = (t.nodes.toList.filterMap leafOf).filterMap id := rfl
  rw [e1, e2, eInners_eq]
  have : t.nodes.toList.length = t.nodes.size := Array.length_toList
  omega

end InputPrefix
