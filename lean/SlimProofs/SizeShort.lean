import SlimProofs.Refine.Sub
/-
  SlimProofs.SizeShort — C17: the short table is only chosen when it is small compared with
  the number of inner nodes `I`: `shortSize = 0` or `4·2^shortSize < I + 4` (`eShortSize_small`).

  `memIncr sorted S ≥ 64·2^S − (17 − S)·total`, `total` the sum of all counts (`memIncr_ge`): the
  loop takes every count off at most once, so `restSum`, the counts not used yet, pays for what it
  still takes off.  The chosen size is 0 or has a strictly smaller estimate than size 0
  (`Refine.findMinShortSize_spec`), which is at most 64 (`memIncr_zero_le`); so a chosen non-zero
  size `S` has `4·2^S < total + 4` (`short_small`), and the counts add up to at most the number
  of inner nodes (`totalC_eSorted_le`).
-/

namespace SizeShort

open Bits Slim Refine

def sumc (l : List (Nat × Nat)) : Nat := (l.map (·.2)).sum

/-- Summed by row index, like `restSum`: `sum_map_range_update` is the one lemma about a changed row. -/
def totalC (a : Array (List (Nat × Nat))) : Nat :=
  ((List.range a.size).map fun nb => sumc (a.getD nb [])).sum

theorem sumc_drop (l : List (Nat × Nat)) (k : Nat) (x : Nat × Nat) (h : l[k]? = some x) :
    sumc (l.drop k) = sumc (l.drop (k + 1)) + x.2 := by
  obtain ⟨hk, rfl⟩ := List.getElem?_eq_some_iff.mp h
  unfold sumc
  rw [List.drop_eq_getElem_cons hk, List.map_cons, List.sum_cons, Nat.add_comm]

theorem sum_map_range_update (n j c : Nat) (f f' : Nat → Nat) (hj : j < n) (h1 : f' j = f j + c)
    (h2 : ∀ i, i ≠ j → f' i = f i) :
    ((List.range n).map f').sum = ((List.range n).map f).sum + c := by
  induction n with
  | zero => exact absurd hj (Nat.not_lt_zero j)
  | succ n ih =>
    rw [List.range_succ, List.map_append, List.map_append, List.sum_append, List.sum_append]
    simp only [List.map_cons, List.map_nil, List.sum_cons, List.sum_nil, Nat.add_zero]
    by_cases hjn : j = n
    · subst hjn
      have : (List.range j).map f' = (List.range j).map f :=
        List.map_congr_left fun i hi => h2 i (Nat.ne_of_lt (List.mem_range.mp hi))
      rw [this, h1, Nat.add_assoc]
    · rw [ih (Nat.lt_of_le_of_ne (Nat.le_of_lt_succ hj) hjn), h2 n (fun h => hjn h.symm),
        Nat.add_right_comm]

def restSum (sorted : Array (List (Nat × Nat))) (ith : Array Nat) : Nat :=
  ((List.range sorted.size).map (fun nb => sumc ((sorted.getD nb []).drop (ith.getD nb 0)))).sum

theorem restSum_zero (sorted : Array (List (Nat × Nat))) (n : Nat) :
    restSum sorted (Array.replicate n 0) = totalC sorted := by
  unfold restSum totalC
  refine congrArg List.sum (List.map_congr_left fun nb _ => ?_)
  rw [getD_replicate, List.drop_zero]

theorem restSum_modify (sorted : Array (List (Nat × Nat))) (ith : Array Nat) (nbit : Nat)
    (x : Nat × Nat) (h1 : nbit < ith.size) (h2 : (sorted.getD nbit [])[ith.getD nbit 0]? = some x) :
    restSum sorted ith = restSum sorted (ith.modify nbit (· + 1)) + x.2 := by
  have hns : nbit < sorted.size := by
    rcases Nat.lt_or_ge nbit sorted.size with h | h
    · exact h
    · rw [Array.getD_eq_getD_getElem?, Array.getElem?_eq_none h] at h2
      simp at h2
  unfold restSum
  refine sum_map_range_update _ nbit _ _ _ hns ?_ fun i hi => ?_
  · rw [getD_modify, if_pos ⟨rfl, h1⟩]
    exact sumc_drop _ _ x h2
  · rw [getD_modify, if_neg fun h => hi h.1.symm]

theorem popcount_le_of_lt {x S : Nat} (hS : S ≤ 64) (h : x < 2 ^ S) : popcount x ≤ S := by
  rw [popcount_eq_cnt]
  have : cnt x.testBit 64 = cnt x.testBit S := by
    apply cnt_eq_of_none hS
    intro j hj _
    exact Nat.testBit_lt_two_pow (Nat.lt_of_lt_of_le h (Nat.pow_le_pow_right (by omega) hj))
  rw [this]; exact cnt_le _ _

theorem memIncr_go_ge (sorted : Array (List (Nat × Nat))) (S : Nat) (hS : S ≤ 17)
    (k short : Nat) (ith : Array Nat) (mem : Int) (hk : short + k ≤ 2 ^ S) (hsz : ith.size = S + 1) :
    mem ≤ memIncr.go sorted S k short ith mem + ((17 : Int) - S) * restSum sorted ith := by
  have hw : (0 : Int) ≤ (17 : Int) - S := by omega
  induction k generalizing short ith mem with
  | zero => exact Int.le_add_of_nonneg_right (Int.mul_nonneg hw (Int.natCast_nonneg _))
  | succ k ih =>
    have hk' : short + 1 + k ≤ 2 ^ S := by rwa [Nat.add_right_comm, Nat.add_assoc]
    have hlt : short < 2 ^ S := Nat.lt_of_lt_of_le (Nat.lt_add_of_pos_right (Nat.succ_pos k)) hk
    unfold memIncr.go
    simp only
    have hpc : popcount short ≤ S :=
      popcount_le_of_lt (Nat.le_trans hS (by decide)) hlt
    split
    · next bm c hx =>
      have := ih (short + 1) (ith.modify (popcount short) (· + 1))
        (mem - ((innerSize : Int) - S) * c) hk' (by simpa using hsz)
      rw [restSum_modify sorted ith (popcount short) (bm, c) (hsz ▸ Nat.lt_succ_of_le hpc) hx,
        Int.natCast_add, Int.mul_add, ← Int.add_assoc]
      exact Int.le_add_of_sub_right_le this
    · exact ih (short + 1) ith mem hk' hsz

theorem memIncr_ge (sorted : Array (List (Nat × Nat))) (S : Nat) (hS : S ≤ 17) :
    ((2 ^ S : Nat) : Int) * 64 ≤ memIncr sorted S + ((17 : Int) - S) * totalC sorted := by
  unfold memIncr
  have := memIncr_go_ge sorted S hS (2 ^ S) 0 (Array.replicate (S + 1) 0) (((2 ^ S : Nat) : Int) * 64)
    (by omega) (by simp)
  rwa [restSum_zero] at this

theorem memIncr_zero_le (sorted : Array (List (Nat × Nat))) : memIncr sorted 0 ≤ 64 := by
  have e : memIncr sorted 0 = memIncr.go sorted 0 1 0 (Array.replicate 1 0) 64 := rfl
  rw [e]
  unfold memIncr.go
  simp only
  split
  · next bm c _ =>
    have : (0 : Int) ≤ ((innerSize : Int) - (0 : Nat)) * (c : Int) := by
      apply Int.mul_nonneg
      · simp [innerSize]
      · exact Int.natCast_nonneg c
    simp only [memIncr.go]
    omega
  · simp only [memIncr.go]; omega

theorem short_small (sorted : Array (List (Nat × Nat))) (hpos : 0 < findMinShortSize sorted) :
    4 * 2 ^ findMinShortSize sorted < totalC sorted + 4 := by
  obtain ⟨hle, h | h⟩ := findMinShortSize_spec sorted
  · exact absurd h (Nat.ne_of_gt hpos)
  · have hge := memIncr_ge sorted (findMinShortSize sorted) (Nat.le_trans hle (by decide))
    have h0 := memIncr_zero_le sorted
    generalize findMinShortSize sorted = S at *
    have hw : ((17 : Int) - S) * (totalC sorted : Int) ≤ 16 * (totalC sorted : Int) :=
      Int.mul_le_mul_of_nonneg_right (by omega) (Int.natCast_nonneg _)
    -- `2^S · 64 ≤ memIncr S + (17 − S)·total < memIncr 0 + 16·total ≤ 64 + 16·total`
    generalize memIncr sorted S = a, memIncr sorted 0 = b, ((17 : Int) - S) * _ = w,
      2 ^ S = p at h h0 hge hw ⊢
    omega

theorem sumc_bumpCount (tbl : List (Nat × Nat)) (bm : Nat) : sumc (bumpCount tbl bm) = sumc tbl + 1 := by
  induction tbl with
  | nil => simp [bumpCount, sumc]
  | cons p tbl ih =>
    obtain ⟨b, c⟩ := p
    simp only [bumpCount]
    split
    · simp only [sumc, List.map_cons, List.sum_cons]; omega
    · simp only [sumc, List.map_cons, List.sum_cons] at ih ⊢
      rw [ih]; omega

theorem totalC_eSorted (t : Trie1) : totalC (eSorted t) = totalC (eCnts t) := by
  unfold totalC
  rw [show (eSorted t).size = (eCnts t).size from Array.size_map]
  refine congrArg List.sum (List.map_congr_left fun nb _ => ?_)
  rw [eSorted_getD]
  exact ((sortCounts_perm_self _).map _).sum_nat

theorem totalC_bump_le (a : Array (List (Nat × Nat))) (n bm : Nat) :
    totalC (a.modify n fun tbl => bumpCount tbl bm) ≤ totalC a + 1 := by
  unfold totalC
  rw [Array.size_modify]
  rcases Nat.lt_or_ge n a.size with h | h
  · refine Nat.le_of_eq (sum_map_range_update _ n 1 _ _ h ?_ fun i hi => ?_)
    · rw [getD_modify, if_pos ⟨rfl, h⟩]
      exact sumc_bumpCount _ _
    · rw [getD_modify, if_neg fun e => hi e.1.symm]
  · -- no such row: nothing is counted
    refine Nat.le_trans (Nat.le_of_eq (congrArg List.sum (List.map_congr_left fun nb _ => ?_)))
      (Nat.le_succ _)
    rw [getD_modify, if_neg fun e => Nat.not_le.mpr e.2 (e.1 ▸ h)]

theorem totalC_fold_le (l : List InnerRec) (a : Array (List (Nat × Nat))) :
    totalC (l.foldl (fun (a : Array (List (Nat × Nat))) r =>
      if !r.big && r.labels.length < maxShortSize + 1
      then a.modify r.labels.length (fun tbl => bumpCount tbl (bm17 r.labels)) else a) a)
      ≤ totalC a + l.length := by
  induction l generalizing a with
  | nil => simp
  | cons r rs ih =>
    rw [List.foldl_cons, List.length_cons]
    refine Nat.le_trans (ih _) ?_
    split
    · have := totalC_bump_le a r.labels.length (bm17 r.labels)
      omega
    · omega

theorem totalC_eSorted_le (t : Trie1) : totalC (eSorted t) ≤ (eInners t).length := by
  rw [totalC_eSorted]
  unfold eCnts
  refine Nat.le_trans (totalC_fold_le _ _) ?_
  have : totalC (Array.replicate (maxShortSize + 1) ([] : List (Nat × Nat))) = 0 := rfl
  omega

theorem eShortSize_small (t : Trie1) :
    eShortSize t = 0 ∨ 4 * 2 ^ eShortSize t < (eInners t).length + 4 :=
  (Nat.eq_zero_or_pos (eShortSize t)).imp_right fun h =>
    Nat.lt_of_lt_of_le (short_small (eSorted t) h) (Nat.add_le_add_right (totalC_eSorted_le t) 4)

end SizeShort
