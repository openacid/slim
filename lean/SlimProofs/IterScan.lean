import SlimProofs.IterStack
import SlimProofs.Transport
/-
  The callback loop of `ScanFrom` / `ScanFromTo` over an iterator that yields a finite list of
  items and then reports exhaustion (`IterStack.Yields`, any `View`): with enough fuel it collects
  the `takeWhile` of the end-bound test, truncated at `stopAfter` (`scanFrom_of_yields`).
  A run carries over along a `Transport.ViewSim` (`Yields.le`): `iterTake`, `scanFrom`,
  `scanFromTo` read the view through `iterNext` alone, so they need no transport lemma of their own.
-/

namespace IterScan
open Scan IterStack

theorem _root_.IterStack.Yields.le {v₁ v₂ : View} {n : Nat} (hsim : Transport.ViewSim v₁ v₂ n) {wv : Bool}
    {s : IterState} {L : List (Bytes × Option Bytes)} (h : Yields v₁ wv s L) : Yields v₂ wv s L := by
  induction h with
  | done hn => exact .done (Transport.iterNext_le hsim _ _ _ hn)
  | next hn _ ih => exact .next (Transport.iterNext_le hsim _ _ _ hn) ih

/-- `s` yields the items `L`, then reports exhaustion on every later call -/
def Stream (v : View) (wv : Bool) (s : IterState) (L : List (Bytes × Option Bytes)) : Prop :=
  ∀ k, iterTake v wv k s = .ok (expect k (L.map (fun y => (some y.1, y.2))))

/-- stop after the `N`-th item (`none` or `some 0`: never) -/
def truncate (stopAfter : Option Nat) (L : List (Bytes × Option Bytes)) :
    List (Bytes × Option Bytes) :=
  match stopAfter with
  | none => L
  | some N => if N = 0 then L else L.take N

theorem truncate_nil (stopAfter : Option Nat) : truncate stopAfter [] = [] := by
  cases stopAfter <;> simp [truncate]

/-- one turn of the callback loop, read on its result: with `cnt` items seen the bound `N` has
    `N - cnt` to go, and nothing to go (`N ≤ cnt`) reads like `some 0`, never, since the loop only
    tests `N = cnt + 1` -/
theorem truncate_cons (stopAfter : Option Nat) (cnt : Nat) (y : Bytes × Option Bytes)
    (L : List (Bytes × Option Bytes)) :
    truncate (stopAfter.map (· - cnt)) (y :: L) =
      if stopAfter == some (cnt + 1) then [y]
      else y :: truncate (stopAfter.map (· - (cnt + 1))) L := by
  cases stopAfter with
  | none => rfl
  | some N =>
    simp only [truncate, Option.map_some, beq_iff_eq, Option.some.injEq]
    by_cases h1 : N = cnt + 1
    · subst h1
      simp
    · rw [if_neg h1]
      by_cases h2 : N ≤ cnt
      · rw [if_pos (by omega), if_pos (by omega)]
      · rw [if_neg (by omega), if_neg (by omega), show N - cnt = (N - (cnt + 1)) + 1 by omega,
          List.take_succ_cons]

theorem go_spec {v : View} {wv : Bool} (keepFn : Bytes → Bool) (stopAfter : Option Nat)
    {s : IterState} {L : List (Bytes × Option Bytes)} (h : Yields v wv s L) :
    ∀ fuel cnt, L.length < fuel →
      scanFrom.go v wv keepFn stopAfter fuel s cnt =
        .ok (truncate (stopAfter.map (· - cnt)) (L.takeWhile (fun y => keepFn y.1))) := by
  induction h with
  | done hn =>
    intro fuel cnt hf
    obtain ⟨fuel, rfl⟩ : ∃ f, fuel = f + 1 := ⟨fuel - 1, by simp at hf; omega⟩
    simp only [scanFrom.go, hn, bind, Except.bind, pure, Except.pure, List.takeWhile_nil,
      truncate_nil]
  | @next s s' key val L hn _ ih =>
    intro fuel cnt hf
    obtain ⟨fuel, rfl⟩ : ∃ f, fuel = f + 1 := ⟨fuel - 1, by simp at hf; omega⟩
    have hrec := ih fuel (cnt + 1) (by simp at hf; omega)
    simp only [scanFrom.go, hn, bind, Except.bind, pure, Except.pure, List.takeWhile_cons]
    cases hk : keepFn key with
    | false => simp [truncate_nil]
    | true =>
      simp only [Bool.not_true, Bool.false_eq_true, if_false, if_true, truncate_cons, hrec]
      cases (stopAfter == some (cnt + 1)) <;> rfl

theorem scanFrom_of_yields {v : View} {start : Bytes} {incl wv : Bool} {s : IterState}
    {L : List (Bytes × Option Bytes)} (hs : newIterFrom v start incl = .ok s) (hy : Yields v wv s L)
    (hf : L.length < v.nodeCnt + 2) (keepFn : Bytes → Bool) (stopAfter : Option Nat) :
    scanFrom v start incl wv keepFn stopAfter =
      .ok (truncate stopAfter (L.takeWhile (fun y => keepFn y.1))) := by
  unfold scanFrom
  rw [hs]
  show scanFrom.go v wv keepFn stopAfter (v.nodeCnt + 2) s 0 = _
  rw [go_spec keepFn stopAfter hy _ _ hf]
  cases stopAfter <;> rfl

end IterScan
