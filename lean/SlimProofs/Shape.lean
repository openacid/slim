import SlimModel.Build
/-
  SlimProofs.Shape — the key-independent half of well-formedness: what the bit-level encoding
  (`Slim.encode`, L2) needs to know about the record array in order to decode it back.

  `build_shape` (SlimProofs.BuildShape) establishes it for every successful `build`;
  the refinement theorem L2 ⊑ L1 (SlimProofs.Refine) consumes it.
-/

def Node.isInner : Node → Bool
  | .inner _ => true
  | .leaf _ _ => false

/-- the inner records among the first `j` nodes -/
def innersBefore (nodes : Array Node) (j : Nat) : List InnerRec :=
  (nodes.toList.take j).filterMap (fun n => match n with | .inner r => some r | .leaf _ _ => none)

/-- number of leaves among the first `j` nodes -/
def leavesBefore (nodes : Array Node) (j : Nat) : Nat :=
  ((nodes.toList.take j).filter (fun n => !n.isInner)).length

def labelBound (big : Bool) : Nat := if big then 257 else 17

def PrefOK (opt : Opt) : Pref → Prop
  | .none => True
  | .step n => opt.inner = false ∧ 0 < n ∧ n < 65536
  | .stored ns => opt.inner = true ∧ 0 < ns.length ∧ ∀ x ∈ ns, x < 16

structure ShapeOK (t : Trie1) : Prop where
  nonempty : 0 < t.nodes.size
  /-- BFS law: the first child of an inner node is 1 + the number of labels of all earlier inner nodes -/
  firstChild : ∀ (j : Nat) (r : InnerRec), t.nodes[j]? = some (Node.inner r) →
    r.firstChild = 1 + ((innersBefore t.nodes j).map (fun r => r.labels.length)).sum
  /-- every node except the root is the child of exactly one label -/
  total : t.nodes.size = 1 + ((innersBefore t.nodes t.nodes.size).map (fun r => r.labels.length)).sum
  /-- leaf ordinals count the leaves in BFS order -/
  leafOrd : ∀ (j ith : Nat) (lp : Option Bytes), t.nodes[j]? = some (Node.leaf ith lp) → ith = leavesBefore t.nodes j
  labels : ∀ (j : Nat) (r : InnerRec), t.nodes[j]? = some (Node.inner r) →
    r.labels ≠ [] ∧ r.labels.Pairwise (· < ·) ∧ ∀ l ∈ r.labels, l < labelBound r.big
  /-- the big (257-bit) nodes are exactly the first `bigCnt` inner nodes -/
  bigPrefix : ∀ (j : Nat) (r : InnerRec), t.nodes[j]? = some (Node.inner r) →
    (r.big = true ↔ (innersBefore t.nodes j).length < t.bigCnt)
  pref : ∀ (j : Nat) (r : InnerRec), t.nodes[j]? = some (Node.inner r) → PrefOK t.opt r.pref
  leafPref : ∀ (j ith : Nat) (b : Bytes), t.nodes[j]? = some (Node.leaf ith (some b)) → t.opt.leaf = true ∧ b ≠ []
  leafCnt : t.leafKeyIdx.size = leavesBefore t.nodes t.nodes.size
  elts : ∀ es, t.elts = some es → es.length = t.leafKeyIdx.size
