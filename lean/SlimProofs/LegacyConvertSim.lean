import SlimModel.Legacy
import SlimProofs.LegacyConvertOld
import SlimProofs.Refine.ShortTable
/-
  SlimProofs.LegacyConvertSim — stage (ii-a) of C06 for the three-section layouts: the bit level of
  one iteration of the loader's conversion loop (`Legacy.convert.loop`).  The sections enter only
  through `Reads`: what the accessors return on them (the lemmas of LegacyArray).  `loop_leaf` /
  `loop_inner` are the loop's equations for its two live branches in terms of the old node list:
  the labels read off the 17-bit bitmap `bm << 1 (| 1)` are `newLabelsOf ends runs` (`labels_eq`),
  the children get consecutive old ids and their rebased steps (`addKids_spec`).
-/

namespace LegacyConvert
open LegacyWrite Legacy

theorem testBit_mul_two_zero (bm : Nat) : (bm * 2).testBit 0 = false := by
  rw [Nat.testBit_zero]; simp

theorem testBit_mul_two_succ (bm k : Nat) : (bm * 2).testBit (k + 1) = bm.testBit k := by
  have := Nat.testBit_mul_two_pow bm (k + 1) 1
  simp only [Nat.pow_one] at this
  rw [this]; simp

def newLabelsOf (ends : Bool) (runs : List (Nat × Nat × Nat)) : List Nat :=
  (if ends then [0] else []) ++ runs.map (fun x => x.1 + 1)

theorem testBit_shift_flag (bm : Nat) (ends : Bool) :
    (if ends then bm * 2 ||| 1 else bm * 2).testBit 0 = ends ∧
    ∀ j, (if ends then bm * 2 ||| 1 else bm * 2).testBit (j + 1) = bm.testBit j := by
  cases ends
  · exact ⟨testBit_mul_two_zero bm, testBit_mul_two_succ bm⟩
  · refine ⟨?_, fun j => ?_⟩
    · rw [if_pos rfl, Nat.testBit_or, testBit_mul_two_zero]; rfl
    · rw [if_pos rfl, Nat.testBit_or, testBit_mul_two_succ, Nat.testBit_succ]; simp

/-- all set bits of the 17-bit bitmap lie below 17: the loader scans 64 positions for the labels
    (`loop_inner`) and 17 for the child count (`kids_eq`) -/
theorem labels_eq (ends : Bool) (runs : List (Nat × Nat × Nat))
    (hasc : (newLabelsOf ends runs).Pairwise (· < ·)) (hlt : ∀ x ∈ runs, x.1 < 16) (n : Nat)
    (hn : 17 ≤ n) :
    (List.range n).filter (fun k =>
      (if ends then (runs.foldl (fun a r => a ||| (1 <<< r.1)) 0) * 2 ||| 1
       else (runs.foldl (fun a r => a ||| (1 <<< r.1)) 0) * 2).testBit k)
      = newLabelsOf ends runs := by
  have hmem : ∀ j, (runs.foldl (fun a r => a ||| (1 <<< r.1)) 0).testBit j = true ↔
      ∃ x ∈ runs, x.1 = j := by
    intro j
    rw [← List.foldl_map (f := fun r : Nat × Nat × Nat => r.1) (g := fun a i => a ||| (1 <<< i)),
      Refine.foldl_or_testBit]
    simp
  generalize runs.foldl (fun a r => a ||| (1 <<< r.1)) 0 = bm at hmem ⊢
  obtain ⟨h0, hs⟩ := testBit_shift_flag bm ends
  apply Bits.Asc.ext (Bits.asc_filter_range _ _) hasc
  intro k
  rw [List.mem_filter, List.mem_range]
  unfold newLabelsOf
  cases k with
  | zero =>
    rw [h0]
    cases ends with
    | false => simp
    | true => simp; omega
  | succ j =>
    rw [hs, hmem]
    constructor
    · rintro ⟨_, x, hx, rfl⟩
      exact List.mem_append_right _ (List.mem_map.mpr ⟨x, hx, rfl⟩)
    · intro h
      rcases List.mem_append.mp h with h | h
      · cases ends <;> simp at h
      · obtain ⟨x, hx, hxj⟩ := List.mem_map.mp h
        have := hlt x hx
        exact ⟨by omega, x, hx, by omega⟩

theorem kids_eq (ends : Bool) (runs : List (Nat × Nat × Nat))
    (hasc : (newLabelsOf ends runs).Pairwise (· < ·)) (hlt : ∀ x ∈ runs, x.1 < 16) :
    ((List.range 17).filter (fun k =>
      ((runs.foldl (fun a r => a ||| (1 <<< r.1)) 0) * 2).testBit k)).length = runs.length := by
  have := labels_eq false runs (hasc.sublist (List.sublist_append_right _ _)) hlt 17 (Nat.le_refl _)
  simp only [Bool.false_eq_true, if_false] at this
  rw [this]
  unfold newLabelsOf
  simp

theorem getD_toArray (vals : List Bytes) (j : Nat) : vals.toArray.getD j [] = vals.getD j [] := by
  rw [Array.getD_eq_getD_getElem?, List.getElem?_toArray, List.getD_eq_getElem?_getD]

structure Reads (ch steps lvs : Array32Msg) (w : Nat) (nodes : List OldNode) (vals : Array Bytes) :
    Prop where
  inner : ∀ id, bmhas ch.bitmaps id = decide (∃ h : id < nodes.length, nodes[id].inner = true)
  leaf : ∀ id, bmhas lvs.bitmaps id = decide (∃ h : id < nodes.length, nodes[id].leaf.isSome = true)
  step : ∀ id (h : id < nodes.length), nodes[id].step < 65536 →
    getStep steps id = .ok (nodes[id].step - 1)
  bm : ∀ id (h : id < nodes.length), nodes[id].inner = true →
    getBM16Child ch id = .ok (nodes[id].bm * 2)
  val : ∀ id (h : id < nodes.length) k, nodes[id].leaf = some k →
    getBytes lvs id w = .ok (some (vals.getD k []))

def kidElts (nodes : Array OldNode) (oid k : Nat) : List QElt :=
  (List.range' oid k).map (fun o =>
    { oldid := o, step := (nodes.getD o default).step - 1, leafOnly := false })

theorem addKids_spec {ch steps lvs : Array32Msg} {w : Nat} {nodes : Array OldNode}
    {vals : List Bytes} (R : Reads ch steps lvs w nodes.toList vals.toArray)
    (hlim : ∀ (o : Nat) (h : o < nodes.size), nodes[o].step < 65536) :
    ∀ k oid qu, oid + k ≤ nodes.size →
      convert.loop.addKids steps k oid qu = .ok (qu ++ (kidElts nodes oid k).toArray) := by
  intro k
  induction k with
  | zero => intro oid qu _; simp [convert.loop.addKids, kidElts]
  | succ k ih =>
    intro oid qu h
    have hoid : oid < nodes.size := by omega
    rw [convert.loop.addKids, R.step oid hoid (hlim oid hoid)]
    simp only [bind, Except.bind]
    rw [ih (oid + 1) _ (by omega)]
    simp [kidElts, List.range'_succ, hoid]

def leafUpd (c : Conv) (v : Bytes) : Conv :=
  { c with nodes := c.nodes.push (.leaf c.leaves.size none), leaves := c.leaves.push v }

def innerUpd (c : Conv) (kids : List QElt) (cnt : Nat) (r : InnerRec) : Conv :=
  { queue := c.queue ++ kids.toArray, nextOldID := c.nextOldID + cnt,
    nodes := c.nodes.push (.inner r), leaves := c.leaves }

theorem loop_done (ch steps lvs : Array32Msg) (es : Option Nat) (fuel newid : Nat) (c : Conv)
    (h : ¬ newid < c.queue.size) : convert.loop ch steps lvs es fuel newid c = .ok c := by
  cases fuel
  · rw [convert.loop, if_neg h]
  · rw [convert.loop, dif_neg h]

theorem loop_leaf {ch steps lvs : Array32Msg} {w : Nat} {nodes : Array OldNode}
    {vals : List Bytes} (R : Reads ch steps lvs w nodes.toList vals.toArray)
    (fuel newid : Nat) (c : Conv) (q : QElt) (hq : c.queue[newid]? = some q)
    (hid : q.oldid < nodes.size) (k : Nat) (hleaf : nodes[q.oldid].leaf = some k)
    (hty : q.leafOnly = true ∨ nodes[q.oldid].inner = false) :
    convert.loop ch steps lvs (some w) (fuel + 1) newid c
      = convert.loop ch steps lvs (some w) fuel (newid + 1) (leafUpd c (vals.getD k [])) := by
  have hlt : newid < c.queue.size := (Array.getElem?_eq_some_iff.mp hq).1
  have hqe : c.queue[newid] = q := (Array.getElem?_eq_some_iff.mp hq).2
  have hhl : bmhas lvs.bitmaps q.oldid = true := by
    rw [R.leaf]; simp [hid, hleaf]
  have hcond : (q.leafOnly || (!bmhas ch.bitmaps q.oldid && bmhas lvs.bitmaps q.oldid)) = true := by
    rcases hty with h | h
    · simp [h]
    · have : bmhas ch.bitmaps q.oldid = false := by rw [R.inner]; simp [hid, h]
      simp [this, hhl]
  rw [convert.loop, dif_pos hlt]
  simp only [hqe, hcond, if_true, R.val q.oldid hid k hleaf, getD_toArray, bind, Except.bind]
  rfl

theorem loop_inner {ch steps lvs : Array32Msg} {w : Nat} {nodes : Array OldNode}
    {vals : List Bytes} (R : Reads ch steps lvs w nodes.toList vals.toArray)
    (hlim : ∀ (o : Nat) (h : o < nodes.size), nodes[o].step < 65536)
    (fuel newid : Nat) (c : Conv) (q : QElt) (hq : c.queue[newid]? = some q)
    (hid : q.oldid < nodes.size) (hlo : q.leafOnly = false) (hin : nodes[q.oldid].inner = true)
    (ends : Bool) (runs : List (Nat × Nat × Nat))
    (hbm : nodes[q.oldid].bm = runs.foldl (fun a r => a ||| (1 <<< r.1)) 0)
    (hends : nodes[q.oldid].leaf.isSome = ends)
    (hasc : (newLabelsOf ends runs).Pairwise (· < ·)) (hlt16 : ∀ x ∈ runs, x.1 < 16)
    (hkids : c.nextOldID + runs.length ≤ nodes.size) :
    convert.loop ch steps lvs (some w) (fuel + 1) newid c
      = convert.loop ch steps lvs (some w) fuel (newid + 1)
          (innerUpd c
            ((if ends then [{ oldid := q.oldid, step := 0, leafOnly := true }] else []) ++
              kidElts nodes c.nextOldID runs.length)
            runs.length
            { big := false, labels := newLabelsOf ends runs, firstChild := 0,
              pref := if q.step = 0 then Pref.none else Pref.step q.step }) := by
  have hlt : newid < c.queue.size := (Array.getElem?_eq_some_iff.mp hq).1
  have hqe : c.queue[newid] = q := (Array.getElem?_eq_some_iff.mp hq).2
  have hhi : bmhas ch.bitmaps q.oldid = true := by rw [R.inner]; simp [hid, hin]
  have hhl : bmhas lvs.bitmaps q.oldid = ends := by
    rw [R.leaf, ← hends]
    cases h : nodes[q.oldid].leaf.isSome <;> simp [hid, h]
  rw [convert.loop, dif_pos hlt]
  simp only [hqe, Bool.false_eq_true, if_false, hhi, Bool.not_true, R.bm q.oldid hid hin,
    Array.getElem_toList, bind, Except.bind, hbm, kids_eq ends runs hasc hlt16, hhl]
  rw [addKids_spec R hlim _ _ _ hkids]
  simp only []
  have hl := labels_eq ends runs hasc hlt16 64 (by decide)
  cases ends with
  | false =>
    simp only [Bool.false_eq_true, if_false] at hl ⊢
    rw [hl]
    simp [innerUpd, hlo]
  | true =>
    simp only [if_true] at hl ⊢
    rw [hl]
    simp [innerUpd, hlo]

end LegacyConvert
