import SlimProofs.SizeShort
import SlimProofs.SizeVarint
import SlimProofs.EncodeWF
import SlimProofs.StatLemmas
import SlimProofs.SizeLabels
/-
  SlimProofs.SizeFields — C17: a bitmap of `c` bits with a rank index costs at most `41 + c/4`
  bytes as a field of the message (`sizeMsgF_mk_le`; its instance for `newBM`), and the counting
  facts (nodes, inner nodes, leaves, labels, big nodes, label bits), with the label counts taken in
  the form the builder's loop proves them (`SizeLabels.LabelsOK` of every record).
-/

namespace SizeFields

open Bits Slim Refine Wire SizeV SizeShort

theorem cnt_getBit_le_all (ws : List Nat) (i : Nat) :
    cnt (getBit ws) i ≤ cnt (getBit ws) (64 * ws.length) := by
  rcases Nat.le_total i (64 * ws.length) with h | h
  · exact cnt_mono _ h
  · exact Nat.le_of_eq (cnt_getBit_of_ge ws h)

/-- a bitmap of `c` bits with either rank index, as a field of the message: ten bytes per word, five
    per rank entry (a count of set bits, of which there are fewer than `2^35`), at most one entry per
    word and one more; 15 bytes per 64-bit word are under a quarter of a byte per bit, and
    41 = 19 + 15 (the rounding word) + 2 (tag) + 5 (length prefix) -/
theorem sizeMsgF_mk_le (fno : Nat) (ws : List Nat) (opt : String) (hopt : opt = "r64" ∨ opt = "r128")
    (c : Nat) (hf : fno * 8 + 2 < 2 ^ 14) (hws : ∀ w ∈ ws, w < 2 ^ 64)
    (hcnt : cnt (getBit ws) (64 * ws.length) < 2 ^ 35) (hW : ws.length = (c + 63) / 64)
    (hc : c < 2 ^ 36) : sizeMsgF fno (some (protoSizeBitmap (mk ws opt))) ≤ 41 + c / 4 := by
  have he : ∀ i, sizeVarint (cnt (getBit ws) i) ≤ 5 := fun i =>
    sizeVarint_le5 (Nat.lt_of_le_of_lt (cnt_getBit_le_all ws i) hcnt)
  obtain ⟨r, hmk, hlen, hr⟩ : ∃ r, mk ws opt = { words := ws, rankIndex := r } ∧
      r.length ≤ ws.length + 1 ∧ ∀ x ∈ r, sizeVarint x ≤ 5 := by
    rcases hopt with rfl | rfl
    · exact ⟨_, mk_r64 ws, Nat.le_trans (Nat.le_of_eq (indexRank64_length ws false)) (Nat.le_succ _),
        forall_mem_of_getElem? (indexRank64_getElem? ws false) fun _ _ => he _⟩
    · exact ⟨_, mk_r128 ws, by rw [indexRank128_length]; omega,
        forall_mem_of_getElem? (indexRank128_getElem? ws) fun _ _ => he _⟩
  have h1 := sizePackedF_le 20 ws (sizeVarint_le2 (by decide)) (fun x hx => sizeVarint_le10 (hws x hx))
    (Nat.le_refl _) (sizeVarint_le5 (by omega))
  have h2 := sizePackedF_le 30 r (sizeVarint_le2 (by decide)) hr hlen (sizeVarint_le5 (by omega))
  have hb : protoSizeBitmap (mk ws opt) ≤ 19 + 15 * ws.length := by
    rw [hmk]
    show sizePackedF 20 ws + (sizePackedF 30 r + 0) ≤ _
    omega
  have := sizeMsgF_some_le fno _ (sizeVarint_le2 hf) hb (sizeVarint_le5 (by omega))
  omega

theorem sizeMsgF_newBM_le (fno n : Nat) (q : Nat → Bool) (opt : String) (hf : fno * 8 + 2 < 2 ^ 14)
    (hopt : opt = "r64" ∨ opt = "r128") (hn : n < 2 ^ 32) :
    sizeMsgF fno (some (protoSizeBitmap (newBM ((List.range n).filter q) n opt))) ≤ 41 + n / 4 :=
  sizeMsgF_mk_le fno _ opt hopt n hf (ofIdx_lt _ _)
    (Nat.lt_of_le_of_lt (cnt_le _ _)
      (by rw [ofIdx_length_capa _ _ (filter_range_lt n q)]; omega))
    (ofIdx_length_capa _ _ (filter_range_lt n q)) (Nat.lt_trans hn (by decide))

theorem sum_map_ite {α : Type} (l : List α) (p : α → Bool) (c d : Nat) :
    (l.map (fun r => c + d * (if p r then 1 else 0))).sum = c * l.length + d * l.countP p := by
  induction l with
  | nil => simp
  | cons a l ih =>
    simp only [List.map_cons, List.sum_cons, ih, List.length_cons, List.countP_cons]
    split <;> simp [Nat.mul_succ] <;> omega

def labelSum (t : Trie1) : Nat := ((eInners t).map (fun r => r.labels.length)).sum

/-- number of 257-bit nodes -/
def bigCount (t : Trie1) : Nat := (eInners t).countP (·.big)

theorem nodes_eq_labels {t : Trie1} (hs : ShapeOK t) : t.nodes.size = 1 + labelSum t :=
  (StatLemmas.sum_labels hs).symm.trans (Nat.add_comm _ 1)

theorem nodes_eq_leaves_inners (t : Trie1) :
    leavesBefore t.nodes t.nodes.size + (eInners t).length = t.nodes.size := by
  have := leaves_add_inners t.nodes t.nodes.size (Nat.le_refl _)
  rwa [StatLemmas.innersBefore_all] at this

theorem labelsOK_inners {t : Trie1} (h : ∀ nd ∈ t.nodes.toList, SizeLabels.LabelsOK nd) :
    ∀ r ∈ eInners t, 2 ≤ r.labels.length ∧ (r.big = true → 11 ≤ r.labels.length) := by
  intro r hr
  rw [eInners_eq, List.mem_filterMap] at hr
  obtain ⟨nd, hnd, hi⟩ := hr
  cases nd with
  | inner r' => cases hi; exact h _ hnd
  | leaf _ _ => cases hi

theorem labelSum_ge (t : Trie1) (hlab : ∀ nd ∈ t.nodes.toList, SizeLabels.LabelsOK nd) :
    2 * (eInners t).length + 9 * bigCount t ≤ labelSum t := by
  unfold labelSum bigCount
  rw [← sum_map_ite (eInners t) (·.big) 2 9]
  apply sum_map_le_sum_map
  intro r hr
  obtain ⟨h2, h11⟩ := labelsOK_inners hlab r hr
  split
  · next hb => have := h11 hb; omega
  · omega

/-- total width of the label bitmap -/
theorem sizes_sum_le {t : Trie1} (hs : ShapeOK t) :
    labelBits t ≤ 17 * (eInners t).length + 240 * bigCount t := by
  unfold bigCount labelBits
  rw [← sum_map_ite (eInners t) (·.big) 17 240]
  unfold eSizes eSub
  rw [List.map_map]
  apply sum_map_le_sum_map
  intro r hr
  simp only [Function.comp_apply]
  rcases subOf_spec hs hr with e | ⟨hb, c, e, _⟩
  · rw [e]; cases r.big <;> simp [labelBound]
  · rw [e, hb]
    have := eShortSize_le t
    simp; omega

end SizeFields
