import SlimProofs.IterStack
/-
  `NewIter(start, includeStart)` followed by any number of `next()` calls on a well-formed Complete
  trie (`iter_exact`, which assembles `getGEPath_exact`, `buildStack_spec`, `advance_spec`,
  `yields_pos` and the single-node case).  The items are given by position, relative to the `Cut`
  of `start`; that these are the keys `≥ start` (`> start`) is `Cut.spec_scanFrom` in
  SlimProofs.CutSpec, a fact about the sorted list alone.
-/

namespace IterMain
open Subtree SearchDescent Scan IterLemmas IterStack LeafCount

theorem newIter_eq (v : View) (p : GEPath) (skip : Bool) (stack : List Elt) (buf : Bytes)
    (h : buildStack v p.path [] [] 0 = .ok (stack, buf)) :
    newIter v p skip = .ok (if skip then .walk (advance stack) buf
      else if p.path.length = 1 then .single (p.path.headD 0) buf false else .walk stack buf) := by
  unfold newIter
  rw [h]
  simp only [bind, Except.bind, pure, Except.pure]
  cases skip with
  | true => rfl
  | false =>
    simp only [Bool.false_eq_true, if_false]
    split <;> rfl

end IterMain

open IterMain Subtree SearchDescent Scan IterLemmas IterStack LeafCount in
/-- **The iterator, Complete mode.**  `start` sits at some `[a, b)` among the kept keys (`Cut`);
    `NewIter(start, incl)` returns normally, and the `next()` calls on the returned state yield the
    kept keys from `a` on (from `b` on for an exclusive start), ascending, each once, with `valOf`
    of the key's leaf as value when values are requested, followed by `(nil, nil)`. -/
theorem iter_exact (keys : List Bytes) (keep : List Bool) (t : Trie1)
    (hasc : strictAsc keys = true) (hwf : WF keys keep t)
    (hinner : t.opt.inner = true) (hleaf : t.opt.leaf = true)
    (valOf : Nat → Option Bytes) (hval : ValOK t valOf) (start : Bytes) (incl wv : Bool) :
    ∃ a b, Cut keys keep start a b ∧ ∃ s, newIterFrom t.view start incl = .ok s ∧
      Yields t.view wv s
        ((keptIn keep (if incl then a else b) keys.length).map (yieldOf keys valOf wv)) := by
  obtain ⟨queue, hq, hroot⟩ := (wf_iff keys keep t).mp hwf
  obtain ⟨p, a, b, hp, hcut, hpos⟩ := getGEPath_exact keys keep t hasc hwf hinner hleaf start
  refine ⟨a, b, hcut, ?_⟩
  have hnif : newIterFrom t.view start incl = newIter t.view p (p.eq && !incl) := by
    unfold newIterFrom
    rw [hp]
    rfl
  rw [hnif]
  have hyp := fun stack buf x => yields_pos hq hroot hinner hleaf valOf hval wv
    (keys.length - x + 1) stack buf x (Nat.lt_succ_self _)
  have hax : a ≤ if incl then a else b := by
    cases incl with
    | true => exact Nat.le_refl a
    | false => exact hcut.a_le
  rcases hpos with ⟨m, id, ⟨ham, hmn, hkm, hgap⟩, ⟨ith, lp, hnd, hidx⟩, ⟨pa, hpa, hanc⟩, heq⟩ |
    ⟨hno, hpa, heq⟩
  · obtain ⟨stack', buf', oid, hbs, hch', hqid, hbuf', hlen⟩ :=
      buildStack_spec hq hinner hanc [] [] _ Chain.nil hroot ⟨Nat.le_refl _, rfl⟩
    rw [← hpa] at hbs
    rw [newIter_eq t.view p _ stack' buf' hbs]
    refine ⟨_, rfl, ?_⟩
    -- the subset of the leaf is `{m}`
    obtain ⟨hsubid, nd, _, hnd', hnodeid⟩ := hq.view hqid
    rw [hnd] at hnd'; cases hnd'
    obtain ⟨hoe, hidx', hlp⟩ := hnodeid
    have hos : oid.s = m := by rw [hidx] at hidx'; cases hidx'; rfl
    have hoe' : oid.e = m + 1 := by omega
    cases hskip : (p.eq && !incl) with
    | true =>
      -- exclusive start on an exact hit: skip the first key, `b = m + 1`
      obtain ⟨hpe, hin⟩ := Bool.and_eq_true_iff.mp hskip
      have hmb : m < b := of_decide_eq_true (heq.symm.trans hpe)
      obtain rfl : b = m + 1 := by
        rcases hcut.mid with h | ⟨h, _⟩
        · exact absurd (h ▸ hmb) (Nat.not_lt.mpr ham)
        · exact h.trans (congrArg (· + 1) (Nat.le_antisymm ham (Nat.le_of_lt_succ (h ▸ hmb : m < a + 1))))
      have hin' : incl = false := by
        cases incl with
        | false => rfl
        | true => cases hin
      rw [hin']
      simp only [Bool.false_eq_true, if_false, if_true]
      exact hyp _ _ _ (advance_spec hroot buf' m stack' id hch' oid hqid
        (kept_single hos hoe' hkm) (hos ▸ hbuf'))
    | false =>
      simp only [Bool.false_eq_true, if_false]
      -- the keys from `x ≤ m` on, and no kept key lies between
      have hxm : (if incl then a else b) ≤ m := by
        cases incl with
        | true => exact ham
        | false =>
          have hpe : p.eq = false := (Bool.and_true _).symm.trans hskip
          exact Nat.le_of_not_lt (of_decide_eq_false (heq.symm.trans hpe))
      generalize (if incl then a else b) = x at hax hxm ⊢
      cases hanc with
      | here =>
        -- the root is a leaf: the single-node special case
        have hbs0 : buildStack t.view p.path [] [] 0 = .ok ([], []) := by
          rw [hpa]; exact buildStack_one _ _ _ _ _
        rw [hbs0] at hbs
        cases hbs
        rw [hroot] at hqid; cases hqid
        have hm0 : m = 0 := hos.symm
        subst hm0
        obtain rfl : x = 0 := Nat.le_zero.mp hxm
        have hn1 : keys.length = 1 := hoe
        rw [if_pos (by rw [hpa]; rfl), show p.path.headD 0 = 0 by rw [hpa]; rfl,
          keptIn_cons (by omega) hkm, keptIn_nil (fun t' h1 h2 => by omega)]
        have hnext := iterNext_single t.view wv 0 ith lp _ [] (view_node_of t 0 _ hnd)
          (leafValue_of hval wv hnd hidx)
        have hkey : ([] : Bytes) ++ lp.getD [] = keys.getD 0 [] := by
          rw [hlp, leafPrefOf_getD t.opt hleaf]
          show [] ++ List.drop (0 / 2) (keys.getD 0 []) = _
          simp
        rw [hkey] at hnext
        exact Yields.next hnext (Yields.done rfl)
      | step _ _ _ =>
        rw [if_neg (by rw [hpa]; simp)]
        cases hch' with
        | nil => simp at hlen
        | @cons rest j o r ws c hch hqj hnj F hc =>
          have hcfb := (kid_facts F hc hqid).1
          exact hyp _ _ x (Or.inr ⟨_, _, _, oid, rfl,
            { chain := Chain.cons hch hqj hnj F hc
              sub := hqid
              agree := hbuf'.mono (hcfb ▸ Nat.le_add_right _ _)
              le := hos ▸ hxm
              gap := fun t' h1 h2 => hgap t' (Nat.le_trans hax h1) (hos ▸ h2) }⟩)
  · -- no kept key from `a` on
    have hbs : buildStack t.view p.path [] [] 0 = .ok ([], []) := by
      rw [hpa]; rfl
    rw [newIter_eq t.view p _ [] [] hbs, hpa, heq,
      keptIn_nil fun t' h1 h2 => hno t' (Nat.le_trans hax h1) h2]
    exact ⟨_, rfl, Yields.done rfl⟩

#print axioms iter_exact
