import SlimProofs.WireMarshal
import SlimProofs.LegacyRoundTrip
import SlimModel.LegacyWrite
import SlimProofs.EncodeWF
/-
  SlimProofs.Legacy0510Wire — the wire half of `load ∘ write` for 0.5.10 / 0.5.11 streams:
  the body `LegacyWrite.to0510 m` (today's fields, with the retired scalar fields 12, 13, 15
  interleaved in field-number order) decodes to `Legacy.oldMsg m (retired m)`: the retired fields
  land in `XXX_unrecognized`, in order (`decodeSlim_to0510`).  Also: the level walk of `init` does
  not look at the fields in which the loaded message differs from today's (`initLevels_congr`,
  `initLevels_wordSelectMsg`).
-/
open Wire Frame Version Bits

namespace Wire

theorem slim_unknown {a : SlimMsg} {fno v : Nat} (hh : slimH a fno (.varint v) = .ok none) (hv : v < 2 ^ 64)
    (hf : FnoOK fno := by exact fnoOK) :
    Eats slimH slimU a (encVarintF fno v) { a with unrecognized := a.unrecognized ++ encVarintF fno v } := by
  intro _ rest
  unfold encVarintF
  by_cases hz : v = 0
  · simp [hz]
  · simp only [hz, if_false]
    exact (isField_varint hf hv).decodeMsg_append hh rest

end Wire

namespace LegacyWrite
open Legacy

/-- the retired fields 12 (`BigInnerOffset`), 13 (`ShortMinusInner`) and 15 (`ShortMask`) exactly as
    `to0510` writes them -/
def retired (cur : SlimMsg) : Bytes :=
  encVarintF 12 ((Slim.bigInnerSize - Slim.innerSize) * cur.bigInnerCnt) ++
  (encVarintF 13 (int32Varint ((cur.shortSize : Int) - Slim.innerSize)) ++
   encVarintF 15 (2 ^ cur.shortSize - 1))

/-- the part of `to0510 cur` after the five scalars -/
def rest0510 (cur : SlimMsg) : SlimMsg :=
  { cur with bigInnerCnt := 0, shortSize := 0
             innerPrefixes := cur.innerPrefixes.map oldInnerPrefixes
             leafPrefixes := cur.leafPrefixes.map oldLeafPrefixes
             leaves := cur.leaves.map (fun lv => { bytes := lv.bytes }) }

theorem to0510_eq (cur : SlimMsg)
    (h : (cur.nodeTypeBM.isNone && cur.inners.isNone && cur.leaves.isNone) = false) :
    to0510 cur =
      encVarintF 11 cur.bigInnerCnt ++
      (encVarintF 12 ((Slim.bigInnerSize - Slim.innerSize) * cur.bigInnerCnt) ++
      (encVarintF 13 (int32Varint ((cur.shortSize : Int) - Slim.innerSize)) ++
      (encVarintF 14 cur.shortSize ++
      (encVarintF 15 (2 ^ cur.shortSize - 1) ++ encodeSlim (rest0510 cur))))) := by
  unfold to0510 rest0510
  rw [h]
  rfl

theorem map_some_of {α β : Type} {P : α → Prop} {Q : β → Prop} {f : α → β}
    (hf : ∀ x, P x → Q (f x)) {o : Option α} (h : ∀ x, o = some x → P x) :
    ∀ y, o.map f = some y → Q y :=
  Refine.of_map_eq_some fun x hx => hf x (h x hx)

theorem wordIndexSelect_WF (b : BitmapMsg) (h : b.WF) : (wordIndexSelect b).WF := by
  obtain ⟨h1, h2, h3⟩ := h
  refine ⟨h1, h2, ?_⟩
  intro r hr
  simp only [wordIndexSelect, List.mem_map] at hr
  obtain ⟨x, hx, rfl⟩ := hr
  have := h3 x hx
  omega

theorem oldInnerPrefixes_WF (v : VLenArrayMsg) (h : v.WF) : (oldInnerPrefixes v).WF := by
  obtain ⟨h1, h2, h3, h4, h5⟩ := h
  unfold oldInnerPrefixes
  cases hp : v.positionBM with
  | none => exact ⟨h1, h2, h3, h4, h5⟩
  | some pbm =>
    refine ⟨h1, h2, h3, ?_, h5⟩
    intro b hb
    simp only [Option.some.injEq] at hb
    subst hb
    exact wordIndexSelect_WF pbm (h4 pbm hp)

theorem oldLeafPrefixes_WF (v : VLenArrayMsg) (h : v.WF) : (oldLeafPrefixes v).WF := by
  obtain ⟨h1, h2, h3, h4, h5⟩ := h
  exact ⟨h1, h2, h3, map_some_of wordIndexSelect_WF h4, h5⟩

theorem bareLeaves_WF (bs : Bytes) : ({ bytes := bs } : VLenArrayMsg).WF := by
  refine ⟨by simp, by simp, by simp, ?_, ?_⟩ <;> intro b hb <;> simp at hb

theorem rest0510_WF (cur : SlimMsg) (h : cur.WF) : (rest0510 cur).WF := by
  obtain ⟨_, _, h3, h4, h5, h6, h7, h8, h9⟩ := h
  exact ⟨by simp [rest0510], by simp [rest0510], h3, h4, h5, h6, map_some_of oldInnerPrefixes_WF h7,
    map_some_of oldLeafPrefixes_WF h8, map_some_of (fun _ _ => bareLeaves_WF _) h9⟩

theorem oldMsg_WF (cur : SlimMsg) (u : Bytes) (h : cur.WF) : (oldMsg cur u).WF := by
  have hr := rest0510_WF cur h
  obtain ⟨h1, h2, _⟩ := h
  obtain ⟨_, _, r3, r4, r5, r6, r7, r8, r9⟩ := hr
  exact ⟨h1, h2, r3, r4, r5, r6, r7, r8, r9⟩

theorem int32Varint_lt (x : Int) (h1 : -(2 ^ 63 : Int) ≤ x) (h2 : x < 2 ^ 63) : int32Varint x < 2 ^ 64 := by
  unfold int32Varint
  split
  · next hneg =>
    have : 0 < x.natAbs := by omega
    omega
  · omega

theorem retired_lt (cur : SlimMsg) (hB : cur.bigInnerCnt < 2 ^ 31) (hss : cur.shortSize ≤ 64) :
    (Slim.bigInnerSize - Slim.innerSize) * cur.bigInnerCnt < 2 ^ 64 ∧
    int32Varint ((cur.shortSize : Int) - Slim.innerSize) < 2 ^ 64 ∧
    2 ^ cur.shortSize - 1 < 2 ^ 64 := by
  refine ⟨?_, ?_, ?_⟩
  · simp only [Slim.bigInnerSize, Slim.innerSize]; omega
  · apply int32Varint_lt <;> simp only [Slim.innerSize] <;> omega
  · have : 2 ^ cur.shortSize ≤ 2 ^ 64 := Nat.pow_le_pow_right (by omega) hss
    omega

/-- `hss`: `ShortSize` is a bit count, as in every message of the builder -/
theorem decodeSlim_to0510 (cur : SlimMsg) (hwf : cur.WF) (hu : cur.unrecognized = [])
    (hss : cur.shortSize ≤ 64)
    (hne : (cur.nodeTypeBM.isNone && cur.inners.isNone && cur.leaves.isNone) = false)
    (hsz : (to0510 cur).length < 2 ^ 64) :
    decodeSlim (to0510 cur) = .ok (oldMsg cur (retired cur)) := by
  have hB := hwf.1
  have hS := hwf.2.1
  obtain ⟨h12, h13, h15⟩ := retired_lt cur hB hss
  have E : Eats slimH slimU {} (to0510 cur) (oldMsg cur (retired cur)) := by
    -- `retired` first (the unknown bytes pile up left-nested), before the chunk holds appends of its own;
    -- `oldMsg cur u` is `rest0510 cur` with the two scalars and `u` put in, so the last state fits by eta
    rw [retired, ← List.append_assoc, to0510_eq cur hne, encodeSlim,
      show (rest0510 cur).unrecognized = [] from hu, List.append_nil]
    exact
      .append (.scalar (fun a x => { a with bigInnerCnt := x }) (fun _ => rfl) rfl (lt32 hB)) <|
      .append (slim_unknown rfl h12) <|
      .append (slim_unknown rfl h13) <|
      .append (.scalar (fun a x => { a with shortSize := x }) (fun _ => rfl) rfl (lt32 hS)) <|
      .append (slim_unknown rfl h15) <|
      slimTail_eats _ _ _ (rest0510 cur) (rest0510_WF cur hwf)
  rw [decodeSlim, decodeSlimInto, E.decode hsz, checkI32_ok _ _ (slimI32OK_of_WF _ (oldMsg_WF cur _ hwf))]

end LegacyWrite

namespace Wire
open Legacy

theorem ithInnerFrom_congr (s s' : SlimMsg) (h3 : s.shortBM = s'.shortBM)
    (h4 : s.bigInnerCnt = s'.bigInnerCnt) (h5 : s.shortSize = s'.shortSize) (ith : Nat) :
    Slim.ithInnerFrom s ith = Slim.ithInnerFrom s' ith := by
  unfold Slim.ithInnerFrom
  rw [h3, h4, h5]

theorem initLevels_walk_congr (s s' : SlimMsg) (h2 : s.inners = s'.inners) (h3 : s.shortBM = s'.shortBM)
    (h4 : s.bigInnerCnt = s'.bigInnerCnt) (h5 : s.shortSize = s'.shortSize) (nt : BitmapMsg)
    (totalInner : Nat) : ∀ (fuel currId : Nat) (acc : List Slim.Level),
    Slim.initLevels.walk s nt totalInner fuel currId acc = Slim.initLevels.walk s' nt totalInner fuel currId acc := by
  intro fuel
  induction fuel with
  | zero => intro _ _; rfl
  | succ fuel ih =>
    intro currId acc
    unfold Slim.initLevels.walk
    simp only [ithInnerFrom_congr s s' h3 h4 h5, h2, ih]

theorem initLevels_congr (s s' : SlimMsg) (h1 : s.nodeTypeBM = s'.nodeTypeBM) (h2 : s.inners = s'.inners)
    (h3 : s.shortBM = s'.shortBM) (h4 : s.bigInnerCnt = s'.bigInnerCnt) (h5 : s.shortSize = s'.shortSize) :
    Slim.initLevels s = Slim.initLevels s' := by
  unfold Slim.initLevels
  rw [h1]
  cases s'.nodeTypeBM with
  | none => rfl
  | some nt =>
    simp only [h2, initLevels_walk_congr s s' h2 h3 h4 h5]

theorem initLevels_wordSelectMsg (m : SlimMsg) (u : Bytes) :
    Slim.initLevels (wordSelectMsg m u) = Slim.initLevels m :=
  initLevels_congr _ _ rfl rfl rfl rfl rfl

end Wire

namespace LegacyWrite
open Legacy Refine

theorem encodeCreator_inners_isSome (t : Trie1) :
    ((Slim.encodeCreator t).nodeTypeBM.isNone && (Slim.encodeCreator t).inners.isNone &&
      (Slim.encodeCreator t).leaves.isNone) = false := by
  rw [enc_inners]; simp

theorem decodeSlim_to0510_encodeCreator {t : Trie1} (hs : ShapeOK t) (hsm : Small t)
    (hbody : BodyOK (to0510 (Slim.encodeCreator t))) :
    decodeSlim (to0510 (Slim.encodeCreator t))
      = .ok (oldMsg (Slim.encodeCreator t) (retired (Slim.encodeCreator t))) := by
  apply decodeSlim_to0510 _ (encodeCreator_WF hs hsm) rfl
  · rw [enc_shortSize]; have := eShortSize_le t; omega
  · exact encodeCreator_inners_isSome t
  · exact Wire.bodyOK_length_lt hbody

end LegacyWrite
