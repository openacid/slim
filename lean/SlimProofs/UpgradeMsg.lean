import SlimProofs.Legacy0510Wire
import SlimProofs.EncodeWF
/-
  SlimProofs.UpgradeMsg — the message a legacy 0.5.10 / 0.5.11 load leaves in memory
  (`Legacy.wordSelectMsg cur (retired cur)`: today's message with word-index select tables and the
  three retired scalar fields kept as unknown bytes) is a well-formed (`wordSelectMsg_WF`),
  normal-form (`wordSelectMsg_NF`) message; for a built trie, `loaded0510_WF_NF`.  WF and NF are
  the hypotheses of the Marshal/Unmarshal round trip in `SlimProps/C06Upgrade.lean`.  NF asks that
  the unknown bytes hold no field of the current schema: `unknownOnly_varintF` computes that for
  the retired fields 12, 13, 15 (`retired_unknownOnly`).
-/
open Wire Frame Version

namespace Wire

theorem unknownOnly_varintF (known : Nat → Nat → Bool) {fno v : Nat} (hf : FnoOK fno)
    (hv : v < 2 ^ 64) (hk : known fno 0 = false) (rest : Bytes) :
    unknownOnly known (encVarintF fno v ++ rest) = unknownOnly known rest := by
  unfold encVarintF
  by_cases hz : v = 0
  · simp [hz]
  · simp only [hz, if_false]
    rw [(isField_varint hf hv).unknownOnly_append, hk]
    rfl

end Wire

namespace LegacyWrite
open Legacy

theorem retired_unknownOnly (cur : SlimMsg) (hB : cur.bigInnerCnt < 2 ^ 31) (hss : cur.shortSize ≤ 64) :
    unknownOnly slimKnown (retired cur) = true := by
  obtain ⟨h12, h13, h15⟩ := retired_lt cur hB hss
  unfold retired
  rw [unknownOnly_varintF slimKnown (fno := 12) fnoOK h12 (by decide),
    unknownOnly_varintF slimKnown (fno := 13) fnoOK h13 (by decide)]
  have := unknownOnly_varintF slimKnown (fno := 15) fnoOK h15 (by decide) []
  rw [List.append_nil] at this
  rw [this, unknownOnly]

theorem wordSelectMsg_WF (cur : SlimMsg) (u : Bytes) (h : cur.WF) : (wordSelectMsg cur u).WF := by
  obtain ⟨h1, h2, h3, h4, h5, h6, h7, h8, h9⟩ := h
  exact ⟨h1, h2, h3, h4, h5, h6, map_some_of oldLeafPrefixes_WF h7,
    map_some_of oldLeafPrefixes_WF h8, h9⟩

theorem wordSelectMsg_NF (cur : SlimMsg) (u : Bytes) (h : unknownOnly slimKnown u = true) :
    (wordSelectMsg cur u).NF := h

theorem loaded0510_WF_NF {t : Trie1} (hs : ShapeOK t) (hsm : Refine.Small t) :
    (wordSelectMsg (Slim.encode t) (retired (Slim.encodeCreator t))).WF ∧
    (wordSelectMsg (Slim.encode t) (retired (Slim.encodeCreator t))).NF := by
  rw [Refine.encode_eq t (Nat.ne_of_gt hs.nonempty)]
  have hwf := Refine.encodeCreator_WF hs hsm
  refine ⟨wordSelectMsg_WF _ _ hwf, wordSelectMsg_NF _ _ ?_⟩
  apply retired_unknownOnly _ hwf.1
  rw [Refine.enc_shortSize]
  have := Refine.eShortSize_le t
  omega

end LegacyWrite

#print axioms LegacyWrite.retired_unknownOnly
#print axioms LegacyWrite.loaded0510_WF_NF
