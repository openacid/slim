import SlimProofs.Legacy0510Wire
import SlimProofs.LegacySelect
import SlimProofs.Refine
import SlimProofs.Transport
/-
  SlimProofs.Legacy0510View — C06, view half for 0.5.10 / 0.5.11 streams: the message the loader
  ends up with, `wordSelectMsg (Slim.encodeCreator t) u` (today's message except that the select
  tables of the two prefix position bitmaps hold word indexes, and the retired fields are kept as
  unknown bytes `u`), is read exactly like today's message (`getNode_wordSelect`), hence its view
  simulates the record-level view (`viewSim_loaded0510`).

  The loaded message is an instance of `Refine.ReadsAs`: every field but the two position bitmaps
  is the same field, and on those `select32R64` returns the element boundaries by
  `Legacy.select_positions_old`.
-/

namespace Legacy0510

open Bits Slim Refine Legacy LegacyWrite

section fields
variable (m : SlimMsg) (u : Bytes)

theorem ws_nodeTypeBM : (wordSelectMsg m u).nodeTypeBM = m.nodeTypeBM := rfl
theorem ws_inners : (wordSelectMsg m u).inners = m.inners := rfl
theorem ws_bigInnerCnt : (wordSelectMsg m u).bigInnerCnt = m.bigInnerCnt := rfl
theorem ws_leaves : (wordSelectMsg m u).leaves = m.leaves := rfl
theorem ws_innerFrom (i : Nat) : innerFrom (wordSelectMsg m u) i = innerFrom m i := rfl
theorem ws_innerPrefixes :
    (wordSelectMsg m u).innerPrefixes = m.innerPrefixes.map
      (fun ips => { ips with positionBM := ips.positionBM.map wordIndexSelect }) := rfl
theorem ws_leafPrefixes : (wordSelectMsg m u).leafPrefixes = m.leafPrefixes.map oldLeafPrefixes := rfl

end fields

theorem readsAs_wordSelect (t : Trie1) (u : Bytes) :
    ReadsAs t (wordSelectMsg (encodeCreator t) u) wordIndexSelect where
  nodeTypeBM := ws_nodeTypeBM _ u
  inners := ws_inners _ u
  bigInnerCnt := ws_bigInnerCnt _ u
  innerFrom := ws_innerFrom _ u
  innerPrefixes := by rw [ws_innerPrefixes, enc_innerPrefixes]; rfl
  leafPrefixes := by rw [ws_leafPrefixes, enc_leafPrefixes]; rfl
  select := select_positions_old

end Legacy0510

open Legacy0510 Legacy Refine in
theorem getNode_loaded0510 (t : Trie1) (hs : ShapeOK t) (u : Bytes) (id : Nat)
    (hid : id < t.nodes.size) :
    Slim.getNode (wordSelectMsg (Slim.encodeCreator t) u) id = .ok t.nodes[id] :=
  getNode_readsAs hs (readsAs_wordSelect t u) id hid

open Legacy Refine in
theorem getNode_wordSelect (t : Trie1) (hs : ShapeOK t) (u : Bytes) (id : Nat)
    (hid : id < t.nodes.size) :
    Slim.getNode (wordSelectMsg (Slim.encodeCreator t) u) id
      = Slim.getNode (Slim.encodeCreator t) id :=
  (getNode_loaded0510 t hs u id hid).trans (getNode_readsAs hs (.encodeCreator t) id hid).symm

namespace Legacy0510

open Slim Legacy LegacyWrite Transport

theorem view_wordSelect_leafBytes (m : SlimMsg) (u : Bytes) :
    (Slim.view (wordSelectMsg m u)).leafBytes = (Slim.view m).leafBytes := rfl

theorem view_wordSelect_isEmpty (m : SlimMsg) (u : Bytes) :
    (Slim.view (wordSelectMsg m u)).isEmpty = (Slim.view m).isEmpty := rfl

theorem view_wordSelect_nodeCnt (m : SlimMsg) (u : Bytes) :
    (Slim.view (wordSelectMsg m u)).nodeCnt = (Slim.view m).nodeCnt := rfl

theorem view_wordSelect_leafPrefixesOn (m : SlimMsg) (u : Bytes) :
    (Slim.view (wordSelectMsg m u)).leafPrefixesOn = (Slim.view m).leafPrefixesOn := by
  show (m.leafPrefixes.map oldLeafPrefixes).isSome = m.leafPrefixes.isSome
  cases m.leafPrefixes <;> rfl

theorem view_wordSelect_scanOK (m : SlimMsg) (u : Bytes) :
    (Slim.view (wordSelectMsg m u)).scanOK = (Slim.view m).scanOK := by
  simp only [Slim.view, ws_innerPrefixes, ws_leafPrefixes]
  cases m.innerPrefixes with
  | none => rfl
  | some ips =>
    cases m.leafPrefixes with
    | none => rfl
    | some lps =>
      simp only [Option.map_some]
      cases ips.positionBM <;> rfl

/-- `vlenGet` on the `Leaves` array: the loader leaves that array as today's writer makes it -/
theorem vlenGet_wordSelect (m : SlimMsg) (u : Bytes) (va : VLenArrayMsg)
    (h : m.leaves = some va) : (wordSelectMsg m u).leaves = some va := h

theorem initLevels_wordSelect (m : SlimMsg) (u : Bytes) :
    initLevels (wordSelectMsg m u) = initLevels m :=
  Wire.initLevels_wordSelectMsg m u

theorem stat_wordSelect (m : SlimMsg) (u : Bytes) (lv : List Level) :
    stat (wordSelectMsg m u) lv = stat m lv := rfl

theorem viewSim_wordSelect (t : Trie1) (u : Bytes)
    (hsim : ViewSim t.view (Slim.view (Slim.encode t)) t.nodes.size)
    (hs : t.nodes.size ≠ 0 → ShapeOK t) :
    ViewSim t.view (Slim.view (wordSelectMsg (Slim.encode t) u)) t.nodes.size where
  node := by
    intro id hid
    have hne : t.nodes.size ≠ 0 := by omega
    rw [← hsim.node id hid]
    show Slim.getNode (wordSelectMsg (Slim.encode t) u) id = Slim.getNode (Slim.encode t) id
    rw [Refine.encode_eq t hne]
    exact getNode_wordSelect t (hs hne) u id hid
  out := hsim.out
  leaf := hsim.leaf
  isEmpty := hsim.isEmpty
  lpOn := by
    intro h
    rw [view_wordSelect_leafPrefixesOn]; exact hsim.lpOn h
  scanOK := by
    intro h
    rw [view_wordSelect_scanOK]; exact hsim.scanOK h
  cnt := hsim.cnt

theorem viewSim_loaded0510 (t : Trie1) (hs : ShapeOK t) (hf : EncodeFacts t) (u : Bytes) :
    ViewSim t.view (Slim.view (wordSelectMsg (Slim.encodeCreator t) u)) t.nodes.size := by
  have hne : t.nodes.size ≠ 0 := by have := hs.nonempty; omega
  rw [← Refine.encode_eq t hne]
  exact viewSim_wordSelect t u (viewSim_encode t hf) (fun _ => hs)

end Legacy0510

#print axioms getNode_wordSelect
#print axioms getNode_loaded0510
#print axioms Legacy0510.viewSim_loaded0510
#print axioms Legacy0510.initLevels_wordSelect
