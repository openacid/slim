import SlimProofs.Refine.Inner
import SlimProofs.BuildShape
import SlimProofs.Transport
import SlimProofs.VLen
/-
  SlimProofs.Refine — the refinement theorem between the bit level (L2, `Slim.encode` read back
  by `Slim.getNode`) and the record level (L1, the node array of `Trie1`):

    `getNode_encode : ShapeOK t → id < t.nodes.size → Slim.getNode (Slim.encode t) id = .ok t.nodes[id]`

  plus the same through the two views (`view_encode_node`) and the node-count bound.  It is
  proved for every message that `ReadsAs` the trie (`getNode_readsAs`: the select tables of the
  prefix position bitmaps are free), of which `encodeCreator t` is one.
-/

namespace Refine

open Bits Slim

theorem enc_nodeTypeBM' (t : Trie1) (hne : 0 < t.nodes.size) :
    (encodeCreator t).nodeTypeBM = some (newBM (eInnerIdx t) t.nodes.size "r64") := by
  rw [enc_nodeTypeBM, if_neg (Nat.ne_of_gt hne)]

variable {t : Trie1} {s : SlimMsg} {f : BitmapMsg → BitmapMsg}

theorem getNode_readsAs_leaf (hs : ShapeOK t) (h : ReadsAs t s f) (id ith : Nat) (lp : Option Bytes)
    (hn : t.nodes[id]? = some (.leaf ith lp)) :
    getNode s id = .ok (.leaf ith lp) := by
  have hid : id < t.nodes.size := (Array.getElem?_eq_some_iff.mp hn).1
  have hq : id - (innersBefore t.nodes id).length = leavesBefore t.nodes id :=
    Nat.sub_eq_of_eq_add (leaves_add_inners t.nodes id (Nat.le_of_lt hid)).symm
  refine (getNode_ok_iff s id _).mpr ⟨_, _, false, h.nodeTypeBM.trans (enc_nodeTypeBM' t hs.nonempty),
    rank_nodeType t id _ hn, lp, ?_, ?_⟩
  · rw [hq]; exact getLeafPrefix_encode hs h id ith lp hn
  · rw [hq, hs.leafOrd id ith lp hn]

theorem prefBlock_encode (hs : ShapeOK t) (hsel : ∀ sizes : List Nat, (∀ z ∈ sizes, 0 < z) →
      SelectsBoundaries (f (newBM (stepToPos sizes) 0 "s32")) sizes)
    {m : Nat} {r : InnerRec} (hr : (eInners t)[m]? = some r) {ips : VLenArrayMsg}
    (h1 : ips.eltCnt = (eIps t).eltCnt) (h2 : ips.presenceBM = (eIps t).presenceBM)
    (h3 : ips.positionBM = (eIps t).positionBM.map f) (h4 : ips.bytes = (eIps t).bytes) :
    prefBlock ips m = .ok r.pref := by
  have hprefOK := rec_pref hs hr
  rw [prefBlock_of_rank (h2.trans (eIps_presenceBM t))
    (rank128_filter_range (eInners t) hasPref _ (prefIdx_hq t) m r hr)
    (fun hp => by rw [h1, eIps_eltCnt]; exact Nat.ne_of_gt (prefIdx_pos_of_hasPref t m r hr hp))]
  cases hpr : r.pref with
  | none => rw [show hasPref r = false by unfold hasPref; rw [hpr]]; rfl
  | stored ns =>
    rw [show hasPref r = true by unfold hasPref; rw [hpr]]
    rw [hpr] at hprefOK
    have hi := hprefOK.1
    have hk := getElem?_filterMap_take storedOf _ m r _ hr (by unfold storedOf; rw [hpr])
    rw [← countP_hasPref_stored hs hi m] at hk
    have hpos := h3.trans (congrArg (Option.map f) (eIps_positionBM_stored hi))
    have hne : (bitstrOf ns).isEmpty = false := List.isEmpty_eq_false_iff.mpr (bitstrOf_ne_nil ns)
    have htail := vlenTail_packed (eStoredPs t) (h4.trans (eIps_bytes_stored hi))
      (Or.inl ⟨_, hpos, hsel _ (eStoredPs_pos t)⟩) hk
    rw [hpos]
    simp only [if_true, Option.map_some, htail, bind, Except.bind, hne,
      bitstrNibs_bitstrOf ns hprefOK.2.2]
    rfl
  | step n =>
    rw [show hasPref r = true by unfold hasPref; rw [hpr]]
    rw [hpr] at hprefOK
    have hk : ((eInners t).filterMap stepOf)[(((eInners t).take m).filterMap stepOf).length]?
        = some [UInt8.ofNat (n / 256), UInt8.ofNat (n % 256)] :=
      getElem?_filterMap_take stepOf _ m r _ hr (by unfold stepOf; rw [hpr]; rfl)
    rw [← countP_hasPref_step hs hprefOK.1 m] at hk
    obtain ⟨hy0, hy1⟩ := flatten_pair_getElem? _ stepOf_length _ _ _ hk
    rw [← eIps_bytes_step hprefOK.1, ← h4] at hy0 hy1
    rw [h3.trans (congrArg (Option.map f) (eIps_positionBM_step hprefOK.1))]
    simp only [if_true, Option.map_none, hy0, hy1, decStep_encStep n hprefOK.2.2]
    rfl

theorem getNode_readsAs_inner (hs : ShapeOK t) (h : ReadsAs t s f) (id : Nat) (r : InnerRec)
    (hn : t.nodes[id]? = some (.inner r)) :
    getNode s id = .ok (.inner r) := by
  have hrank := rank_nodeType t id _ hn
  have hr := inner_index t id r hn
  generalize hm : (innersBefore t.nodes id).length = m at hrank hr
  obtain ⟨b0, hfc⟩ := rank128_encode hs m r hr
  obtain ⟨size, short, hfrom, hlab⟩ := labels_encode hs m r hr
  have hinner : innerNode s m = .ok (.inner r) := by
    refine (innerNode_ok_iff s m _).mpr ⟨_, _, _, _, _, b0, _, _,
      (h.innerFrom m).trans hfrom, h.inners.trans (enc_inners t), hfc,
      h.innerPrefixes, prefBlock_encode hs h.select hr rfl rfl rfl rfl, ?_⟩
    -- the record, reassembled.  The one field that is not read off the message is `firstChild`: the
    -- reader computes 1 + the labels of the earlier inner nodes (`rank128_encode`), which is what
    -- the BFS numbering law `hs.firstChild` says the record holds.
    have hbig : decide (m < s.bigInnerCnt) = r.big := by
      rw [h.bigInnerCnt, enc_bigInnerCnt, Bool.eq_iff_iff, decide_eq_true_iff]
      exact (rec_big hs hr).symm
    rw [hlab, hbig, Nat.add_comm, ← hm, ← innersBefore_eq_take t id,
      ← hs.firstChild id r hn]
  exact (getNode_ok_iff s id _).mpr
    ⟨_, m, true, h.nodeTypeBM.trans (enc_nodeTypeBM' t hs.nonempty), hrank, hinner⟩

theorem getNode_readsAs (hs : ShapeOK t) (h : ReadsAs t s f) (id : Nat) (hid : id < t.nodes.size) :
    getNode s id = .ok t.nodes[id] := by
  have hn : t.nodes[id]? = some t.nodes[id] := Array.getElem?_eq_getElem hid
  generalize t.nodes[id] = n at hn
  cases n with
  | inner r => exact getNode_readsAs_inner hs h id r hn
  | leaf ith lp => exact getNode_readsAs_leaf hs h id ith lp hn

end Refine

open Refine in
theorem getNode_encode (t : Trie1) (h : ShapeOK t) (id : Nat) (hid : id < t.nodes.size) :
    Slim.getNode (Slim.encode t) id = .ok t.nodes[id] := by
  rw [encode_eq t (Nat.ne_of_gt h.nonempty)]
  exact getNode_readsAs h (.encodeCreator t) id hid

theorem view_encode_node (t : Trie1) (h : ShapeOK t) (id : Nat) (hid : id < t.nodes.size) :
    (Slim.view (Slim.encode t)).node id = t.view.node id := by
  show Slim.getNode (Slim.encode t) id = _
  rw [getNode_encode t h id hid]
  simp [Trie1.view, Array.getElem?_eq_getElem hid]

/-- the fuel of every descent on the bit level covers all nodes -/
theorem view_encode_nodeCnt (t : Trie1) (h : ShapeOK t) :
    t.nodes.size ≤ (Slim.view (Slim.encode t)).nodeCnt := by
  have hne : t.nodes.size ≠ 0 := Nat.ne_of_gt h.nonempty
  rw [Refine.encode_eq t hne]
  simp only [Slim.view, Slim.nodeCount, Refine.enc_nodeTypeBM' t h.nonempty, Bits.newBM_words]
  rw [Nat.mul_comm]
  exact Bits.capa_le_ofIdx_length (Refine.eInnerIdx t) t.nodes.size

/-- everything a query on the bit-level view can observe agrees with the record-level view
    (leaf values excepted: for `leafBytes` see `leafBytes_encode` in `VLen.lean`) -/
theorem view_encode_refines (t : Trie1) (h : ShapeOK t) :
    (∀ id, id < t.nodes.size → (Slim.view (Slim.encode t)).node id = t.view.node id)
    ∧ (Slim.view (Slim.encode t)).isEmpty = t.view.isEmpty
    ∧ (Slim.view (Slim.encode t)).leafPrefixesOn = t.view.leafPrefixesOn
    ∧ (Slim.view (Slim.encode t)).scanOK = t.view.scanOK
    ∧ t.view.nodeCnt ≤ (Slim.view (Slim.encode t)).nodeCnt := by
  have hne : t.nodes.size ≠ 0 := Nat.ne_of_gt h.nonempty
  exact ⟨view_encode_node t h, Refine.view_encode_isEmpty t, Refine.view_encode_leafPrefixesOn t hne,
    Refine.view_encode_scanOK t hne, view_encode_nodeCnt t h⟩

theorem getNode_encode_build (keys : List Bytes) (vals : Option (List Bytes)) (opt : Opt) (t : Trie1)
    (hb : build keys vals opt = .ok t) (hne : keys ≠ []) (id : Nat) (hid : id < t.nodes.size) :
    Slim.getNode (Slim.encode t) id = .ok t.nodes[id] :=
  getNode_encode t (build_shape keys vals opt t hb hne) id hid

/-! ### non-vacuity: a concrete trie satisfying `ShapeOK` -/

namespace Refine

def exT : Trie1 :=
  { opt := { dedup := true, inner := true, leaf := true }
    nodes := #[.inner { big := false, labels := [2, 3], firstChild := 1, pref := .stored [6] },
               .leaf 0 none, .leaf 1 (some [0x63])]
    bigCnt := 0, leafKeyIdx := #[0, 1], elts := none }

theorem exT_inner {j : Nat} {r : InnerRec} (h : exT.nodes[j]? = some (.inner r)) :
    j = 0 ∧ r = { big := false, labels := [2, 3], firstChild := 1, pref := .stored [6] } := by
  rcases j with _ | _ | _ | j
  · exact ⟨rfl, (Node.inner.inj (Option.some.inj h)).symm⟩
  · cases h
  · cases h
  · cases h

theorem exT_leaf {j ith : Nat} {lp : Option Bytes} (h : exT.nodes[j]? = some (.leaf ith lp)) :
    (j = 1 ∧ ith = 0 ∧ lp = none) ∨ (j = 2 ∧ ith = 1 ∧ lp = some [0x63]) := by
  rcases j with _ | _ | _ | j
  · cases h
  · cases h; exact Or.inl ⟨rfl, rfl, rfl⟩
  · cases h; exact Or.inr ⟨rfl, rfl, rfl⟩
  · cases h

theorem exT_shape : ShapeOK exT := by
  constructor
  · decide
  · intro j r h
    obtain ⟨rfl, rfl⟩ := exT_inner h; rfl
  · rfl
  · intro j ith lp h
    rcases exT_leaf h with ⟨rfl, rfl, _⟩ | ⟨rfl, rfl, _⟩ <;> rfl
  · intro j r h
    obtain ⟨rfl, rfl⟩ := exT_inner h
    exact ⟨by decide, by decide, by decide⟩
  · intro j r h
    obtain ⟨rfl, rfl⟩ := exT_inner h; decide
  · intro j r h
    obtain ⟨rfl, rfl⟩ := exT_inner h
    exact ⟨rfl, by decide, by decide⟩
  · intro j ith b h
    rcases exT_leaf h with ⟨_, _, h⟩ | ⟨_, _, h⟩
    · cases h
    · cases h; exact ⟨rfl, by decide⟩
  · rfl
  · intro es h; cases h

example : Slim.getNode (Slim.encode exT) 0
    = .ok (.inner { big := false, labels := [2, 3], firstChild := 1, pref := .stored [6] }) :=
  getNode_encode exT exT_shape 0 (by decide)
example : Slim.getNode (Slim.encode exT) 2 = .ok (.leaf 1 (some [0x63])) :=
  getNode_encode exT exT_shape 2 (by decide)

end Refine

theorem Transport.encodeFacts_of_shape (t : Trie1) (hs : ShapeOK t) : Transport.EncodeFacts t :=
  have hn : t.nodes.size ≠ 0 := Nat.ne_of_gt hs.nonempty
  { node := fun id hid => getNode_encode t hs id hid
    leaf := fun ith r h => by rw [Slim.leafBytes_encode t hn ith]; exact h
    cnt := view_encode_nodeCnt t hs }

#print axioms getNode_encode
#print axioms view_encode_node
#print axioms view_encode_nodeCnt
#print axioms view_encode_refines
#print axioms getNode_encode_build
