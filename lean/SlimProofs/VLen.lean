import SlimModel.Slim
import SlimProofs.Refine.Prefix
/-
  SlimProofs.VLen — leaf values at the bit level: `Slim.vlenGet` (Go `VLenArray.get`) on the
  message that `Slim.newVLenArray` (Go `newVLenArray`) builds returns exactly the supplied element,
  for every element list (no size bound), in both layouts:

  The array stores the non-empty elements `ps = elts.filter present`: their concatenation, a
  presence bitmap over all elements, and either the common width of `ps` (fixed layout) or the
  position bitmap of their sizes (variable layout; `Bits.positions_filter`: the zeros of the size
  list do not show in it).  `vlenGet` is "rank in the presence bitmap, then `vlenTail` at that rank"
  (`vlenGet_of_rank`), and `vlenTail` at rank `k` returns `ps[k]` in both layouts
  (`vlenTail_packed`, shared with the two prefix arrays of the message).

  Main results: `vlenGet_newVLenArray`, `newVLenArray_none_iff`, `vlenGet_out_of_range`,
  `leafBytes_encode` (the L2 view reads the same leaf bytes as the L1 view).
-/
namespace Slim
open Bits

theorem sum_length_eq_zero_iff (elts : List Bytes) :
    (elts.map List.length).sum = 0 ↔ ∀ e ∈ elts, e = [] := by
  show eltsTotal elts = 0 ↔ _
  rw [eltsTotal_eq_zero_iff, List.all_eq_true]
  simp only [List.isEmpty_iff]

def nonEmptyIdx (elts : List Bytes) : List Nat :=
  (List.range elts.length).filter (fun i => ((elts.map List.length).getD i 0) > 0)

theorem all_eq_of_allEqual (l : List Nat) (z : Nat) (zs : List Nat) (hl : l = z :: zs)
    (h : zs.all (· == z) = true) : (∀ s ∈ l, s = z) ∧ l.getLast?.getD 0 = z := by
  subst hl
  have hall : ∀ s ∈ z :: zs, s = z := by
    intro s hs
    rcases List.mem_cons.mp hs with rfl | hs
    · rfl
    · have := List.all_eq_true.mp h s hs
      simpa using this
  refine ⟨hall, ?_⟩
  have hne : z :: zs ≠ [] := by simp
  rw [List.getLast?_eq_some_getLast hne]
  exact hall _ (List.getLast_mem hne)

def allEqual (l : List Nat) : Bool :=
  match l with
  | [] => true
  | z :: zs => zs.all (· == z)

theorem newVLenArray_eq (elts : List Bytes) :
    newVLenArray elts =
      if (elts.map List.length).sum = 0 then none else
      if allEqual ((elts.map List.length).filter (· > 0)) then
        some { n := elts.length, eltCnt := (nonEmptyIdx elts).length, bytes := elts.flatten,
               presenceBM := some (newBM (nonEmptyIdx elts) elts.length "r64"),
               fixedSize := ((elts.map List.length).filter (· > 0)).getLast?.getD 0 }
      else
        some { n := elts.length, eltCnt := (nonEmptyIdx elts).length, bytes := elts.flatten,
               presenceBM := some (newBM (nonEmptyIdx elts) elts.length "r64"),
               positionBM := some (newBM (stepToPos (elts.map List.length)) 0 "s32") } := rfl

/-- the elements a `VLenArrayMsg` stores: the non-empty ones -/
def present (e : Bytes) : Bool := decide (e.length > 0)

theorem flatten_present (elts : List Bytes) : (elts.filter present).flatten = elts.flatten := by
  rw [List.filter_congr (fun e _ => show present e = !e.isEmpty by cases e <;> rfl),
    List.flatten_filter_not_isEmpty]

/-- the fields of the array, its layout in terms of the elements it stores -/
theorem newVLenArray_fields (elts : List Bytes) (va : VLenArrayMsg)
    (h : newVLenArray elts = some va) :
    (elts.map List.length).sum ≠ 0 ∧
    va.n = elts.length ∧ va.bytes = elts.flatten ∧
    va.presenceBM = some (newBM (nonEmptyIdx elts) elts.length "r64") ∧
    ((∃ pos, va.positionBM = some pos ∧ SelectsBoundaries pos ((elts.filter present).map List.length)) ∨
     (va.positionBM = none ∧ ∀ p ∈ elts.filter present, p.length = va.fixedSize)) := by
  have hps : (elts.map List.length).filter (· > 0) = (elts.filter present).map List.length :=
    List.filter_map
  rw [newVLenArray_eq] at h
  by_cases htot : (elts.map List.length).sum = 0
  · rw [if_pos htot] at h; cases h
  · rw [if_neg htot] at h
    refine ⟨htot, ?_⟩
    by_cases hall : allEqual ((elts.map List.length).filter (· > 0)) = true
    · rw [if_pos hall] at h
      cases h
      refine ⟨rfl, rfl, rfl, Or.inr ⟨rfl, ?_⟩⟩
      simp only
      intro p hp
      have hmem : p.length ∈ (elts.map List.length).filter (· > 0) :=
        hps ▸ List.mem_map.mpr ⟨p, hp, rfl⟩
      cases hl : (elts.map List.length).filter (· > 0) with
      | nil => rw [hl] at hmem; cases hmem
      | cons z zs =>
        rw [hl] at hall hmem
        obtain ⟨h1, h2⟩ := all_eq_of_allEqual _ z zs rfl hall
        rw [h2]; exact h1 _ hmem
    · rw [if_neg hall] at h
      cases h
      refine ⟨rfl, rfl, rfl, Or.inl ⟨_, rfl, ?_⟩⟩
      rw [positions_filter, hps]
      exact select32R64_positions_pos _ fun z hz => by
        obtain ⟨e, he, rfl⟩ := List.mem_map.mp hz
        exact of_decide_eq_true (List.mem_filter.mp he).2

theorem newVLenArray_none_iff (elts : List Bytes) :
    newVLenArray elts = none ↔ ∀ e ∈ elts, e = [] := by
  rw [← sum_length_eq_zero_iff, newVLenArray_eq]
  constructor
  · intro h
    by_cases htot : (elts.map List.length).sum = 0
    · exact htot
    · rw [if_neg htot] at h
      split at h <;> cases h
  · intro h; rw [if_pos h]

theorem newVLenArray_isSome {elts : List Bytes} {w i : Nat} (hw : 0 < w)
    (hwidth : ∀ e ∈ elts, e.length = w) (hi : i < elts.length) :
    ∃ va, newVLenArray elts = some va := by
  cases hva : newVLenArray elts with
  | some va => exact ⟨va, rfl⟩
  | none =>
    have hlen := hwidth _ (List.getElem_mem hi)
    rw [(newVLenArray_none_iff elts).mp hva _ (List.getElem_mem hi)] at hlen
    exact absurd hlen (Nat.ne_of_lt hw)

/-- the predicate of `nonEmptyIdx` reads `present` off the element list: the hypothesis `hq` of the
    `PositionsOf` lemmas (`Refine/ListAux`) for the presence bitmap -/
theorem nonEmptyIdx_hq (elts : List Bytes) : ∀ (i : Nat) (a : Bytes), elts[i]? = some a →
    decide ((elts.map List.length).getD i 0 > 0) = present a := by
  intro i a h
  rw [List.getD_eq_getElem?_getD, List.getElem?_map, h]
  rfl

theorem vlenGet_newVLenArray (elts : List Bytes) (va : VLenArrayMsg)
    (h : newVLenArray elts = some va) (i : Nat) (hi : i < elts.length) :
    vlenGet va i = .ok (elts.getD i []) := by
  obtain ⟨_, hn, hbytes, hpres, hlayout⟩ := newVLenArray_fields elts va h
  have hk : elts[i]? = some elts[i] := List.getElem?_eq_getElem hi
  rw [vlenGet_of_rank (hn ▸ hi) hpres
      (Refine.rank64_filter_range elts present _ (nonEmptyIdx_hq elts) i _ hk),
    List.getD_eq_getElem?_getD, hk, Option.getD_some]
  cases hp : present elts[i] with
  | false =>
    have : elts[i].length = 0 := by simpa [present] using hp
    rw [List.length_eq_zero_iff.mp this]
    rfl
  | true =>
    -- the stored elements are the present ones; element `i` is the one at its rank among them
    exact vlenTail_packed (elts.filter present) (hbytes.trans (flatten_present elts).symm) hlayout
      (Refine.getElem?_filter_take present elts i _ hk hp)

theorem vlenGet_of_ge (va : VLenArrayMsg) (i : Nat) (hi : i ≥ va.n) :
    vlenGet va i = .error (.panic "out of bound") := by
  unfold vlenGet
  rw [if_pos hi]
  rfl

theorem vlenGet_out_of_range (elts : List Bytes) (va : VLenArrayMsg)
    (h : newVLenArray elts = some va) (i : Nat) (hi : i ≥ elts.length) :
    ∃ msg, vlenGet va i = .error (.panic msg) :=
  ⟨_, vlenGet_of_ge va i (by rw [(newVLenArray_fields elts va h).2.1]; exact hi)⟩

theorem encodeCreator_leaves (t : Trie1) :
    (encodeCreator t).leaves = match t.elts with
      | some es => newVLenArray es
      | none => none := by
  unfold encodeCreator
  simp only
  cases t.elts <;> rfl

theorem encode_leaves (t : Trie1) (hn : t.nodes.size ≠ 0) :
    (encode t).leaves = match t.elts with
      | some es => newVLenArray es
      | none => none := by
  unfold encode
  rw [if_neg hn, encodeCreator_leaves]

/-- The L2 view (decoding the `Slim` message) reads the same leaf bytes as the L1 view, at every
    leaf ordinal (in range: the element; out of range: the same panic; all elements empty or no
    values: `nil`). -/
theorem leafBytes_encode (t : Trie1) (hn : t.nodes.size ≠ 0) (ith : Nat) :
    (view (encode t)).leafBytes ith = t.view.leafBytes ith := by
  simp only [view, Trie1.view, encode_leaves t hn]
  cases he : t.elts with
  | none => rfl
  | some es =>
    simp only
    cases hva : newVLenArray es with
    | none =>
      have h0 : eltsTotal es = 0 :=
        (sum_length_eq_zero_iff es).mpr ((newVLenArray_none_iff es).mp hva)
      simp [h0]
    | some va =>
      obtain ⟨h0, hn, -⟩ := newVLenArray_fields es va hva
      simp only [show ¬ eltsTotal es = 0 from h0, if_false]
      rcases Nat.lt_or_ge ith es.length with hi | hi
      · rw [vlenGet_newVLenArray es va hva ith hi, List.getElem?_eq_getElem hi,
          List.getD_eq_getElem?_getD, List.getElem?_eq_getElem hi]
        rfl
      · rw [List.getElem?_eq_none hi, vlenGet_of_ge va ith (by rw [hn]; exact hi)]
        rfl

theorem leafBytes_encode_none (t : Trie1) (he : t.elts = none) (ith : Nat) :
    (view (encode t)).leafBytes ith = .ok none ∧ t.view.leafBytes ith = .ok none := by
  constructor
  · unfold encode
    split
    · rfl
    · simp only [view, encodeCreator_leaves, he]
  · simp only [Trie1.view, he]

/-! ### a concrete instance -/

/-- variable layout (sizes 2, 0, 1), an empty element in the middle -/
example : ∃ va, newVLenArray [[1, 2], [], [3]] = some va ∧ va.positionBM.isSome = true ∧
    vlenGet va 2 = .ok [3] ∧ vlenGet va 1 = .ok [] := by
  cases h : newVLenArray [[1, 2], [], [3]] with
  | none => exact absurd ((newVLenArray_none_iff _).mp h [3] (by simp)) (by simp)
  | some va =>
    refine ⟨va, rfl, ?_, vlenGet_newVLenArray _ va h 2 (by decide), vlenGet_newVLenArray _ va h 1 (by decide)⟩
    rw [newVLenArray_eq] at h
    have : allEqual (([[1, 2], [], [3]] : List Bytes).map List.length |>.filter (· > 0)) = false := by decide
    simp only [this] at h
    rw [if_neg (by decide)] at h
    cases h; rfl

end Slim
