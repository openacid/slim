import SlimProofs.ArrayPkg
/-
  SlimProofs.ArrayPkgGet — the accessors of package array on the fields that `Init` builds (C16).
-/
namespace ArrayPkg
open Encode

/-- The message fields `m` are what `Init` builds from the positions `idx` and the encoded
    elements `chunks`, each `w` bytes wide. -/
structure Holds (m : Array32) (idx : List Nat) (chunks : List Bytes) (w : Nat) : Prop where
  asc : StrictAsc idx
  bm : IsBitmapOf idx m.bitmaps
  off : m.offsets = zeroEmpty m.bitmaps (indexRank64 m.bitmaps)
  elts : m.elts = chunks.flatten
  len : chunks.length = idx.length
  width : ∀ c ∈ chunks, c.length = w
  cnt : idx.length < 2147483648
  size : idx.length * w < 2147483648

theorem getI_natCast {α : Type} (l : List α) (k : Nat) (x : α) (h : l[k]? = some x) :
    getI l (k : Int) = .ok x := by
  unfold getI
  have : ¬ ((k : Int) < 0) := by omega
  rw [if_neg this]
  simp [h]

theorem shift_test (n b : Nat) : ((n >>> b) % 2 = 0) ↔ n.testBit b = false := by
  rw [Nat.testBit_eq_decide_div_mod_eq, Nat.shiftRight_eq_div_pow]
  have := Nat.mod_two_eq_zero_or_one (n / 2 ^ b)
  constructor
  · intro h; simp [h]
  · intro h
    rcases this with h' | h'
    · exact h'
    · simp [h'] at h

theorem Holds.position {m : Array32} {idx : List Nat} {chunks : List Bytes} {w : Nat}
    (H : Holds m idx chunks w) (i : Nat) (hi : i < 64 * m.bitmaps.length) (hmem : i ∈ idx) :
    ∃ off : Nat, m.offsets[i / 64]? = some (off : Int) ∧
      off + popcount (m.bitmaps.getD (i / 64) 0 % 2 ^ (i % 64)) = rankBelow idx i := by
  have hk : i / 64 < m.bitmaps.length := Nat.div_lt_of_lt_mul hi
  have hne : m.bitmaps.getD (i / 64) 0 ≠ 0 := by
    intro h0
    have := H.bm.testBit i hi
    rw [h0, Nat.zero_testBit] at this
    simp [hmem] at this
  refine ⟨rankBelow idx (64 * (i / 64)), ?_, ?_⟩
  · rw [H.off, offsets_getElem? H.bm H.asc H.cnt _ hk, if_neg hne]
  · rw [H.bm.rankBelow H.asc _ (Nat.mul_le_mul_left 64 (Nat.le_of_lt hk)), H.bm.rankBelow H.asc _ (Nat.le_of_lt hi), popcount_eq_bits]
    exact (Bits.cnt_getBit_split _ i).symm

/-- What an accessor finds at a listed position `i`: the offset entry of its word, the number `p`
    of the element (entry plus the ones below the bit), and the bytes of element `p` inside `Elts`,
    with everything the int32 arithmetic needs: the bytes end inside a buffer shorter than 2^31. -/
theorem Holds.listed {a : Base} {idx : List Nat} {chunks : List Bytes} {w : Nat}
    (H : Holds a.toArray32 idx chunks w) (i : Nat) (hi : i < 64 * a.bitmaps.length) (hmem : i ∈ idx) :
    ∃ off p : Nat, a.offsets[i / 64]? = some (off : Int) ∧
      off + popcount (a.bitmaps.getD (i / 64) 0 % 2 ^ (i % 64)) = p ∧
      p * w + w ≤ a.elts.length ∧ a.elts.length < 2147483648 ∧ p < 2147483648 ∧
      lookup idx chunks i = some ((a.elts.drop (p * w)).take w) := by
  obtain ⟨off, hoff, hpos⟩ := H.position i hi hmem
  obtain ⟨hp, hl⟩ := lookup_eq_getElem idx chunks i H.asc H.len.symm hmem
  obtain ⟨h1, h2⟩ := flatten_chunks chunks w H.width
  have hle := Nat.mul_le_mul_right w (Nat.succ_le_of_lt hp)
  rw [Nat.succ_mul] at hle
  refine ⟨off, _, hoff, hpos, ?_, ?_, Nat.lt_trans hp (H.len ▸ H.cnt), ?_⟩
  · rw [H.elts, h1]; exact hle
  · rw [H.elts, h1, H.len]; exact H.size
  · rw [H.elts, h2 _ hp, hl]

/-- With the bytes of element `p` ending inside `L < 2^31`, the int32 computations of both
    accessors (`stIdx` in array/int.go; the rank, `eltsize * r` and `+ eltsize` of `GetBytes`)
    are exact. -/
theorem nowrap {off c w p L : Nat} (h1 : off + c = p) (h2 : p * w + w ≤ L) (h3 : L < 2147483648)
    (hp : p < 2147483648) :
    wrap32 (wrap32 ((off : Int) * (w : Int)) + wrap32 ((c : Int) * (w : Int))) = ((p * w : Nat) : Int) ∧
    wrap32 ((off : Int) + (c : Int)) = (p : Int) ∧ wrap32 (w : Int) = (w : Int) ∧
    wrap32 ((w : Int) * (p : Int)) = ((p * w : Nat) : Int) ∧
    wrap32 (((p * w : Nat) : Int) + (w : Int)) = ((p * w + w : Nat) : Int) := by
  subst h1
  rw [Int.mul_comm (w : Int), ← Int.natCast_mul, ← Int.natCast_mul, ← Int.natCast_mul,
    ← Int.natCast_add, ← Int.natCast_add]
  rw [Nat.add_mul] at h2 ⊢
  generalize off * w = A at *
  generalize c * w = B at *
  refine ⟨?_, wrap32_nat hp, wrap32_nat (by omega), wrap32_nat (by omega), wrap32_nat (by omega)⟩
  rw [wrap32_nat (by omega : A < _), wrap32_nat (by omega : B < _), ← Int.natCast_add,
    wrap32_nat (by omega)]

/-- Inside the bitmap the word of position `i` and its offset entry are there (`GetBytes` reads
    both before it tests the bit), and the accessors' bit test `(word >> (i & 63)) & 1` tells
    whether `i` is listed. -/
theorem Holds.word {a : Base} {idx : List Nat} {chunks : List Bytes} {w : Nat}
    (H : Holds a.toArray32 idx chunks w) (i : Nat) (hi : i < 64 * a.bitmaps.length) :
    a.bitmaps[i / 64]? = some (a.bitmaps.getD (i / 64) 0) ∧
      ((a.bitmaps.getD (i / 64) 0 >>> (i % 64)) % 2 = 0 ↔ i ∉ idx) ∧
      ∃ o : Int, a.offsets[i / 64]? = some o := by
  have hk : i / 64 < a.bitmaps.length := Nat.div_lt_of_lt_mul hi
  refine ⟨by simp [List.getD_eq_getElem?_getD, List.getElem?_eq_getElem hk], ?_, ?_⟩
  · rw [shift_test, H.bm.testBit i hi]
    simp
  · rw [H.off, offsets_getElem? H.bm H.asc H.cnt _ hk]
    exact ⟨_, rfl⟩

theorem start_ok (P w L : Nat) (h : P + w ≤ L) : ¬ ((P : Int) < 0 ∨ (P : Int) > (L : Int)) := by
  omega

/-- Typed accessors (array/int.go): the raw element bytes of a listed position, `none` elsewhere. -/
theorem Holds.typedGetBytes {a : Base} {idx : List Nat} {chunks : List Bytes} {w : Nat}
    (H : Holds a.toArray32 idx chunks w) (i : Nat) (hi : i < 64 * a.bitmaps.length) :
    a.typedGetBytes w (i : Int) = .ok (lookup idx chunks i) := by
  obtain ⟨hw, hbit, -⟩ := H.word i hi
  unfold Base.typedGetBytes
  simp only [div64_natCast, mod64_toNat, getI_natCast _ _ _ hw, bind, Except.bind]
  by_cases hmem : i ∈ idx
  · rw [if_neg fun h => hbit.mp h hmem]
    obtain ⟨off, p, hoff, hpos, hfit, hL, hp, hl⟩ := H.listed i hi hmem
    simp only [getI_natCast _ _ _ hoff]
    have hlen : ¬ (a.elts.drop (p * w)).length < w := by rw [List.length_drop]; omega
    rw [(nowrap hpos hfit hL hp).1, if_neg (start_ok _ w _ hfit), Int.toNat_natCast, if_neg hlen, hl]
    rfl
  · rw [if_pos (hbit.mpr hmem), lookup_none_of_not_mem idx chunks i hmem]
    rfl

theorem slice_ok (P w L : Nat) (h : P + w ≤ L) :
    ¬ ((P : Int) < 0 ∨ ((P + w : Nat) : Int) < (P : Int) ∨ ((P + w : Nat) : Int) > (L : Int)) := by
  omega

theorem sub_toNat (P w : Nat) : (((P + w : Nat) : Int) - (P : Int)).toNat = w := by omega

/-- `Base.GetBytes` (through `bitmap.Rank64`): the same bytes. -/
theorem Holds.getBytes {a : Base} {idx : List Nat} {chunks : List Bytes} {w : Nat}
    (H : Holds a.toArray32 idx chunks w) (i : Nat) (hi : i < 64 * a.bitmaps.length) :
    a.getBytes (i : Int) w = .ok (lookup idx chunks i) := by
  obtain ⟨hw, hbit, o, ho⟩ := H.word i hi
  unfold Base.getBytes
  simp only [div64_natCast, mod64_toNat, getI_natCast _ _ _ hw, getI_natCast _ _ _ ho, bind, Except.bind]
  by_cases hmem : i ∈ idx
  · rw [if_neg fun h => hbit.mp h hmem]
    obtain ⟨off, p, hoff, hpos, hfit, hL, hp, hl⟩ := H.listed i hi hmem
    cases Option.some.inj (ho.symm.trans hoff)
    obtain ⟨-, r1, r2, r3, r4⟩ := nowrap hpos hfit hL hp
    rw [r1, r2, r3, r4, if_neg (slice_ok _ w _ hfit), Int.toNat_natCast, sub_toNat, hl]
    rfl
  · rw [if_pos (hbit.mpr hmem), lookup_none_of_not_mem idx chunks i hmem]
    rfl

end ArrayPkg
