import SlimProofs.SizeFields
/-
  SlimProofs.SizeBound — the serialized size of the message in its counters (`size_le`: scalars,
  three bitmaps and the table; the three arrays by `sizeMsgF_vlen_le`), for every mode.
  C17: the serialized size of a filter-mode trie is at most
  `8·L + 256` bytes, `L` = number of leaves, given the shape invariant and `SizeLabels.LabelsOK` of
  every record ("every inner node has at least 2 labels, every 257-bit node at least 11").
-/

namespace SizeBound

open Bits Slim Refine Wire SizeV SizeShort SizeFields

theorem sum_eSubs_length {t : Trie1} (hs : ShapeOK t) : ((eSubs t).map List.length).sum = labelSum t := by
  rw [eSubs_lengths hs]; rfl

/-- the label bitmap: `B` bits, one set bit for each of the `Λ` labels -/
theorem sizeMsgF_inners_le {t : Trie1} (hs : ShapeOK t) (hB : labelBits t < 2 ^ 36)
    (hΛ : labelSum t < 2 ^ 35) :
    sizeMsgF 30 (some (protoSizeBitmap (eInnersBM t))) ≤ 41 + labelBits t / 4 :=
  sizeMsgF_mk_le 30 _ "r128" (Or.inr rfl) _ (by decide) (ofMany_lt _ _)
    (by rw [Bits.cnt_ofMany (eSub_ok hs), sum_eSubs_length hs]; exact hΛ)
    (ofMany_length (eSub_ok hs)) hB

/-- `ShortTable`: entries are 17-bit label sets -/
theorem sizePackedF_eTbl_le {t : Trie1} (hs : ShapeOK t) (hT : (eTbl t).length < 2 ^ 32) :
    sizePackedF 32 (eTbl t) ≤ 7 + 3 * (eTbl t).length := by
  have := sizePackedF_le 32 (eTbl t) (sizeVarint_le2 (by decide))
    (fun x hx => sizeVarint_le3 (Nat.lt_of_lt_of_le ((eTbl_spec hs).2 x hx) (by decide)))
    (Nat.le_refl _) (sizeVarint_le5 (by omega))
  omega

/-- fields 38, 58 and 60 -/
def arrays (t : Trie1) : Nat :=
  sizeMsgF 38 (some (protoSizeVLenArray (eIps t))) + (sizeMsgF 58 ((eLps t).map protoSizeVLenArray)
    + sizeMsgF 60 ((encodeCreator t).leaves.map protoSizeVLenArray))

theorem protoSizeSlim_enc (t : Trie1) :
    protoSizeSlim (encodeCreator t)
      = sizeVarintF 11 t.bigCnt + (sizeVarintF 14 (eShortSize t)
        + (sizeMsgF 20 ((encodeCreator t).nodeTypeBM.map protoSizeBitmap)
        + (sizeMsgF 30 (some (protoSizeBitmap (eInnersBM t)))
        + (sizeMsgF 31 (some (protoSizeBitmap (newBM (eShortIndex t) (eInners t).length "r64")))
        + (sizePackedF 32 (eTbl t) + arrays t))))) := by
  unfold protoSizeSlim arrays
  simp only [enc_bigInnerCnt, enc_shortSize, enc_inners, enc_shortBM, enc_shortTable,
    enc_innerPrefixes, enc_leafPrefixes, encodeCreator_unrecognized, Option.map_some,
    List.length_nil, Nat.add_zero]

/-- `F1 … F6`: the two scalars, the three bitmaps and the table; `A`: the arrays -/
theorem fixed_le {F1 F2 F3 F4 F5 F6 n b i T A : Nat} (f1 : F1 ≤ 1 + 5) (f2 : F2 ≤ 2 + 1)
    (f3 : F3 ≤ 41 + n) (f4 : F4 ≤ 41 + b) (f5 : F5 ≤ 41 + i) (f6 : F6 ≤ 7 + 3 * T) :
    F1 + (F2 + (F3 + (F4 + (F5 + (F6 + A))))) ≤ 139 + n + b + i + 3 * T + A := by
  omega

theorem size_le {t : Trie1} (hs : ShapeOK t) (hbc : t.bigCnt < 2 ^ 35) (hN : t.nodes.size < 2 ^ 32)
    (hB : labelBits t < 2 ^ 36) :
    protoSizeSlim (encodeCreator t)
      ≤ 139 + t.nodes.size / 4 + labelBits t / 4 + (eInners t).length / 4 + 3 * (eTbl t).length
        + arrays t := by
  have hI := Nat.lt_of_le_of_lt (eInners_length_le t) hN
  have hΛ : labelSum t < 2 ^ 35 := by
    have := nodes_eq_labels hs
    omega
  have hT : (eTbl t).length < 2 ^ 32 := by
    rw [eTbl_length]
    exact Nat.lt_of_le_of_lt (Nat.pow_le_pow_right (by decide) (eShortSize_le t)) (by decide)
  have f1 := sizeVarintF_le 11 t.bigCnt (sizeVarint_le1 (by decide)) (sizeVarint_le5 hbc)
  have f2 := sizeVarintF_le 14 (eShortSize t) (sizeVarint_le2 (by decide))
    (sizeVarint_le1 (Nat.lt_of_le_of_lt (eShortSize_le t) (by decide)))
  have f3 : sizeMsgF 20 ((encodeCreator t).nodeTypeBM.map protoSizeBitmap) ≤ 41 + t.nodes.size / 4 := by
    rw [enc_nodeTypeBM]
    split
    · exact Nat.zero_le _
    · exact sizeMsgF_newBM_le 20 _ _ _ (by decide) (Or.inl rfl) hN
  have f5 : sizeMsgF 31 (some (protoSizeBitmap (newBM (eShortIndex t) (eInners t).length "r64")))
      ≤ 41 + (eInners t).length / 4 := sizeMsgF_newBM_le 31 _ _ _ (by decide) (Or.inl rfl) hI
  rw [protoSizeSlim_enc]
  exact fixed_le f1 f2 f3 (sizeMsgF_inners_le hs hB hΛ) f5 (sizePackedF_eTbl_le hs hT)

/-- a `VLenArray` as a field: three scalars of at most `1 + 5`, `1 + 5`, `2 + 5` bytes, at most `S`
    bytes of elements, a position bitmap of `P` and a presence bitmap of `Q` bytes as fields;
    `c` bytes for a length prefix -/
theorem sizeMsgF_vlen_le (fno : Nat) (v : VLenArrayMsg) {S P Q c : Nat} (hf : fno * 8 + 2 < 2 ^ 14)
    (h1 : v.n < 2 ^ 35) (h2 : v.eltCnt < 2 ^ 35) (h3 : v.fixedSize < 2 ^ 35)
    (hb : v.bytes.length ≤ S) (hpos : sizeMsgF 20 (v.positionBM.map protoSizeBitmap) ≤ P)
    (hpres : sizeMsgF 61 (v.presenceBM.map protoSizeBitmap) ≤ Q)
    (hc : sizeVarint (21 + c + S + P + Q) ≤ c) :
    sizeMsgF fno (some (protoSizeVLenArray v)) ≤ 2 + c + (21 + c + S + P + Q) := by
  have g1 := sizeVarintF_le 10 v.n (sizeVarint_le1 (by decide)) (sizeVarint_le5 h1)
  have g2 := sizeVarintF_le 11 v.eltCnt (sizeVarint_le1 (by decide)) (sizeVarint_le5 h2)
  have g3 := sizeVarintF_le 23 v.fixedSize (sizeVarint_le2 (by decide)) (sizeVarint_le5 h3)
  have g4 := sizeBytesF_le 30 v.bytes (sizeVarint_le2 (by decide)) hb
    (Nat.le_trans (sizeVarint_mono (by omega : S ≤ 21 + c + S + P + Q)) hc)
  refine sizeMsgF_some_le fno (protoSizeVLenArray v) (sizeVarint_le2 hf) ?_ hc
  unfold protoSizeVLenArray
  omega

/-- `InnerPrefixes` without stored prefixes: two bytes per step, a presence bit per inner node -/
theorem eIps_filter_le (t : Trie1) (hinner : t.opt.inner = false) (hI : (eInners t).length < 2 ^ 32) :
    sizeMsgF 38 (some (protoSizeVLenArray (eIps t)))
      ≤ 74 + 2 * (eInners t).length + (eInners t).length / 4 := by
  have hE := steps_le t
  have hP : (ePrefIdx t).length ≤ (eInners t).length := filter_range_length_le _ _
  have hQ : sizeMsgF 61 (some (protoSizeBitmap (newBM (ePrefIdx t) (eInners t).length "r128")))
      ≤ 41 + (eInners t).length / 4 := sizeMsgF_newBM_le 61 _ _ _ (by decide) (Or.inr rfl) hI
  have := sizeMsgF_vlen_le 38 (eIps t) (S := 2 * (eInners t).length) (P := 0)
    (Q := 41 + (eInners t).length / 4) (c := 5) (by decide)
  rw [eIps_filter t hinner] at this ⊢
  have := this (Nat.two_pow_pos 35) (Nat.lt_of_le_of_lt hP (Nat.lt_trans hI (by decide)))
    (by decide : 2 < 2 ^ 35)
    (by rw [steps_bytes_length t]; omega) (Nat.le_refl _) hQ (sizeVarint_le5 (by omega))
  omega

theorem protoSize_filter_le {t : Trie1} (hs : ShapeOK t) (hinner : t.opt.inner = false)
    (hleaf : t.opt.leaf = false) (helts : t.elts = none)
    (hbc : t.bigCnt ≤ (eInners t).length)
    (hlab : ∀ nd ∈ t.nodes.toList, SizeLabels.LabelsOK nd)
    (L : Nat) (hL : leavesBefore t.nodes t.nodes.size = L) (hLlt : L < 2 ^ 31) :
    32 + protoSizeSlim (encodeCreator t) ≤ 8 * L + 256 := by
  have hN := nodes_eq_labels hs
  have hNL := nodes_eq_leaves_inners t
  rw [hL] at hNL
  have hΛ := labelSum_ge t hlab
  have hB := sizes_sum_le hs
  have hT : 4 * (eTbl t).length ≤ (eInners t).length + 4 := by
    rw [eTbl_length]
    rcases eShortSize_small t with h | h
    · rw [h]; exact Nat.le_add_left 4 _
    · exact Nat.le_of_lt h
  have hlps : eLps t = none := by unfold eLps; simp [hleaf]
  have h := size_le hs (by omega) (by omega) (by omega)
  have hips := eIps_filter_le t hinner (by omega)
  unfold arrays at h
  have e58 : sizeMsgF 58 ((none : Option VLenArrayMsg).map protoSizeVLenArray) = 0 := rfl
  rw [hlps, e58, encodeCreator_leaves, helts] at h
  have e60 : sizeMsgF 60 ((none : Option VLenArrayMsg).map protoSizeVLenArray) = 0 := rfl
  simp only [e60] at h
  omega

end SizeBound
