import SlimProofs.BuildShape
import SlimProofs.Render
/-
  SlimProofs.LeafCount — the leaves of a built trie are exactly the retained keys, each once
  (`build_leaf_perm`); the counts (`build_leaf_count`, `build_leavesBefore`) follow because what a
  mask keeps are the elements at the kept indexes (`filterMask_eq`).

  Proof (`LeafCount.leaf_perm`, for every well-formed record array of the right shape): in line
  order of `String()` the leaves are the kept keys (`Render.leaf_order`), every node has exactly
  one line (`Render.renderIds_perm`), and in id order the leaves are `leafKeyIdx`
  (`leafKeys_range`, from `ShapeOK.leafOrd`).
-/

namespace LeafCount

open BuildInv BuildShape

theorem filterMask_eq {α : Type} (l : List α) (bs : List Bool) (d : α) :
    filterMask l bs = (keptIn bs 0 l.length).map (fun j => l.getD j d) := by
  rw [keptIn, Nat.sub_zero, ← List.range_eq_range']
  show _ = ((List.range l.length).filter (fun j => bs.getD j false)).map (fun j => l.getD j d)
  induction l generalizing bs with
  | nil => rfl
  | cons a as ih =>
    cases bs with
    | nil => simp [filterMask]
    | cons b bs =>
      rw [List.length_cons, List.range_succ_eq_map, List.filter_cons, List.filter_map, filterMask, ih bs]
      cases b with
      | false =>
        show List.map _ _ = List.map _ (List.map Nat.succ _)
        rw [List.map_map]; rfl
      | true =>
        show a :: List.map _ _ = a :: List.map _ (List.map Nat.succ _)
        rw [List.map_map]; rfl

theorem keepMask_length {n : Nat} {vals : Option (List Bytes)} (dedup : Bool)
    (hv : ∀ vs, vals = some vs → vs.length = n) : (keepMask n vals dedup).length = n := by
  unfold keepMask
  cases vals with
  | none => simp
  | some vs =>
    have := hv vs rfl
    cases dedup <;> simp [keepMaskVals_length, this]

theorem entries_length {keys : List Bytes} {vals : Option (List Bytes)}
    (hv : ∀ vs, vals = some vs → vs.length = keys.length) :
    (entries keys vals).length = keys.length := by
  unfold entries
  cases vals with
  | none => simp
  | some vs => have := hv vs rfl; simp [this]

open Slim Tree Subtree Render

variable {t : Trie1}

theorem leafKeys_range (hs : ShapeOK t) : ∀ j, j ≤ t.nodes.size →
    (List.range j).filterMap (leafKey t) = t.leafKeyIdx.toList.take (leavesBefore t.nodes j)
  | 0, _ => rfl
  | j + 1, hj => by
    have hj' : j < t.nodes.size := hj
    rw [List.range_succ, List.filterMap_append, leafKeys_range hs j (Nat.le_of_lt hj'),
      leavesBefore_succ _ hj']
    cases hn : t.nodes[j] with
    | inner r =>
      rw [List.filterMap_cons_none (leafKey_inner (nodes_getElem? t j hj' _ hn))]
      exact List.append_nil _
    | leaf ith lp =>
      have h := nodes_getElem? t j hj' _ hn
      show _ = List.take (leavesBefore t.nodes j + 1) _
      rw [List.take_add_one, ← hs.leafOrd j ith lp h, Array.getElem?_toList, ← leafKey_leaf h]
      cases hk : leafKey t j with
      | none => rw [List.filterMap_cons_none hk]; rfl
      | some x => rw [List.filterMap_cons_some hk]; rfl

theorem leaf_perm {keys : List Bytes} {keep : List Bool} {queue : Array Subset}
    (hq : QOK keys keep t queue) (hroot : queue[0]? = some { s := 0, e := keys.length, fb := 0 })
    (hs : ShapeOK t) : t.leafKeyIdx.toList.Perm (keptIn keep 0 keys.length) := by
  have h := (renderIds_perm (.of_qok hq hs)).filterMap (leafKey t)
  rw [leaf_order hq t.nodes.size 0 _ _ (Nat.le_refl _) (Nat.lt_succ_self _) hroot,
    leafKeys_range hs _ (Nat.le_refl _), ← hs.leafCnt, ← Array.length_toList, List.take_length] at h
  exact h.symm

end LeafCount

open LeafCount BuildInv BuildShape

theorem build_leaf_perm (keys : List Bytes) (vals : Option (List Bytes)) (opt : Opt) (t : Trie1)
    (hb : build keys vals opt = .ok t) (hne : keys ≠ []) :
    t.leafKeyIdx.toList.Perm
      ((List.range keys.length).filter (keptAt (keepMask keys.length vals opt.dedup))) := by
  obtain ⟨queue, hq, hroot, _, htree⟩ := build_tree keys vals opt t hb hne
  have := leaf_perm hq hroot htree.shape
  rwa [keptIn, Nat.sub_zero, ← List.range_eq_range'] at this

theorem build_leaf_nodup (keys : List Bytes) (vals : Option (List Bytes)) (opt : Opt) (t : Trie1)
    (hb : build keys vals opt = .ok t) (hne : keys ≠ []) : t.leafKeyIdx.toList.Nodup := by
  rw [(build_leaf_perm keys vals opt t hb hne).nodup_iff]
  exact List.Nodup.sublist List.filter_sublist List.nodup_range

theorem build_leaf_mem (keys : List Bytes) (vals : Option (List Bytes)) (opt : Opt) (t : Trie1)
    (hb : build keys vals opt = .ok t) (hne : keys ≠ []) (x : Nat) :
    x ∈ t.leafKeyIdx.toList ↔
      x < keys.length ∧ keptAt (keepMask keys.length vals opt.dedup) x = true := by
  rw [(build_leaf_perm keys vals opt t hb hne).mem_iff]
  simp

/-- key 0 always has a leaf, so there is at least one stored value -/
theorem build_elts_supplied (keys vs : List Bytes) (opt : Opt) (t : Trie1)
    (hb : build keys (some vs) opt = .ok t) (hne : keys ≠ []) :
    t.elts = some (t.leafKeyIdx.toList.map fun i => vs.getD i []) ∧
    0 ∈ t.leafKeyIdx.toList ∧ ∀ i ∈ t.leafKeyIdx.toList, vs.getD i [] ∈ vs := by
  obtain ⟨_, hv, _⟩ := build_ok_elim hb hne
  have hn : keys.length ≠ 0 := fun h => hne (List.length_eq_zero_iff.mp h)
  have hmem := build_leaf_mem keys (some vs) opt t hb hne
  refine ⟨build_elts keys (some vs) opt t hb hne,
    (hmem 0).mpr ⟨Nat.pos_of_ne_zero hn, BuildInv.keepMask_zero _ hn hv⟩, fun i hi => ?_⟩
  have hlt : i < vs.length := hv vs rfl ▸ ((hmem i).mp hi).1
  rw [List.getD_eq_getElem?_getD, List.getElem?_eq_getElem hlt]
  exact List.getElem_mem hlt

theorem build_leaf_count (keys : List Bytes) (vals : Option (List Bytes)) (opt : Opt) (t : Trie1)
    (hb : build keys vals opt = .ok t) (hne : keys ≠ []) :
    t.leafKeyIdx.size = (retained keys vals opt.dedup).length := by
  obtain ⟨_, hv, _⟩ := build_ok_elim hb hne
  rw [retained, filterMask_eq _ _ ([], none), List.length_map, entries_length hv,
    ← Array.length_toList, (build_leaf_perm keys vals opt t hb hne).length_eq, keptIn, Nat.sub_zero,
    List.range_eq_range']

theorem build_leavesBefore (keys : List Bytes) (vals : Option (List Bytes)) (opt : Opt) (t : Trie1)
    (hb : build keys vals opt = .ok t) (hne : keys ≠ []) :
    leavesBefore t.nodes t.nodes.size = (retained keys vals opt.dedup).length := by
  rw [← (build_shape keys vals opt t hb hne).leafCnt]
  exact build_leaf_count keys vals opt t hb hne

#print axioms build_leaf_perm
#print axioms build_leaf_count
#print axioms build_leavesBefore
