import SlimModel.Version
/-
  SlimProofs.WireVersion — the compatibility predicate is exactly "a release version (no
  pre-release part) whose numbers are one of six triples"; the specs of the dispatch predicates and the
  version strings of the tables and tests, each parsed once.
-/
namespace Version

def compatibleTriples : List (Nat × Nat × Nat) :=
  [(1, 0, 0), (0, 5, 8), (0, 5, 9), (0, 5, 10), (0, 5, 11), (0, 5, 12)]

theorem parseSpecs_compatible :
    parseSpecs compatibleSpecs = some (compatibleTriples.map fun t => (.eq, ⟨t.1, t.2.1, t.2.2, [], []⟩)) := by
  decide +kernel

theorem parseSpecs_currentLayout :
    parseSpecs currentLayoutSpecs = some
      [(.eq, ⟨0, 5, 12, [], []⟩), (.eq, ⟨0, 5, 10, [], []⟩), (.eq, ⟨0, 5, 11, [], []⟩)] := by
  decide +kernel

theorem parseSpecs_before000512 :
    parseSpecs before000512Specs = some [(.lt, ⟨0, 5, 12, [], []⟩)] := by
  decide +kernel

theorem parseSpecs_before000510 :
    parseSpecs before000510Specs = some [(.eq, ⟨1, 0, 0, [], []⟩), (.lt, ⟨0, 5, 10, [], []⟩)] := by
  decide +kernel

theorem check_parsed {specs : List String} {r : List (Cmp × SemVer)} (h : parseSpecs specs = some r) (s : String) :
    check s specs = rangeHolds r ((parseSemver s).getD ⟨0, 0, 0, [], []⟩) := by
  unfold check
  rw [h]

/-- Each kernel pass over a version string literal costs about 80 k heartbeats (most of it `String.toList`), and the
    tables and tests mention each string several times: parsed once here, used as rewrite rules (`simp only [parsed]`). -/
theorem parsed :
    parseSemver "1.0.0" = some ⟨1, 0, 0, [], []⟩ ∧ parseSemver "0.5.8" = some ⟨0, 5, 8, [], []⟩ ∧
    parseSemver "0.5.9" = some ⟨0, 5, 9, [], []⟩ ∧ parseSemver "0.5.10" = some ⟨0, 5, 10, [], []⟩ ∧
    parseSemver "0.5.11" = some ⟨0, 5, 11, [], []⟩ ∧ parseSemver "0.5.12" = some ⟨0, 5, 12, [], []⟩ ∧
    parseSemver "0.5.7" = some ⟨0, 5, 7, [], []⟩ ∧ parseSemver "0.6.0" = some ⟨0, 6, 0, [], []⟩ := by
  decide +kernel

/-- Every spec the Go code passes is of the simple shape the range model covers. -/
theorem specs_simple :
    (compatibleSpecs ++ currentLayoutSpecs ++ before000512Specs ++ before000510Specs).all simpleSpec = true := by
  decide +kernel

theorem cmpNat_eq_iff (a b : Nat) : cmpNat a b = .eq ↔ a = b := by
  unfold cmpNat
  by_cases h1 : a < b
  · simp [h1]; omega
  · by_cases h2 : b < a
    · simp [h1, h2]; omega
    · simp [h1, h2]; omega

/-- Equality with a release version: same numbers and no pre-release part (build meta data is
    not compared). -/
theorem compare_release_eq (v : SemVer) (M m p : Nat) (b : List (List Char)) :
    compare v ⟨M, m, p, [], b⟩ = .eq ↔ v.major = M ∧ v.minor = m ∧ v.patch = p ∧ v.pre = [] := by
  unfold compare
  by_cases h1 : v.major = M
  · by_cases h2 : v.minor = m
    · by_cases h3 : v.patch = p
      · cases hp : v.pre <;> simp [h1, h2, h3]
      · simp [h1, h2, h3, cmpNat_eq_iff]
    · simp [h1, h2, cmpNat_eq_iff]
  · simp [h1, cmpNat_eq_iff]

theorem rangeHolds_cons (c : Cmp) (o : SemVer) (r : List (Cmp × SemVer)) (v : SemVer) :
    rangeHolds ((c, o) :: r) v = (c.eval (compare v o) || rangeHolds r v) := rfl

theorem rangeHolds_eq_releases (ts : List (Nat × Nat × Nat)) (v : SemVer) :
    rangeHolds (ts.map fun t => (.eq, ⟨t.1, t.2.1, t.2.2, [], []⟩)) v = true ↔
      v.pre = [] ∧ (v.major, v.minor, v.patch) ∈ ts := by
  induction ts with
  | nil => simp [rangeHolds]
  | cons t ts ih =>
    rw [List.map_cons, rangeHolds_cons, Bool.or_eq_true, ih]
    simp only [Cmp.eval, beq_iff_eq, compare_release_eq, List.mem_cons, Prod.ext_iff]
    constructor
    · rintro (⟨h1, h2, h3, h4⟩ | ⟨h4, h⟩)
      · exact ⟨h4, Or.inl ⟨h1, h2, h3⟩⟩
      · exact ⟨h4, Or.inr h⟩
    · rintro ⟨h4, ⟨h1, h2, h3⟩ | h⟩
      · exact Or.inl ⟨h1, h2, h3, h4⟩
      · exact Or.inr ⟨h4, h⟩

theorem isCompatible_iff (s : String) :
    isCompatible s = true ↔
      ∃ v, parseSemver s = some v ∧ v.pre = [] ∧ (v.major, v.minor, v.patch) ∈ compatibleTriples := by
  unfold isCompatible isCompatibleWith
  rw [parseSpecs_compatible]
  cases h : parseSemver s with
  | none => simp
  | some v => simp [rangeHolds_eq_releases]

/-- `isCompatible` with the six specs parsed once: on a concrete version only `parseSemver` is left
    to evaluate. -/
theorem isCompatible_eq (s : String) :
    isCompatible s = (parseSemver s).any fun v =>
      v.pre.isEmpty && compatibleTriples.contains (v.major, v.minor, v.patch) := by
  rw [Bool.eq_iff_iff, isCompatible_iff]
  simp [Option.any_eq_true]

end Version
