import SlimModel.LegacyWrite
import SlimProofs.BuildTotal
import SlimProofs.LegacyBuildOld
/-
  Stage (i) of C06 for the three-section layouts: a specification of the reconstructed old builder
  `LegacyWrite.buildOld` as a loop invariant of `oldLoop` (in the style of `BuildInv.BInv` for
  today's builder).

  The stages: (i) what the old builder wrote (this file); (ii) the loader's conversion of it is a
  well-formed trie of the same keys — (ii-a) `LegacyConvertSim`: one loop iteration at bit level,
  (ii-b) `LegacyConvertWF`: the record made of one old inner node, (ii-c) `LegacyConvertLoop`: the
  loop invariant, (ii-d) `LegacyConvertMain`: the result, `convert_wf`.

  `oldStep` is cut into named pieces (`brPos`, `endsAt`, `restStart`, `nibAt`, `runsOf`, `kidsOf`,
  `nodeOf`; `oldStep_eq`) for the later stages to speak of.  `OInv` is the trace of the loop, for
  any keys (`buildOld_spec`, by `buildOld_induct`): node `j` of the result is
  `nodeOf … (fcOf … j) oq[j]` and its children are the entries `fcOf … j + k` of the final queue
  `oq`, where `fcOf`, the id of the first child, is `1 +` the number of children of all earlier
  nodes.  The order of the keys comes in with `branch_facts` only: in a well-formed range
  (`SubGood`: inside the keys, common prefix of depth `d`) of ≥ 2 sorted keys, with `c = brPos`,
  `d ≤ c`, all keys share the first `c` half-bytes, only the first key can end at `c`, and the
  half-bytes at `c` are monotone.  That the ranges of the old trie are well formed is not shown
  here: the conversion reads it off today's builder (`LegacyConvert.CInv.good`).
-/

namespace LegacyConvert
open LegacyWrite

theorem prefix_between (c : Nat) (a x b : List Nat) (h1 : lexCmp a x ≠ .gt) (h2 : lexCmp x b ≠ .gt)
    (hab : a.take c = b.take c) (hca : c ≤ a.length) :
    x.take c = a.take c ∧ c ≤ x.length := by
  -- a smaller (greater) prefix would put `x` in front of `a` (behind `b`)
  have hx : x.take c = a.take c := by
    cases h : lexCmp (x.take c) (a.take c) with
    | eq => exact lexCmp_eq_iff.mp h
    | lt => exact absurd ((lexCmp_gt_iff a x).mpr (lexCmp_take_lt c x a h)) h1
    | gt =>
      rw [hab] at h
      exact absurd ((lexCmp_gt_iff x b).mpr (lexCmp_take_gt c x b h)) h2
  refine ⟨hx, ?_⟩
  have hl := congrArg List.length hx
  rw [List.length_take, List.length_take, Nat.min_eq_left hca] at hl
  exact hl ▸ Nat.min_le_right c x.length

def brPos (kn : Array (List Nat)) (q : Sub) : Nat := lcp (kn.getD q.s []) (kn.getD (q.e - 1) [])

def endsAt (kn : Array (List Nat)) (q : Sub) : Bool := (kn.getD q.s []).length == brPos kn q

def restStart (kn : Array (List Nat)) (q : Sub) : Nat := if endsAt kn q then q.s + 1 else q.s

theorem restStart_of_ends {kn : Array (List Nat)} {q : Sub} (he : endsAt kn q = true) :
    restStart kn q = q.s + 1 := if_pos he

def nibAt (kn : Array (List Nat)) (c t : Nat) : Nat := (kn.getD t []).getD c 0

def runsOf (kn : Array (List Nat)) (q : Sub) : List (Nat × Nat × Nat) :=
  groupRuns (nibAt kn (brPos kn q)) q.e (q.e - restStart kn q) (restStart kn q)

def kidOfRun (c : Nat) (x : Nat × Nat × Nat) : Sub := { s := x.2.1, e := x.2.2, d := c + 1 }

def kidsOf (kn : Array (List Nat)) (q : Sub) : List Sub :=
  if q.e - q.s = 1 then [] else (runsOf kn q).map (kidOfRun (brPos kn q))

def nodeOf (kn : Array (List Nat)) (ls : Bool) (fc : Nat) (q : Sub) : OldNode :=
  if q.e - q.s = 1 then
    { leaf := some q.s
      step := if ls && decide ((kn.getD q.s []).length - q.d + 1 > 1)
              then (kn.getD q.s []).length - q.d + 1 else 0 }
  else
    { inner := true
      bm := (runsOf kn q).foldl (fun a r => a ||| (1 <<< r.1)) 0
      firstChild := fc
      step := if brPos kn q - q.d + 1 > 1 then brPos kn q - q.d + 1 else 0
      leaf := if endsAt kn q then some q.s else none }

theorem oldStep_eq (kn : Array (List Nat)) (ls : Bool) (fc : Nat) (q : Sub) :
    oldStep kn ls fc q = (nodeOf kn ls fc q, kidsOf kn q) := by
  unfold oldStep nodeOf kidsOf
  by_cases h : q.e - q.s = 1
  · rw [if_pos h, if_pos h, if_pos h]
  · rw [if_neg h, if_neg h, if_neg h]
    have : (fun (x : Nat × Nat × Nat) => match x with
        | (_, s', j) => ({ s := s', e := j, d := brPos kn q + 1 } : Sub))
        = kidOfRun (brPos kn q) := by
      funext ⟨w, s', j⟩; rfl
    simp only [runsOf, brPos, endsAt, restStart] at this ⊢
    rw [this]
    rfl

def fcOf (kn : Array (List Nat)) (oq : Array Sub) (i : Nat) : Nat :=
  1 + ((List.range i).map (fun j => (kidsOf kn (oq.getD j default)).length)).sum

theorem fcOf_succ (kn : Array (List Nat)) (oq : Array Sub) (i : Nat) :
    fcOf kn oq (i + 1) = fcOf kn oq i + (kidsOf kn (oq.getD i default)).length := by
  unfold fcOf
  rw [List.range_succ, List.map_append, List.sum_append]
  simp only [List.map_cons, List.map_nil, List.sum_cons, List.sum_nil]
  omega

theorem fcOf_append (kn : Array (List Nat)) (oq extra : Array Sub) (i : Nat) (h : i ≤ oq.size) :
    fcOf kn (oq ++ extra) i = fcOf kn oq i := by
  unfold fcOf
  rw [List.map_congr_left (g := fun j => (kidsOf kn (oq.getD j default)).length)]
  intro j hj
  rw [List.mem_range] at hj
  have hj' : j < oq.size := by omega
  simp only [Array.getD_eq_getD_getElem?, Array.getElem?_append_left hj']

structure SubGood (keys : List Bytes) (q : Sub) : Prop where
  lt : q.s < q.e
  le : q.e ≤ keys.length
  pre : ∀ t, q.s ≤ t → t < q.e →
    q.d ≤ (knOf keys t).length ∧ (knOf keys t).take q.d = (knOf keys q.s).take q.d

structure BranchFacts (keys : List Bytes) (kn : Array (List Nat)) (q : Sub) : Prop where
  d_le : q.d ≤ brPos kn q
  pre : ∀ t, q.s ≤ t → t < q.e →
    brPos kn q ≤ (knOf keys t).length ∧
      (knOf keys t).take (brPos kn q) = (knOf keys q.s).take (brPos kn q)
  rest_ge : q.s ≤ restStart kn q
  rest_lt : restStart kn q < q.e
  longer : ∀ t, restStart kn q ≤ t → t < q.e → brPos kn q < (knOf keys t).length
  ends : endsAt kn q = true → (knOf keys q.s).length = brPos kn q
  mono : ∀ a b, restStart kn q ≤ a → a ≤ b → b < q.e →
    nibAt kn (brPos kn q) a ≤ nibAt kn (brPos kn q) b

theorem knOf_not_gt {keys : List Bytes} (hasc : strictAsc keys = true) {a b : Nat} (hab : a ≤ b)
    (hb : b < keys.length) : lexCmp (knOf keys a) (knOf keys b) ≠ .gt := by
  by_cases h : a = b
  · rw [h, lexCmp_self]; decide
  · rw [BuildInv.knOf_lt hasc (by omega) hb]; decide

theorem nibAt_eq {keys : List Bytes} {kn : Array (List Nat)}
    (hkn : ∀ t, kn.getD t [] = knOf keys t) (c t : Nat) (h : c < (knOf keys t).length) :
    nibAt kn c t = (knOf keys t)[c] := by
  unfold nibAt
  rw [hkn, List.getD_eq_getElem?_getD, List.getElem?_eq_getElem h]; rfl

theorem branch_facts {keys : List Bytes} {kn : Array (List Nat)}
    (hkn : ∀ t, kn.getD t [] = knOf keys t) (hasc : strictAsc keys = true) {q : Sub}
    (hg : SubGood keys q) (h2 : q.s + 2 ≤ q.e) : BranchFacts keys kn q := by
  have hle := hg.le
  have hlt := hg.lt
  have hlast : q.e - 1 < q.e := Nat.sub_lt (Nat.zero_lt_of_lt hlt) Nat.one_pos
  have hfl : q.s ≤ q.e - 1 := Nat.le_sub_one_of_lt hlt
  have hc : brPos kn q = lcp (knOf keys q.s) (knOf keys (q.e - 1)) := by
    unfold brPos; rw [hkn, hkn]
  obtain ⟨htake, _, hla, _⟩ := lcp_spec (knOf keys q.s) (knOf keys (q.e - 1))
  rw [← hc] at htake hla
  have hpre : ∀ t, q.s ≤ t → t < q.e →
      brPos kn q ≤ (knOf keys t).length ∧
        (knOf keys t).take (brPos kn q) = (knOf keys q.s).take (brPos kn q) := by
    intro t h3 h4
    have := prefix_between (brPos kn q) (knOf keys q.s) (knOf keys t) (knOf keys (q.e - 1))
      (knOf_not_gt hasc h3 (Nat.lt_of_lt_of_le h4 hle))
      (knOf_not_gt hasc (Nat.le_sub_one_of_lt h4) (Nat.lt_of_lt_of_le hlast hle)) htake hla
    exact ⟨this.2, this.1⟩
  have hdle : q.d ≤ brPos kn q := by
    have h1 := hg.pre (q.e - 1) hfl hlast
    rw [hc]
    exact BuildTotal.le_lcp_of_take_eq h1.2.symm (hg.pre q.s (Nat.le_refl _) hlt).1 h1.1
  have hends : endsAt kn q = true → (knOf keys q.s).length = brPos kn q := by
    intro h; unfold endsAt at h; rw [hkn] at h; simpa using h
  have hrest : q.s ≤ restStart kn q ∧ restStart kn q < q.e := by
    unfold restStart; split <;> omega
  have hlonger : ∀ t, restStart kn q ≤ t → t < q.e → brPos kn q < (knOf keys t).length := by
    intro t h3 h4
    obtain ⟨h5, h6⟩ := hpre t (Nat.le_trans hrest.1 h3) h4
    refine Nat.lt_of_le_of_ne h5 (fun hlen => ?_)
    -- a key that ends at the branching position is a prefix of the first key: it is the first key
    by_cases hts : q.s < t
    · have hkt := BuildInv.knOf_lt hasc hts (Nat.lt_of_lt_of_le h4 hle)
      rw [← List.take_of_length_le (Nat.le_of_eq hlen.symm), h6] at hkt
      exact lexCmp_take_not_lt _ _ hkt
    · have he : endsAt kn q = true := by
        unfold endsAt
        rw [hkn, show q.s = t by omega, ← hlen]
        exact beq_self_eq_true _
      rw [restStart_of_ends he] at h3
      omega
  refine ⟨hdle, hpre, hrest.1, hrest.2, hlonger, hends, ?_⟩
  intro a b h3 h4 h5
  -- half-bytes behind a common prefix are ordered like the keys
  have := BuildInv.labelOf_mono hasc (s := restStart kn q) false hle nofun
    (fun t h6 h7 => by rw [(hpre t (Nat.le_trans hrest.1 h6) h7).2, (hpre _ hrest.1 hrest.2).2])
    a b h3 h4 h5
  have ha := hlonger a h3 (Nat.lt_of_le_of_lt h4 h5)
  have hb := hlonger b (Nat.le_trans h3 h4) h5
  unfold labelOf labelAt at this
  rw [List.getElem?_eq_getElem ha, List.getElem?_eq_getElem hb] at this
  rw [nibAt_eq hkn _ _ ha, nibAt_eq hkn _ _ hb]
  exact Nat.le_of_add_le_add_left this

structure OInv (keys : List Bytes) (kn : Array (List Nat)) (ls : Bool) (i : Nat)
    (queue : Array Sub) (nodes : Array OldNode) : Prop where
  size : nodes.size = i
  le : i ≤ queue.size
  qsz : queue.size = fcOf kn queue i
  root : queue[0]? = some { s := 0, e := keys.length, d := 0 }
  node : ∀ j, j < i →
    nodes[j]? = some (nodeOf kn ls (fcOf kn queue j) (queue.getD j default)) ∧
    ∀ k (hk : k < (kidsOf kn (queue.getD j default)).length),
      queue[fcOf kn queue j + k]? = some ((kidsOf kn (queue.getD j default))[k])

theorem oinv_step {keys : List Bytes} {kn : Array (List Nat)} {ls : Bool}
    {i : Nat} {queue : Array Sub} {nodes : Array OldNode}
    (hinv : OInv keys kn ls i queue nodes) (q0 : Sub) (hqi : queue[i]? = some q0) :
    OInv keys kn ls (i + 1) (queue ++ (kidsOf kn q0).toArray)
      (nodes.push (nodeOf kn ls queue.size q0)) := by
  have hi : i < queue.size := (Array.getElem?_eq_some_iff.mp hqi).1
  have hgetD : queue.getD i default = q0 := by
    rw [Array.getD_eq_getD_getElem?, hqi]; rfl
  -- the entries up to `i` and their first-child ids do not see the appended children
  have hgd : ∀ j, j ≤ i → (queue ++ (kidsOf kn q0).toArray).getD j default = queue.getD j default :=
    fun j hj => by
      simp only [Array.getD_eq_getD_getElem?, Array.getElem?_append_left (Nat.lt_of_le_of_lt hj hi)]
  have hfc : ∀ j, j ≤ i → fcOf kn (queue ++ (kidsOf kn q0).toArray) j = fcOf kn queue j :=
    fun j hj => fcOf_append _ _ _ _ (Nat.le_trans hj (Nat.le_of_lt hi))
  have hfc1 : fcOf kn (queue ++ (kidsOf kn q0).toArray) (i + 1)
      = queue.size + (kidsOf kn q0).length := by
    rw [fcOf_append _ _ _ _ hi, fcOf_succ, hgetD, ← hinv.qsz]
  refine ⟨by rw [Array.size_push, hinv.size],
    by rw [Array.size_append]; exact Nat.le_trans hi (Nat.le_add_right _ _), ?_, ?_, ?_⟩
  · rw [hfc1]; simp
  · exact BuildInv.getElem?_append_mono _ _ _ _ hinv.root
  · intro j hj
    have hle := Nat.le_of_lt_succ hj
    rw [hfc j hle, hgd j hle]
    by_cases hji : j = i
    · subst hji
      rw [hgetD, ← hinv.qsz]
      refine ⟨hinv.size ▸ Array.getElem?_push_size, fun k hk => ?_⟩
      rw [Array.getElem?_append_right (Nat.le_add_right _ _)]
      simp only [Nat.add_sub_cancel_left, List.getElem?_toArray, List.getElem?_eq_getElem hk]
    · obtain ⟨h2, h3⟩ := hinv.node j (Nat.lt_of_le_of_ne hle hji)
      exact ⟨BuildInv.getElem?_push_mono _ _ _ _ h2,
        fun k hk => BuildInv.getElem?_append_mono _ _ _ _ (h3 k hk)⟩

theorem oinv_init (keys : List Bytes) (ls : Bool) :
    OInv keys (keys.map nibs).toArray ls 0 #[{ s := 0, e := keys.length, d := 0 }] #[] :=
  ⟨rfl, Nat.zero_le _, rfl, rfl, fun j hj => by omega⟩

end LegacyConvert

open LegacyConvert LegacyWrite in
theorem buildOld_spec (keys : List Bytes) (ls : Bool) (nodes : Array OldNode)
    (hne : keys ≠ []) (h : buildOld keys ls = .ok nodes) :
    ∃ oq, OInv keys (keys.map nibs).toArray ls oq.size oq nodes := by
  rcases buildOld_induct (OInv keys (keys.map nibs).toArray ls)
    (fun i queue nodes hi hinv => by
      rw [oldStep_eq]
      exact oinv_step hinv _ (Array.getElem?_eq_getElem hi))
    (fun _ => oinv_init keys ls) h with ⟨h0, _⟩ | ⟨j, oq, _, hle, hinv⟩
  · exact absurd (List.length_eq_zero_iff.mp h0) hne
  · exact ⟨oq, Nat.le_antisymm hinv.le hle ▸ hinv⟩

#print axioms buildOld_spec
