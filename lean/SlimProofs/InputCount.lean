import SlimProofs.InputCore
import SlimProofs.SizeLabels
/-
  SlimProofs.InputCount — counters of a built trie bounded by the INPUT of `build`: at most two
  nodes per key (`build_nodes_le`: the loop's fuel, one node per step), at most 257 label bits per
  node (`labelBits_le`), no more leaf values than nodes and no more value bytes than were supplied
  (`build_elts_le`).
-/

namespace InputCount

open BuildInv BuildShape LeafCount Refine

def totalLen (l : List Bytes) : Nat := (l.map List.length).sum

theorem build_nodes_le (keys : List Bytes) (vals : Option (List Bytes)) (opt : Opt) (t : Trie1)
    (hb : build keys vals opt = .ok t) (hne : keys ≠ []) : t.nodes.size ≤ 2 * keys.length := by
  obtain ⟨_, _, st, hst, rfl⟩ := build_ok_elim hb hne
  obtain ⟨j, hj, _, hsz⟩ := buildLoop_induct (fun i st => st.nodes.size = i)
    (fun i st st' hsz _ hs => by
      obtain ⟨nd, hnd⟩ := buildStep_push hs
      rw [hnd, Array.size_push, hsz])
    _ 0 _ _ rfl hst
  rw [Nat.zero_add] at hj
  exact hsz ▸ hj

theorem labelBits_le {t : Trie1} (hs : ShapeOK t) : labelBits t ≤ 257 * t.nodes.size := by
  have h1 := SizeFields.sizes_sum_le hs
  have h2 : SizeFields.bigCount t ≤ (eInners t).length := by
    unfold SizeFields.bigCount; exact List.countP_le_length
  have h3 := eInners_length_le t
  omega

theorem sum_filter_map_le {α : Type} (l : List α) (p : α → Bool) (f : α → Nat) :
    ((l.filter p).map f).sum ≤ (l.map f).sum := by
  induction l with
  | nil => simp
  | cons a l ih =>
    rw [List.filter_cons, List.map_cons, List.sum_cons]
    split
    · exact Nat.add_le_add_left ih _
    · exact Nat.le_trans ih (Nat.le_add_left _ _)

end InputCount

open InputCount in
def valBytes : Option (List Bytes) → Nat
  | some vs => totalLen vs
  | none => 0

namespace InputCount

open BuildInv BuildShape LeafCount Refine

theorem build_elts_le (keys : List Bytes) (vals : Option (List Bytes)) (opt : Opt) (t : Trie1)
    (hb : build keys vals opt = .ok t) (hne : keys ≠ []) :
    ∀ es, t.elts = some es → es.length ≤ t.nodes.size ∧ es.flatten.length ≤ valBytes vals := by
  intro es he
  have hs := build_shape keys vals opt t hb hne
  have hperm := build_leaf_perm keys vals opt t hb hne
  constructor
  · rw [hs.elts es he, hs.leafCnt]
    have := SizeFields.nodes_eq_leaves_inners t
    omega
  · rw [build_elts keys vals opt t hb hne] at he
    cases vals with
    | none => cases he
    | some vs =>
      cases he
      rw [← sum_map_length, List.map_map, (hperm.map _).sum_nat]
      refine Nat.le_trans (sum_filter_map_le _ _ _) (Nat.le_of_eq ?_)
      rw [← (build_pre keys (some vs) opt t hb hne).2 vs rfl]
      exact congrArg List.sum (map_range_getD vs List.length [])

end InputCount
