import SlimProofs.BitsLemmas
import SlimProofs.SizeShort
import SlimProofs.WireFrame
import SlimProofs.VLen
import SlimProofs.InputWire
/-
  The message `Slim.encodeCreator t` of a well-shaped trie is a well-formed (`SlimMsg.WF`),
  normal-form message as long as its counters fit Go's int32 (`Refine.Small t`).  `Bits.BMBits b`
  (a well-formed bitmap of fewer than `2^31` bits, whose lists are therefore short) and
  `Refine.VLenBits` (the same for a `VLenArray`) carry well-formedness and what bounds the size
  together, so each bitmap is looked at once; the one limit `2^31` serves both, since all that is
  asked of the size is that the body can be allocated.
-/
open Bits

namespace Bits

open InputWire in
theorem mk_BMLen (ws : List Nat) (opt : String) (hw : ∀ w ∈ ws, w < 2 ^ 64)
    (hl : 64 * ws.length < 2 ^ 31) : BMLen (mk ws opt) ws.length := by
  unfold mk
  split
  · exact ⟨⟨hw, fun r hr => Nat.lt_of_le_of_lt (indexRank64_le ws false r hr) hl, nofun⟩,
      Nat.le_refl _, Nat.le_trans (Nat.le_of_eq (indexRank64_length ws false)) (Nat.le_succ _),
      Nat.zero_le _⟩
  · exact ⟨⟨hw, fun r hr => Nat.lt_of_le_of_lt (indexRank128_le ws r hr) hl, nofun⟩,
      Nat.le_refl _,
      Nat.le_trans (Nat.le_of_eq (indexRank128_length ws)) (Nat.succ_le_succ (Nat.div_le_self _ 2)),
      Nat.zero_le _⟩
  · refine ⟨⟨hw, fun r hr => Nat.lt_of_le_of_lt (indexRank64_le ws true r hr) hl,
      fun r hr => Nat.lt_of_le_of_lt (indexSelect32_le ws r hr) hl⟩,
      Nat.le_refl _, Nat.le_of_eq (indexRank64_length ws true), ?_⟩
    show (indexSelect32 ws).length ≤ _
    rw [indexSelect32_length, toArray_length]
    have := cnt_le (getBit ws) (64 * ws.length)
    exact Nat.div_le_of_le_mul (by omega)
  · exact ⟨⟨hw, nofun, nofun⟩, Nat.le_refl _, Nat.zero_le _, Nat.zero_le _⟩

/-- a well-formed bitmap of fewer than `2^31` bits: every index entry fits an int32, and the three
    lists have at most `2^25`, `2^25 + 1`, `2^26 + 1` entries -/
abbrev BMBits (b : BitmapMsg) : Prop := InputWire.BMLen b (2 ^ 25)

theorem mk_BMBits (ws : List Nat) (opt : String) (hw : ∀ w ∈ ws, w < 2 ^ 64)
    (hl : 64 * ws.length < 2 ^ 31) : BMBits (mk ws opt) :=
  (mk_BMLen ws opt hw hl).mono (by omega)

theorem ofIdx_bits_le (idxs : List Nat) (capa n : Nat) (h : ∀ i ∈ idxs, i < n) :
    64 * (ofIdx idxs capa).length ≤ max capa n + 63 := by
  rw [ofIdx_length']
  refine Nat.le_trans (Nat.mul_div_le _ 64) (Nat.add_le_add_right ?_ 63)
  exact Nat.max_le.mpr
    ⟨Nat.le_max_left _ _, Nat.le_trans (lastSucc_le_of_lt h) (Nat.le_max_right _ _)⟩

theorem newBM_BMBits (idxs : List Nat) (capa n : Nat) (opt : String)
    (h : ∀ i ∈ idxs, i < n) (hn : max capa n + 63 < 2 ^ 31) : BMBits (newBM idxs capa opt) :=
  mk_BMBits _ opt (ofIdx_lt idxs capa) (Nat.lt_of_le_of_lt (ofIdx_bits_le idxs capa n h) hn)

end Bits

namespace Refine
open Slim

/-- total width of the label bitmaps (`Inners`), in bits -/
def labelBits (t : Trie1) : Nat := (eSizes t).sum

/-- Every counter of the message `Slim.encode t` that Go holds in an `int32` fits one: the number of
    big nodes, the node count, the bits of the label bitmap, the bytes of stored inner prefixes,
    leaf prefixes and leaves (they are the domains of the rank/select indexes); and the protobuf
    body can be allocated (`BodyOK`).  This only excludes tries beyond the Go code's own limits
    (its rank and select indexes are `[]int32`). -/
structure Small (t : Trie1) : Prop where
  bigCnt : t.bigCnt < 2 ^ 31
  nodes : t.nodes.size + 63 < 2 ^ 31
  labelBits : labelBits t + 63 < 2 ^ 31
  innerPrefixBytes : (eStoredPs t).flatten.length + 64 < 2 ^ 31
  leafPrefixBytes : (eLeafPs t).flatten.length + 64 < 2 ^ 31
  leafBytes : ∀ es, t.elts = some es → es.length + 63 < 2 ^ 31 ∧ es.flatten.length + 64 < 2 ^ 31
  body : Frame.BodyOK (Wire.encodeSlim (Slim.encode t))

theorem of_eq_some {α : Type} {o : Option α} {a : α} (h : o = some a) {P : α → Prop} (hp : P a) :
    ∀ b, o = some b → P b :=
  fun _ hb => Option.some.inj (h.symm.trans hb) ▸ hp

theorem of_none {α : Type} {P : α → Prop} : ∀ b, (none : Option α) = some b → P b :=
  nofun

theorem of_map_eq_some {α β : Type} {o : Option α} {f : α → β} {P : β → Prop}
    (h : ∀ a, o = some a → P (f a)) : ∀ b, o.map f = some b → P b := by
  intro b hb
  obtain ⟨a, ha, rfl⟩ := Option.map_eq_some_iff.mp hb
  exact h a ha

theorem sum_map_length (ps : List Bytes) : (ps.map List.length).sum = ps.flatten.length := by
  rw [List.length_flatten]

theorem lt_two_pow_33 {x : Nat} (h : x + 64 < 2 ^ 31) : x < 2 ^ 33 := by omega

theorem eInners_length_le (t : Trie1) : (eInners t).length ≤ t.nodes.size := by
  rw [eInners_eq]
  have := List.length_filterMap_le innerOf t.nodes.toList
  simpa using this

theorem eLeafLps_length_le (t : Trie1) : (eLeafLps t).length ≤ t.nodes.size := by
  unfold eLeafLps
  have := List.length_filterMap_le leafOf t.nodes.toList
  simpa using this

theorem inners_lt {t : Trie1} (hn : t.nodes.size + 63 < 2 ^ 31) : (eInners t).length + 63 < 2 ^ 31 :=
  Nat.lt_of_le_of_lt (Nat.add_le_add_right (eInners_length_le t) 63) hn

theorem stepToPos_le (sizes : List Nat) : ∀ x ∈ stepToPos sizes, x < sizes.sum + 1 :=
  Bits.forall_mem_of_getElem? (stepToPos_getElem? sizes) fun k _ =>
    Nat.lt_succ_of_le (take_sum_le sizes k)

theorem steps_le (t : Trie1) : ((eInners t).filterMap stepOf).length ≤ (eInners t).length :=
  List.length_filterMap_le _ _

theorem steps_bytes_length (t : Trie1) :
    ((eInners t).filterMap stepOf).flatten.length = 2 * ((eInners t).filterMap stepOf).length := by
  rw [List.length_flatten, sum_map_const _ List.length 2 stepOf_length, Nat.mul_comm]

theorem steps_bytes_le (t : Trie1) :
    ((eInners t).filterMap stepOf).flatten.length ≤ 2 * t.nodes.size := by
  rw [steps_bytes_length]
  exact Nat.mul_le_mul_left 2 (Nat.le_trans (steps_le t) (eInners_length_le t))

theorem positionBM_BMBits (ps : List Bytes) (h : ps.flatten.length + 64 < 2 ^ 31) :
    BMBits (newBM (stepToPos (ps.map List.length)) 0 "s32") :=
  newBM_BMBits _ 0 ((ps.map List.length).sum + 1) "s32" (stepToPos_le _)
    (by rw [sum_map_length, Nat.zero_max]; exact h)

theorem presenceBM_BMBits (n : Nat) (p : Nat → Bool) (opt : String) (hn : n + 63 < 2 ^ 31) :
    BMBits (newBM ((List.range n).filter p) n opt) :=
  newBM_BMBits _ n n opt (filter_range_lt n p) (by rw [Nat.max_self]; exact hn)

theorem eInnersBM_BMBits {t : Trie1} (hs : ShapeOK t) (hl : labelBits t + 63 < 2 ^ 31) :
    BMBits (eInnersBM t) := by
  apply mk_BMBits _ "r128" (ofMany_lt _ _)
  rw [ofMany_length (eSub_ok hs)]
  exact Nat.lt_of_le_of_lt (Nat.mul_div_le _ 64) hl

structure VLenBits (v : VLenArrayMsg) : Prop where
  n : v.n < 2 ^ 31
  eltCnt : v.eltCnt < 2 ^ 31
  fixedSize : v.fixedSize < 2 ^ 31
  position : ∀ b, v.positionBM = some b → BMBits b
  presence : ∀ b, v.presenceBM = some b → BMBits b
  bytes : v.bytes.length < 2 ^ 33

theorem VLenBits.wf {v : VLenArrayMsg} (h : VLenBits v) : v.WF :=
  ⟨h.n, h.eltCnt, h.fixedSize, fun b hb => (h.position b hb).wf, fun b hb => (h.presence b hb).wf⟩

theorem VLenBits.size {v : VLenArrayMsg} (h : VLenBits v) : Wire.protoSizeVLenArray v ≤ 2 ^ 35 :=
  Nat.le_trans
    (InputWire.protoSizeVLenArray_le v _ _ _ h.wf
      (fun b hb => InputWire.protoSizeBitmap_le b _ (h.position b hb))
      (fun b hb => InputWire.protoSizeBitmap_le b _ (h.presence b hb)) (Nat.le_of_lt h.bytes))
    (by decide)

/-- `InnerPrefixes`: stored prefixes with a position bitmap, or two-byte steps without one -/
theorem eIps_bits {t : Trie1} (hn : t.nodes.size + 63 < 2 ^ 31)
    (hip : t.opt.inner = true → (eStoredPs t).flatten.length + 64 < 2 ^ 31) : VLenBits (eIps t) := by
  have hi := inners_lt hn
  have hp : (ePrefIdx t).length < 2 ^ 31 :=
    Nat.lt_of_le_of_lt (filter_range_length_le _ _) (Nat.lt_of_le_of_lt (Nat.le_add_right _ 63) hi)
  have hpres : ∀ b, some (newBM (ePrefIdx t) (eInners t).length "r128") = some b → BMBits b :=
    of_eq_some rfl (presenceBM_BMBits _ _ "r128" hi)
  unfold eIps
  split
  · next hin =>
    exact ⟨Nat.two_pow_pos 31, hp, Nat.two_pow_pos 31,
      of_eq_some rfl (positionBM_BMBits _ (hip hin)), hpres, lt_two_pow_33 (hip hin)⟩
  · exact ⟨Nat.two_pow_pos 31, hp, (by decide : 2 < 2 ^ 31), of_none, hpres,
      Nat.lt_of_le_of_lt (steps_bytes_le t) (by omega)⟩

theorem eLps_bits {t : Trie1} (hn : t.nodes.size + 63 < 2 ^ 31)
    (hlp : t.opt.leaf = true → (eLeafPs t).flatten.length + 64 < 2 ^ 31) :
    ∀ v, eLps t = some v → VLenBits v := by
  intro v hv
  unfold eLps at hv
  split at hv
  · next hlf =>
    cases hv
    exact ⟨Nat.two_pow_pos 31, Nat.two_pow_pos 31, Nat.two_pow_pos 31,
      of_eq_some rfl (positionBM_BMBits _ (hlp hlf)),
      of_eq_some rfl (presenceBM_BMBits _ _ "r64"
        (Nat.lt_of_le_of_lt (Nat.add_le_add_right (eLeafLps_length_le t) 63) hn)),
      lt_two_pow_33 (hlp hlf)⟩
  · cases hv

theorem newVLenArray_bits (es : List Bytes) (h1 : es.length + 63 < 2 ^ 31)
    (h2 : es.flatten.length + 64 < 2 ^ 31) : ∀ v, newVLenArray es = some v → VLenBits v := by
  intro v hv
  have hn := Nat.lt_of_le_of_lt (Nat.le_add_right es.length 63) h1
  have hcnt : (nonEmptyIdx es).length < 2 ^ 31 :=
    Nat.lt_of_le_of_lt (filter_range_length_le _ _) hn
  have hpres : ∀ b, some (newBM (nonEmptyIdx es) es.length "r64") = some b → BMBits b :=
    of_eq_some rfl (presenceBM_BMBits es.length _ "r64" h1)
  -- the fixed size is one of the sizes (or 0), so at most the total
  have hfixed : ((es.map List.length).filter (· > 0)).getLast?.getD 0 < 2 ^ 31 := by
    cases hg : ((es.map List.length).filter (· > 0)).getLast? with
    | none => exact Nat.two_pow_pos 31
    | some x =>
      have := mem_le_sum _ x (List.mem_filter.mp (List.mem_of_getLast? hg)).1
      rw [sum_map_length] at this
      exact Nat.lt_of_le_of_lt this (Nat.lt_of_le_of_lt (Nat.le_add_right _ 64) h2)
  rw [newVLenArray_eq] at hv
  split at hv
  · cases hv
  · split at hv <;> cases hv
    · exact ⟨hn, hcnt, hfixed, of_none, hpres, lt_two_pow_33 h2⟩
    · exact ⟨hn, hcnt, Nat.two_pow_pos 31, of_eq_some rfl (positionBM_BMBits es h2), hpres,
        lt_two_pow_33 h2⟩

theorem leaves_bits {t : Trie1}
    (h : ∀ es, t.elts = some es → es.length + 63 < 2 ^ 31 ∧ es.flatten.length + 64 < 2 ^ 31) :
    ∀ v, (encodeCreator t).leaves = some v → VLenBits v := by
  rw [encodeCreator_leaves]
  cases he : t.elts with
  | none => exact of_none
  | some es => exact newVLenArray_bits es (h es he).1 (h es he).2

theorem encodeCreator_WF {t : Trie1} (hs : ShapeOK t) (hsm : Small t) : (encodeCreator t).WF := by
  have hn := hsm.nodes
  refine ⟨?_, ?_, ?_, ?_, ?_, ?_, ?_, ?_, fun v hv => (leaves_bits hsm.leafBytes v hv).wf⟩
  · rw [enc_bigInnerCnt]; exact hsm.bigCnt
  · rw [enc_shortSize]; exact Nat.lt_of_le_of_lt (eShortSize_le t) (by decide)
  · rw [enc_shortTable]
    exact fun x hx => Nat.lt_trans ((eTbl_spec hs).2 x hx) (by decide)
  · rw [enc_nodeTypeBM]
    split
    · exact of_none
    · exact of_eq_some rfl (presenceBM_BMBits _ _ "r64" hn).wf
  · exact of_eq_some (enc_inners t) (eInnersBM_BMBits hs hsm.labelBits).wf
  · exact of_eq_some (enc_shortBM t) (presenceBM_BMBits _ _ "r64" (inners_lt hn)).wf
  · exact of_eq_some (enc_innerPrefixes t) (eIps_bits hn fun _ => hsm.innerPrefixBytes).wf
  · rw [enc_leafPrefixes]; exact fun v hv => (eLps_bits hn (fun _ => hsm.leafPrefixBytes) v hv).wf

theorem encode_WF {t : Trie1} (hs : t.nodes.size ≠ 0 → ShapeOK t) (hsm : Small t) : (Slim.encode t).WF := by
  unfold Slim.encode
  split
  · refine ⟨Nat.two_pow_pos 31, Nat.two_pow_pos 31, nofun, ?_, ?_, ?_, ?_, ?_, ?_⟩ <;> intro b hb <;> cases hb
  · next h => exact encodeCreator_WF (hs h) hsm

theorem _root_.SlimMsg.NF_of_nil {m : SlimMsg} (h : m.unrecognized = []) : m.NF := by
  unfold SlimMsg.NF
  rw [h, Wire.unknownOnly]

theorem encode_NF (t : Trie1) : (Slim.encode t).NF := by
  apply SlimMsg.NF_of_nil
  unfold Slim.encode
  split
  · rfl
  · exact encodeCreator_unrecognized t

end Refine
