import SlimModel.LegacyWrite
import SlimProofs.BuildInv
/-
  The induction rule of the old builder's loop (`oldLoop_induct`, `buildOld_induct`: a property of
  position, queue and nodes kept by one `oldStep` holds of the result, which is reached in no more
  turns than there was fuel), and what holds of the old
  trie whatever the keys: every label bitmap has 16 bits (`buildOld_bm_lt`, hypothesis of
  `C06_bm16`), every leaf is a key (`buildOld_leaf_lt`: the ranges in the queue are non-empty and
  inside the key list, `groupRuns_mem`).  And `groupRuns` against today's grouping, for any label
  function: it is `childRuns` run over its own label list (`groupRuns_eq_childRuns`), that list is
  the labels with adjacent repetitions removed (`groupRuns_labels`: today's `keptLabels` when no
  key is dropped), and labels that are one more — today's label of a half-byte is the half-byte
  plus one, 0 standing for the end of the key — group the same keys (`groupRuns_succ_label`).
-/
namespace LegacyWrite

theorem oldLoop_induct (kn : Array (List Nat)) (ls : Bool)
    (P : Nat → Array Sub → Array OldNode → Prop)
    (hstep : ∀ i (queue : Array Sub) nodes (hi : i < queue.size), P i queue nodes →
      P (i + 1) (queue ++ (oldStep kn ls queue.size queue[i]).2.toArray)
        (nodes.push (oldStep kn ls queue.size queue[i]).1)) :
    ∀ fuel i queue nodes res, P i queue nodes → oldLoop kn ls fuel i queue nodes = .ok res →
      ∃ j queue', j ≤ fuel + i ∧ queue'.size ≤ j ∧ P j queue' res := by
  intro fuel
  induction fuel with
  | zero =>
    intro i queue nodes res hP h
    unfold oldLoop at h
    split at h
    · cases h
    · next hi => cases h; exact ⟨i, queue, Nat.le_add_left _ _, Nat.le_of_not_lt hi, hP⟩
  | succ fuel ih =>
    intro i queue nodes res hP h
    unfold oldLoop at h
    split at h
    · next hi =>
      obtain ⟨j, q', hj, hq⟩ := ih _ _ _ _ (hstep i queue nodes hi hP) h
      exact ⟨j, q', Nat.add_right_comm fuel 1 i ▸ hj, hq⟩
    · next hi => cases h; exact ⟨i, queue, Nat.le_add_left _ _, Nat.le_of_not_lt hi, hP⟩

theorem buildOld_induct {keys : List Bytes} {ls : Bool} {nodes : Array OldNode}
    (P : Nat → Array Sub → Array OldNode → Prop)
    (hstep : ∀ i (queue : Array Sub) nodes (hi : i < queue.size), P i queue nodes →
      P (i + 1) (queue ++ (oldStep (keys.map nibs).toArray ls queue.size queue[i]).2.toArray)
        (nodes.push (oldStep (keys.map nibs).toArray ls queue.size queue[i]).1))
    (h0 : keys.length ≠ 0 → P 0 #[{ s := 0, e := keys.length, d := 0 }] #[])
    (h : buildOld keys ls = .ok nodes) :
    keys.length = 0 ∧ nodes = #[] ∨
      ∃ j queue', j ≤ 2 * keys.length + 1 ∧ queue'.size ≤ j ∧ P j queue' nodes := by
  unfold buildOld at h
  simp only at h
  split at h
  · next hn => cases h; exact .inl ⟨hn, rfl⟩
  · next hn => exact .inr (oldLoop_induct _ ls P hstep _ 0 _ _ _ (h0 hn) h)

theorem forall_mem_push {α : Type} {Q : α → Prop} {xs : Array α} {a : α}
    (h : ∀ x ∈ xs.toList, Q x) (ha : Q a) : ∀ x ∈ (xs.push a).toList, Q x := by
  rw [Array.toList_push, List.forall_mem_append, List.forall_mem_singleton]
  exact ⟨h, ha⟩

def NibsOK (kn : Array (List Nat)) : Prop := ∀ t, ∀ x ∈ kn.getD t [], x < 16

theorem nibsOK_of_keys (keys : List Bytes) : NibsOK (keys.map nibs).toArray := by
  intro t x hx
  rw [Array.getD_eq_getD_getElem?, List.getElem?_toArray, List.getElem?_map] at hx
  cases h : keys[t]? with
  | none => rw [h] at hx; simp at hx
  | some k => rw [h] at hx; exact nibs_lt16 k x (by simpa using hx)

theorem groupRuns_succ (lab : Nat → Nat) (e fuel s : Nat) (h : s < e) :
    groupRuns lab e (fuel + 1) s =
      (lab s, s, scanWhile (fun t => lab t == lab s) (e - (s + 1)) (s + 1)) ::
        groupRuns lab e fuel (scanWhile (fun t => lab t == lab s) (e - (s + 1)) (s + 1)) := by
  rw [groupRuns, if_pos h]

theorem groupRuns_done (lab : Nat → Nat) (e fuel s : Nat) (h : ¬ s < e) :
    groupRuns lab e fuel s = [] := by
  cases fuel with
  | zero => rfl
  | succ f => rw [groupRuns, if_neg h]

theorem groupRuns_mem (lab : Nat → Nat) (e : Nat) :
    ∀ fuel s, ∀ r ∈ groupRuns lab e fuel s,
      s ≤ r.2.1 ∧ r.2.1 < r.2.2 ∧ r.2.2 ≤ e ∧ r.1 = lab r.2.1 := by
  intro fuel
  induction fuel with
  | zero => exact fun _ _ hr => nomatch hr
  | succ fuel ih =>
    intro s r hr
    by_cases hse : s < e
    · rw [groupRuns_succ _ _ _ _ hse] at hr
      obtain ⟨hge, hle, _⟩ := scan_spec (fun t => lab t == lab s) hse rfl
      rcases List.mem_cons.mp hr with rfl | hr
      · exact ⟨Nat.le_refl _, hge, hle, rfl⟩
      · exact ⟨Nat.le_trans (Nat.le_of_lt hge) (ih _ r hr).1, (ih _ r hr).2⟩
    · rw [groupRuns_done _ _ _ _ hse] at hr
      cases hr

theorem groupRuns_eq_childRuns (lab : Nat → Nat) (e : Nat) : ∀ fuel s,
    groupRuns lab e fuel s = childRuns lab e ((groupRuns lab e fuel s).map (·.1)) s := by
  intro fuel
  induction fuel with
  | zero => intro s; rfl
  | succ fuel ih =>
    intro s
    by_cases hse : s < e
    · rw [groupRuns_succ _ _ _ _ hse, List.map_cons, childRuns_cons]
      -- today's first scan, to the first key that carries the label, stops at once: `s` carries it
      have hs' : scanWhile (fun t => lab t != lab s) (e - s) s = s := by
        obtain ⟨n, hn⟩ : ∃ n, e - s = n + 1 := ⟨e - s - 1, by omega⟩
        rw [hn, scanWhile]
        simp
      simp only [hs']
      rw [← ih]
    · rw [groupRuns_done _ _ _ _ hse]; rfl

theorem dedupAdj_scan (lab : Nat → Nat) (w : Nat) : ∀ n s, lab s = w →
    dedupAdj (w :: (List.range' (s + 1) n).map lab) =
      w :: dedupAdj ((List.range' (scanWhile (fun t => lab t == w) n (s + 1))
        (s + 1 + n - scanWhile (fun t => lab t == w) n (s + 1))).map lab) := by
  intro n
  induction n with
  | zero => intro s _; simp [scanWhile, dedupAdj]
  | succ n ih =>
    intro s hs
    rw [List.range'_succ, List.map_cons, scanWhile, show s + 1 + (n + 1) = s + 1 + 1 + n by omega]
    by_cases h : lab (s + 1) = w
    · rw [if_pos (by simpa using h), dedupAdj, if_pos h.symm, h, ih (s + 1) h]
    · rw [if_neg (by simpa using h), dedupAdj, if_neg (fun h' => h h'.symm),
        show s + 1 + 1 + n - (s + 1) = n + 1 by omega, List.range'_succ, List.map_cons]

theorem groupRuns_labels (lab : Nat → Nat) (e : Nat) : ∀ fuel s, e - s ≤ fuel →
    (groupRuns lab e fuel s).map (·.1) = dedupAdj ((List.range' s (e - s)).map lab) := by
  intro fuel
  induction fuel with
  | zero =>
    intro s h
    rw [groupRuns_done _ _ _ _ (by omega), Nat.eq_zero_of_le_zero h]; rfl
  | succ fuel ih =>
    intro s h
    by_cases hse : s < e
    · obtain ⟨n, hn⟩ : ∃ n, e - s = n + 1 := ⟨e - s - 1, by omega⟩
      obtain ⟨hge, hle, _⟩ := scan_spec (fun t => lab t == lab s) (s := s + 1) hse rfl
      rw [groupRuns_succ _ _ _ _ hse, List.map_cons, ih _ (by omega), hn, List.range'_succ,
        List.map_cons, show n = e - (s + 1) by omega, dedupAdj_scan lab (lab s) _ s rfl,
        show s + 1 + (e - (s + 1)) = e by omega]
    · rw [groupRuns_done _ _ _ _ hse, Nat.sub_eq_zero_of_le (Nat.le_of_not_lt hse)]; rfl

theorem scanWhile_congr {p p' : Nat → Bool} : ∀ n s, (∀ t, s ≤ t → t < s + n → p t = p' t) →
    scanWhile p n s = scanWhile p' n s := by
  intro n
  induction n with
  | zero => intro s _; rfl
  | succ n ih =>
    intro s h
    rw [scanWhile, scanWhile, h s (Nat.le_refl _) (by omega),
      ih (s + 1) (fun t h1 h2 => h t (by omega) (by omega))]

theorem groupRuns_succ_label (lab lab' : Nat → Nat) (e : Nat) : ∀ fuel s,
    (∀ t, s ≤ t → t < e → lab' t = lab t + 1) →
    groupRuns lab' e fuel s = (groupRuns lab e fuel s).map (fun x => (x.1 + 1, x.2.1, x.2.2)) := by
  intro fuel
  induction fuel with
  | zero => intro s _; rfl
  | succ fuel ih =>
    intro s h
    by_cases hse : s < e
    · have hj : scanWhile (fun t => lab' t == lab' s) (e - (s + 1)) (s + 1)
          = scanWhile (fun t => lab t == lab s) (e - (s + 1)) (s + 1) :=
        scanWhile_congr _ _ fun t h1 h2 => by
          rw [h t (by omega) (by omega), h s (Nat.le_refl _) hse]; simp
      rw [groupRuns_succ _ _ _ _ hse, groupRuns_succ _ _ _ _ hse, List.map_cons, hj,
        ih _ (fun t h1 h2 => h t (Nat.le_trans (Nat.le_of_lt (scan_spec _ (s := s + 1) hse rfl).1) h1) h2),
        h s (Nat.le_refl _) hse]
    · rw [groupRuns_done _ _ _ _ hse, groupRuns_done _ _ _ _ hse]; rfl

theorem foldl_or_lt (runs : List (Nat × Nat × Nat)) (acc : Nat) (hacc : acc < 2 ^ 16)
    (h : ∀ r ∈ runs, r.1 < 16) :
    runs.foldl (fun a r => a ||| (1 <<< r.1)) acc < 2 ^ 16 := by
  induction runs generalizing acc with
  | nil => exact hacc
  | cons r rs ih =>
    rw [List.foldl_cons]
    apply ih
    · apply Nat.or_lt_two_pow hacc
      rw [Nat.one_shiftLeft]
      exact Nat.pow_lt_pow_right (by omega) (h r List.mem_cons_self)
    · intro x hx; exact h x (List.mem_cons_of_mem _ hx)

theorem oldStep_bm_lt {kn : Array (List Nat)} (h : NibsOK kn) (ls : Bool) (qsize : Nat) (q : Sub) :
    (oldStep kn ls qsize q).1.bm < 65536 := by
  unfold oldStep
  split
  · show (0 : Nat) < 65536
    omega
  · simp only
    apply foldl_or_lt _ 0 (by omega)
    intro r hr
    rw [(groupRuns_mem _ _ _ _ r hr).2.2.2]
    exact getD_lt16 (h _) _

theorem buildOld_bm_lt (keys : List Bytes) (ls : Bool) (nodes : Array OldNode)
    (h : buildOld keys ls = .ok nodes) : ∀ n ∈ nodes.toList, n.bm < 65536 := by
  rcases buildOld_induct (fun _ _ nodes => ∀ n ∈ nodes.toList, n.bm < 65536)
    (fun _ _ _ _ hn => forall_mem_push hn (oldStep_bm_lt (nibsOK_of_keys keys) ls _ _))
    (fun _ => by simp) h with ⟨_, rfl⟩ | ⟨_, _, _, _, hP⟩
  · simp
  · exact hP

theorem _root_.LegacyConvert.kn_getD (keys : List Bytes) (t : Nat) :
    (keys.map nibs).toArray.getD t [] = knOf keys t := by
  rw [List.toArray_getD_eq, BuildInv.map_nibs_getD]; rfl

theorem lexCmp_take_not_lt (a : List Nat) (c : Nat) : lexCmp a (a.take c) ≠ .lt := by
  rw [lexCmp_split c a (a.take c), List.take_take, Nat.min_self, lexCmp_self, List.drop_take_self]
  cases a.drop c <;> exact nofun

def Inv (n : Nat) (q : Sub) : Prop := q.s < q.e ∧ q.e ≤ n

theorem oldStep_inv (kn : Array (List Nat)) (ls : Bool) (n qsize : Nat) (q : Sub) (hq : Inv n q) :
    (∀ k ∈ (oldStep kn ls qsize q).2, Inv n k) ∧
    (∀ j, (oldStep kn ls qsize q).1.leaf = some j → j < n) := by
  obtain ⟨hq1, hq2⟩ := hq
  unfold oldStep
  by_cases h1 : q.e - q.s = 1
  · rw [if_pos h1]
    refine ⟨by simp, ?_⟩
    intro j hj
    simp only [Option.some.injEq] at hj
    omega
  · rw [if_neg h1]
    simp only
    generalize lcp (kn.getD q.s []) (kn.getD (q.e - 1) []) = c
    constructor
    · intro k hk
      simp only [List.mem_map] at hk
      obtain ⟨r, hr, rfl⟩ := hk
      obtain ⟨_, h4, h5, _⟩ := groupRuns_mem _ _ _ _ r hr
      exact ⟨h4, Nat.le_trans h5 hq2⟩
    · intro j hj
      split at hj
      · simp only [Option.some.injEq] at hj; omega
      · cases hj

theorem inv_root {n : Nat} (hn : n ≠ 0) :
    ∀ q ∈ (#[{ s := 0, e := n, d := 0 }] : Array Sub).toList, Inv n q := by
  intro q hq
  rw [List.mem_singleton.mp hq]
  exact ⟨Nat.pos_of_ne_zero hn, Nat.le_refl n⟩

theorem inv_append {n : Nat} {queue : Array Sub} {kids : List Sub}
    (hq : ∀ q ∈ queue.toList, Inv n q) (hk : ∀ k ∈ kids, Inv n k) :
    ∀ q ∈ (queue ++ kids.toArray).toList, Inv n q := by
  rw [Array.toList_append, List.forall_mem_append]
  exact ⟨hq, hk⟩

theorem buildOld_leaf_lt (keys : List Bytes) (ls : Bool) (nodes : Array OldNode)
    (h : buildOld keys ls = .ok nodes) :
    ∀ x ∈ nodes.toList, ∀ j, x.leaf = some j → j < keys.length := by
  rcases buildOld_induct
    (fun _ queue nodes => (∀ q ∈ queue.toList, Inv keys.length q) ∧
      ∀ x ∈ nodes.toList, ∀ j, x.leaf = some j → j < keys.length)
    (fun i queue nodes hi hP => by
      obtain ⟨hk, hl⟩ := oldStep_inv (keys.map nibs).toArray ls keys.length queue.size queue[i]
        (hP.1 _ (Array.mem_def.mp (Array.getElem_mem hi)))
      exact ⟨inv_append hP.1 hk, forall_mem_push hP.2 hl⟩)
    (fun hn => ⟨inv_root hn, by simp⟩) h with ⟨_, rfl⟩ | ⟨_, _, _, _, hP⟩
  · simp
  · exact hP.2

end LegacyWrite
