import SlimModel.Encode
/-
  SlimProofs.Encode — property C15 (package encode): every encoder's `Decode` inverts its `Encode`
  on the encoder's domain (`Codec.RoundTrips`).  Fixed-width integers are `leBytes`/`leVal` and
  two's complement (`toS_toU`); for the reflective `TypeEncoder`, `RT` is the round trip of one
  value in a form that composes along a struct's fields (`RT.cons`), and `te_roundTrips` follows by
  induction on the derivation that the value is in the type's domain (`tyRT`).
-/
namespace Encode

theorem leBytes_length (w n : Nat) : (leBytes w n).length = w := by
  induction w generalizing n with
  | zero => rfl
  | succ w ih => simp [leBytes, ih]

theorem beBytes_length (w n : Nat) : (beBytes w n).length = w := by
  simp [beBytes, leBytes_length]

theorem leVal_leBytes (w n : Nat) : leVal (leBytes w n) = n % 2 ^ (8 * w) := by
  induction w generalizing n with
  | zero => simp [leBytes, leVal, Nat.mod_one]
  | succ w ih =>
    simp only [leBytes, leVal, ih, UInt8.toNat_ofNat']
    have h256 : (2 : Nat) ^ (8 * (w + 1)) = 256 * 2 ^ (8 * w) := by
      rw [Nat.mul_add, Nat.pow_add]; simp [Nat.mul_comm]
    rw [h256, Nat.mod_mul]
    simp

theorem beVal_beBytes (w n : Nat) : beVal (beBytes w n) = n % 2 ^ (8 * w) := by
  simp [beVal, beBytes, leVal_leBytes]

theorem leVal_leBytes_of_lt {w n : Nat} (h : n < 2 ^ (8 * w)) : leVal (leBytes w n) = n := by
  rw [leVal_leBytes, Nat.mod_eq_of_lt h]

theorem intBytes_length (bo : BO) (w n : Nat) : (intBytes bo w n).length = w := by
  cases bo <;> simp [intBytes, leBytes_length, beBytes_length]

theorem intVal_intBytes (bo : BO) (w n : Nat) : intVal bo (intBytes bo w n) = n % 2 ^ (8 * w) := by
  cases bo <;> simp [intBytes, intVal, leVal_leBytes, beVal_beBytes]

theorem toU_spec (w : Nat) (v : Int) : ((toU w v : Nat) : Int) = v % (2 : Int) ^ (8 * w) := by
  unfold toU
  exact Int.toNat_of_nonneg (Int.emod_nonneg v (Int.ne_of_gt (Int.pow_pos (by decide))))

theorem toU_lt (w : Nat) (v : Int) : toU w v < 2 ^ (8 * w) := by
  apply Int.ofNat_lt.mp
  rw [toU_spec, Int.natCast_pow]
  exact Int.emod_lt_of_pos v (Int.pow_pos (by decide))

theorem toU_of_nonneg {w : Nat} {v : Int} (h0 : 0 ≤ v) (h1 : v < (2 : Int) ^ (8 * w)) :
    toU w v = v.toNat := by
  unfold toU; rw [Int.emod_eq_of_lt h0 h1]

theorem two_pow_split_nat {w : Nat} (hw : 1 ≤ w) : 2 ^ (8 * w) = 2 * 2 ^ (8 * w - 1) := by
  rw [← Nat.pow_succ', Nat.succ_eq_add_one, Nat.sub_add_cancel (Nat.le_trans hw (Nat.le_mul_of_pos_left w (by decide)))]

theorem two_pow_split {w : Nat} (hw : 1 ≤ w) : (2 : Int) ^ (8 * w) = 2 * (2 : Int) ^ (8 * w - 1) := by
  exact_mod_cast two_pow_split_nat hw

theorem toS_half {w : Nat} (hw : 1 ≤ w) (n : Nat) :
    toS w n = if n < 2 ^ (8 * w - 1) then (n : Int) else n - (2 : Int) ^ (8 * w) := by
  unfold toS
  simp only [two_pow_split_nat hw, Nat.mul_lt_mul_left Nat.zero_lt_two]

/-- reading the residue of `v ∈ [-H, H)` modulo `2H` back as a signed number gives `v` -/
theorem signed_residue {H v : Int} (hlo : -H ≤ v) (hhi : v < H) :
    (if 2 * (v % (2 * H)) < 2 * H then v % (2 * H) else v % (2 * H) - 2 * H) = v := by
  by_cases h0 : 0 ≤ v
  · have h2 : v < 2 * H := by omega
    rw [Int.emod_eq_of_lt h0 h2, if_pos (Int.mul_lt_mul_of_pos_left hhi (by decide))]
  · have hneg : v < 0 := Int.not_le.mp h0
    have hnn : 0 ≤ v + 2 * H := by omega
    have hlt : v + 2 * H < 2 * H := by
      have := Int.add_lt_add_right hneg (2 * H)
      rwa [Int.zero_add] at this
    rw [← Int.add_emod_right, Int.emod_eq_of_lt hnn hlt, if_neg (by omega)]
    exact Int.add_sub_cancel v (2 * H)

theorem toS_toU {w : Nat} (hw : 1 ≤ w) {v : Int} (hv : InS w v) : toS w (toU w v) = v := by
  have hc : (2 * toU w v < 2 ^ (8 * w)) ↔ 2 * (v % (2 : Int) ^ (8 * w)) < (2 : Int) ^ (8 * w) := by
    rw [← toU_spec, ← Int.ofNat_lt]; simp
  unfold toS
  simp only [hc, toU_spec, two_pow_split hw]
  exact signed_residue hv.1 hv.2

theorem beBytes_two (n : Nat) :
    beBytes 2 n = [UInt8.ofNat (n / 256 % 256), UInt8.ofNat (n % 256)] := by
  simp [beBytes, leBytes]

theorem string16Encode_eq (s : Bytes) : string16Encode s = beBytes 2 s.length ++ s := by
  simp [string16Encode, beBytes_two]

theorem string16Encode_length (s : Bytes) : (string16Encode s).length = 2 + s.length := by
  rw [Nat.add_comm]; rfl

theorem hi_lo_256 {n : Nat} (h : n < 2 ^ 16) :
    (n / 256 % 256) % 256 * 256 + (n % 256) % 256 = n := by
  rw [Nat.mod_mod, Nat.mod_mod, Nat.mod_eq_of_lt (Nat.div_lt_of_lt_mul (show n < 256 * 256 from h)),
    Nat.div_add_mod']

theorem string16Len_encode {s : Bytes} (h : s.length < 2 ^ 16) (tail : Bytes) :
    string16Len (string16Encode s ++ tail) = .ok s.length := by
  simp only [string16Encode, List.cons_append, string16Len, UInt8.toNat_ofNat']
  rw [hi_lo_256 h]

theorem leBytes_getElem (w n i : Nat) (h : i < (leBytes w n).length) :
    (leBytes w n)[i] = UInt8.ofNat (n / 256 ^ i % 256) := by
  induction w generalizing n i with
  | zero => simp [leBytes] at h
  | succ w ih =>
    cases i with
    | zero => simp [leBytes]
    | succ i =>
      simp only [leBytes, List.getElem_cons_succ]
      rw [ih]
      rw [Nat.pow_succ, Nat.mul_comm, Nat.div_div_eq_div_mul]

/-- `c` round-trips every value of the domain `D`, in front of any tail, and its three size
    functions agree with the length of the encoding. -/
def Codec.RoundTrips {α : Type} (c : Codec α) (D : α → Prop) : Prop :=
  ∀ v, D v → ∀ tail : Bytes, ∃ e : Bytes,
    c.encode v = .ok e ∧
    c.decode (e ++ tail) = .ok (e.length, v) ∧
    c.getSize v = .ok e.length ∧
    c.getEncodedSize (e ++ tail) = .ok e.length

theorem not_append_length_lt {e : Bytes} {n : Nat} (h : e.length = n) (tail : Bytes) :
    ¬ (e ++ tail).length < n := by
  rw [List.length_append, h]
  exact Nat.not_lt.mpr (Nat.le_add_right _ _)

theorem uintCodec_roundTrips (w : Nat) : (uintCodec w).RoundTrips (InU w) := by
  intro v hv tail
  have hl : (encodeU w v).length = w := leBytes_length w v
  refine ⟨encodeU w v, rfl, ?_, by rw [hl]; rfl, by rw [hl]; rfl⟩
  show decodeU w _ = _
  unfold decodeU
  rw [if_neg (not_append_length_lt hl tail), List.take_left' hl, hl, encodeU,
    leVal_leBytes_of_lt hv]

theorem sintCodec_roundTrips {w : Nat} (hw : 1 ≤ w) : (sintCodec w).RoundTrips (InS w) := by
  intro v hv tail
  have hl : (encodeS w v).length = w := leBytes_length w _
  refine ⟨encodeS w v, rfl, ?_, by rw [hl]; rfl, by rw [hl]; rfl⟩
  show decodeS w _ = _
  unfold decodeS
  rw [if_neg (not_append_length_lt hl tail), List.take_left' hl, hl, encodeS,
    leVal_leBytes_of_lt (toU_lt w v), toS_toU hw hv]

theorem string16_roundTrips : String16.RoundTrips (fun s => s.length < 2 ^ 16) := by
  intro s hs tail
  have hlen := string16Len_encode hs tail
  refine ⟨string16Encode s, rfl, ?_, ?_, ?_⟩
  · show (string16Len _ >>= _) = _
    rw [hlen]
    show (if _ < _ then _ else _) = _
    rw [if_neg (not_append_length_lt (string16Encode_length s) tail), string16Encode_length]
    show Except.ok (_, List.take s.length (s ++ tail)) = _
    rw [List.take_left' rfl]
  · rw [string16Encode_length]; rfl
  · show (string16Len _ >>= _) = _
    rw [hlen, string16Encode_length]; rfl

theorem bytesEnc_roundTrips (n : Nat) : (BytesEnc n).RoundTrips (fun b => b.length = n) := by
  intro b hb tail
  refine ⟨b, rfl, ?_, ?_, ?_⟩
  · simp only [BytesEnc]
    rw [if_neg (by simp [hb]), List.take_left' hb, hb]
  · simp [BytesEnc, hb]
  · simp [BytesEnc, hb]

theorem dummy_roundTrips : Dummy.RoundTrips (fun v => v = Val.nil) := by
  intro v hv tail
  subst hv
  exact ⟨[], rfl, rfl, rfl, rfl⟩

theorem tyDecode_intBytes (bo : BO) (s : Bool) (w n : Nat) (hn : n < 2 ^ (8 * w)) (tail : Bytes) :
    tyDecode bo (.prim s w) (intBytes bo w n ++ tail)
      = .ok (.int (if s then toS w n else (n : Int)), tail) := by
  have hl := intBytes_length bo w n
  rw [tyDecode, if_neg (not_append_length_lt hl tail), List.take_left' hl,
    List.drop_left' hl, intVal_intBytes, Nat.mod_eq_of_lt hn]

def RT {α : Type} (enc : Except Err Bytes) (sz : Nat) (dec : Bytes → Except Err (α × Bytes)) (v : α) :
    Prop :=
  ∀ tail : Bytes, ∃ e, enc = .ok e ∧ e.length = sz ∧ dec (e ++ tail) = .ok (v, tail)

/-- one more element in front: the encodings concatenate, and the decoder of the head leaves the
    encoding of the rest -/
theorem RT.cons {x y : Except Err Bytes} {s1 s2 : Nat} {g1 : Bytes → Except Err (Val × Bytes)}
    {g2 : Bytes → Except Err (List Val × Bytes)} {v : Val} {vs : List Val}
    (h1 : RT x s1 g1 v) (h2 : RT y s2 g2 vs) :
    RT (do let a ← x; let r ← y; pure (a ++ r)) (s1 + s2)
      (fun b => do let (v, b') ← g1 b; let (vs, b'') ← g2 b'; pure (v :: vs, b'')) (v :: vs) := by
  intro tail
  obtain ⟨e2, h2a, h2b, h2c⟩ := h2 tail
  obtain ⟨e1, h1a, h1b, h1c⟩ := h1 (e2 ++ tail)
  refine ⟨e1 ++ e2, by rw [h1a, h2a]; rfl, by rw [List.length_append, h1b, h2b], ?_⟩
  show (do let (v, b') ← g1 (e1 ++ e2 ++ tail); let (vs, b'') ← g2 b'; pure (v :: vs, b'')) = _
  rw [List.append_assoc, h1c]
  show (do let (vs, b'') ← g2 (e2 ++ tail); pure (v :: vs, b'')) = _
  rw [h2c]; rfl

theorem encRep_spec (f : Val → Except Err Bytes) (g : Bytes → Except Err (Val × Bytes)) (sz : Nat)
    (vs : List Val) (ih : ∀ v ∈ vs, RT (f v) sz g v) :
    RT (encRep f vs.length vs) (vs.length * sz) (decRep g vs.length) vs := by
  induction vs with
  | nil => exact fun tail => ⟨[], rfl, (Nat.zero_mul _).symm, rfl⟩
  | cons v vs ihvs =>
    rw [List.length_cons, Nat.succ_mul, Nat.add_comm (vs.length * sz)]
    exact (ih v (List.mem_cons_self ..)).cons (ihvs fun x hx => ih x (List.mem_cons_of_mem _ hx))

theorem struct_rt_iff (bo : BO) (fs : List Ty) (vs : List Val) :
    RT (tyEncode bo (.struct fs) (.seq vs)) (Ty.struct fs).size (tyDecode bo (.struct fs)) (.seq vs) ↔
    RT (tyEncodeFields bo fs vs) (sizeFields fs) (tyDecodeFields bo fs) vs := by
  have hd : ∀ b tail, tyDecode bo (.struct fs) b = .ok (.seq vs, tail) ↔
      tyDecodeFields bo fs b = .ok (vs, tail) := by
    intro b tail
    rw [tyDecode]
    cases tyDecodeFields bo fs b with
    | error e => exact ⟨nofun, nofun⟩
    | ok p => exact ⟨fun h => by cases h; rfl, fun h => by cases h; rfl⟩
  simp only [RT, tyEncode, Ty.size, hd]

theorem tyRT (bo : BO) (t : Ty) (v : Val) (h : InDom t v) :
    RT (tyEncode bo t v) t.size (tyDecode bo t) v := by
  induction h with
  | @unsigned w v h0 h1 =>
    refine fun tail => ⟨_, rfl, intBytes_length .., ?_⟩
    rw [tyDecode_intBytes _ _ _ _ (toU_lt _ _), toU_of_nonneg h0 h1, Int.toNat_of_nonneg h0]
    rfl
  | @signed w v hw hv =>
    refine fun tail => ⟨_, rfl, intBytes_length .., ?_⟩
    rw [tyDecode_intBytes _ _ _ _ (toU_lt _ _), toS_toU hw hv]
    rfl
  | @array n t vs hlen _ ih =>
    intro tail
    subst hlen
    obtain ⟨e, h1, h2, h3⟩ := encRep_spec (tyEncode bo t) (tyDecode bo t) t.size vs ih tail
    refine ⟨e, by rw [tyEncode, h1], by rw [Ty.size, h2], ?_⟩
    rw [tyDecode, h3]; rfl
  | structNil =>
    exact (struct_rt_iff ..).mpr fun tail =>
      ⟨[], by rw [tyEncodeFields], by rw [sizeFields]; rfl, by rw [tyDecodeFields]; rfl⟩
  | @structCons t ts v vs _ _ ihv ihrest =>
    refine (struct_rt_iff ..).mpr ?_
    rw [tyEncodeFields, sizeFields]
    exact ihv.cons ((struct_rt_iff ..).mp ihrest)

theorem tyRTFields (bo : BO) : ∀ (fs : List Ty) (vs : List Val), InDom (.struct fs) (.seq vs) →
    ∀ tail : Bytes, ∃ e, tyEncodeFields bo fs vs = .ok e ∧ e.length = sizeFields fs ∧
      tyDecodeFields bo fs (e ++ tail) = .ok (vs, tail) :=
  fun _ _ h => (struct_rt_iff ..).mp (tyRT bo _ _ h)

theorem te_roundTrips (bo : BO) (t : Ty) : (TE bo t).RoundTrips (InDom t) := by
  intro v hv tail
  obtain ⟨e, h1, h2, h3⟩ := tyRT bo t v hv []
  refine ⟨e, h1, ?_, ?_, ?_⟩
  · simp only [TE]
    rw [if_neg (by simp [h2]), List.take_left' h2]
    simp only [List.append_nil] at h3
    simp [h3, h2, bind, Except.bind, pure, Except.pure]
  · simp [TE, h2]
  · simp [TE, h2]

end Encode
