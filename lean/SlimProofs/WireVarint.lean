import SlimModel.Wire
/-
  SlimProofs.WireVarint — varint lemmas: `decodeVarint ∘ varint = id` below 2^64 (the range of Go's
  uint64), `SizeVarint` is the encoded length, decoded values are below 2^64.
-/
namespace Wire

theorem u8_toNat_ofNat {n : Nat} (h : n < 256) : (UInt8.ofNat n).toNat = n := by
  rw [UInt8.toNat_ofNat']; exact Nat.mod_eq_of_lt h

theorem varint_lt {n : Nat} (h : n < 128) : varint n = [UInt8.ofNat n] := by
  rw [varint]; simp [h]

theorem varint_ge {n : Nat} (h : 128 ≤ n) :
    varint n = UInt8.ofNat (n % 128 + 128) :: varint (n / 128) := by
  rw [varint]; simp [Nat.not_lt.mpr h]

theorem varint_ne_nil (n : Nat) : varint n ≠ [] := by
  by_cases h : n < 128
  · rw [varint_lt h]; simp
  · rw [varint_ge (Nat.le_of_not_lt h)]; simp

theorem varint_length_pos (n : Nat) : 0 < (varint n).length :=
  List.length_pos_iff.mpr (varint_ne_nil n)

/-- `2^(64-7k)`, the values a varint that starts at byte index `k` may have. -/
def vbound (k : Nat) : Nat := 2 ^ (64 - 7 * k)

theorem vbound_succ {k : Nat} (hk : k < 9) : vbound k = 128 * vbound (k + 1) := by
  unfold vbound
  rw [show 64 - 7 * k = 7 + (64 - 7 * (k + 1)) by omega, Nat.pow_add]

theorem vbound_nine : vbound 9 = 2 := rfl

theorem vbound_pos (k : Nat) : 0 < vbound k := Nat.pow_pos (by omega)

theorem vbound_step {k n : Nat} (hk : k ≤ 9) (hn : n < vbound k) (h128 : 128 ≤ n) :
    k < 9 ∧ n / 128 < vbound (k + 1) := by
  have hk9 : k < 9 := by
    rcases Nat.lt_or_eq_of_le hk with h | rfl
    · exact h
    · rw [vbound_nine] at hn; omega
  rw [vbound_succ hk9] at hn
  exact ⟨hk9, Nat.div_lt_of_lt_mul hn⟩

theorem decodeVarintAux_varint (n : Nat) : ∀ (k : Nat) (rest : Bytes), k ≤ 9 → n < vbound k →
    decodeVarintAux k (varint n ++ rest) = some (n, (varint n).length) := by
  induction n using Nat.strongRecOn with
  | _ n ih =>
    intro k rest hk hn
    by_cases h : n < 128
    · rw [varint_lt h]
      have hb : (UInt8.ofNat n).toNat = n := u8_toNat_ofNat (Nat.lt_trans h (by decide))
      simp only [List.cons_append, List.nil_append, decodeVarintAux, hb, h, if_true, List.length_singleton]
      have : ¬ (k = 9 ∧ 2 ≤ n) := by
        rintro ⟨rfl, h2⟩
        rw [vbound_nine] at hn; omega
      simp [this]
    · have h128 : 128 ≤ n := Nat.le_of_not_lt h
      obtain ⟨hk9, hn'⟩ := vbound_step hk hn h128
      rw [varint_ge h128]
      have hb : (UInt8.ofNat (n % 128 + 128)).toNat = n % 128 + 128 :=
        u8_toNat_ofNat (Nat.add_lt_add_right (Nat.mod_lt n (by decide)) 128)
      have hlt : n / 128 < n := Nat.div_lt_self (Nat.lt_of_lt_of_le (by decide) h128) (by decide)
      simp only [List.cons_append, decodeVarintAux, hb, List.length_cons]
      have h1 : ¬ (n % 128 + 128 < 128) := Nat.not_lt.mpr (Nat.le_add_left 128 _)
      simp only [h1, Nat.not_le.mpr hk9, if_false]
      rw [ih (n / 128) hlt (k + 1) rest hk9 hn']
      simp only [Nat.add_sub_cancel, Nat.mod_add_div]

theorem decodeVarint_varint {n : Nat} (h : n < 2 ^ 64) (rest : Bytes) :
    decodeVarint (varint n ++ rest) = some (n, (varint n).length) :=
  decodeVarintAux_varint n 0 rest (by omega) (by simpa [vbound] using h)

theorem unvarint_varint {n : Nat} (h : n < 2 ^ 64) (rest : Bytes) :
    unvarint (varint n ++ rest) = some (n, rest) := by
  simp [unvarint, decodeVarint_varint h]

theorem sizeVarint_lt {n : Nat} (h : n < 128) : sizeVarint n = 1 := by
  rw [sizeVarint]; simp [h]

theorem sizeVarint_ge {n : Nat} (h : 128 ≤ n) : sizeVarint n = 1 + sizeVarint (n / 128) := by
  rw [sizeVarint]; simp [Nat.not_lt.mpr h]

theorem varint_length (n : Nat) : (varint n).length = sizeVarint n := by
  induction n using Nat.strongRecOn with
  | _ n ih =>
    by_cases h : n < 128
    · rw [varint_lt h, sizeVarint_lt h]; rfl
    · have h128 : 128 ≤ n := Nat.le_of_not_lt h
      rw [varint_ge h128, sizeVarint_ge h128, List.length_cons, ih (n / 128) (by omega)]; omega

theorem decodeVarintAux_spec : ∀ (bs : Bytes) (k v n : Nat), k ≤ 9 → decodeVarintAux k bs = some (v, n) →
    v < vbound k ∧ 1 ≤ n ∧ n ≤ bs.length := by
  intro bs
  induction bs with
  | nil => intro k v n _ h; simp [decodeVarintAux] at h
  | cons b bs ih =>
    intro k v n hk h
    simp only [decodeVarintAux] at h
    by_cases hb : b.toNat < 128
    · simp only [hb, if_true] at h
      by_cases h9 : k = 9 ∧ 2 ≤ b.toNat
      · simp [h9] at h
      · simp only [h9, if_false, Option.some.injEq, Prod.mk.injEq] at h
        obtain ⟨rfl, rfl⟩ := h
        refine ⟨?_, Nat.le_refl 1, by simp⟩
        rcases Nat.lt_or_eq_of_le hk with hk9 | rfl
        · rw [vbound_succ hk9]
          exact Nat.lt_of_lt_of_le hb (Nat.le_mul_of_pos_right 128 (vbound_pos _))
        · exact Nat.lt_of_not_le fun h2 => h9 ⟨rfl, h2⟩
    · simp only [hb, if_false] at h
      by_cases h9 : 9 ≤ k
      · simp [h9] at h
      · simp only [h9, if_false] at h
        cases hr : decodeVarintAux (k + 1) bs with
        | none => simp [hr] at h
        | some p =>
          obtain ⟨v', n'⟩ := p
          simp only [hr, Option.some.injEq, Prod.mk.injEq] at h
          obtain ⟨rfl, rfl⟩ := h
          have hk9 : k < 9 := Nat.lt_of_not_le h9
          obtain ⟨hv, hn1, hn2⟩ := ih (k + 1) v' n' hk9 hr
          have hb' := UInt8.toNat_lt b
          refine ⟨?_, Nat.le_add_left 1 n', Nat.succ_le_succ hn2⟩
          rw [vbound_succ hk9]
          omega

theorem decodeVarint_spec {bs : Bytes} {v n : Nat} (h : decodeVarint bs = some (v, n)) :
    v < 2 ^ 64 ∧ 1 ≤ n ∧ n ≤ bs.length := by
  have := decodeVarintAux_spec bs 0 v n (by omega) h
  simpa [vbound] using this

end Wire
