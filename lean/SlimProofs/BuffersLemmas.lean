import SlimModel.Buffers
/-
  The buffer-ownership machine (C20): the run with the caller's scribbles and the run without them
  agree on everything the caller sees (`sim_run`), by a simulation that carries the set of
  scribbled buffers.
-/
namespace Buffers

theorem getBuf_setBuf (bs : Bufs) (id id' : Nat) (b : Bytes) :
    getBuf (setBuf bs id b) id' = if id = id' then b else getBuf bs id' := rfl

/-- the two runs (with and without the scribbles) agree on the instance and on every buffer that
    was not scribbled over since it was last written by the machine -/
def Sim (T : List Nat) (s₁ s₂ : State) : Prop :=
  s₁.inst = s₂.inst ∧ s₁.encSize = s₂.encSize ∧ ∀ id, id ∉ T → getBuf s₁.bufs id = getBuf s₂.bufs id

theorem run_cons (s : State) (op : Op) (ops : List Op) :
    run s (op :: ops) =
      ((run (step s op).1 ops).1,
        match (step s op).2 with
        | some x => x :: (run (step s op).1 ops).2
        | none => (run (step s op).1 ops).2) := rfl

theorem step_sim {T : List Nat} {s₁ s₂ : State} (h : Sim T s₁ s₂) (op : Op) (ops : List Op)
    (hop : op.isScribble = false) (hc : cleanFrom T (op :: ops) = true) :
    (step s₁ op).2 = (step s₂ op).2 ∧
      ∃ T', Sim T' (step s₁ op).1 (step s₂ op).1 ∧ cleanFrom T' ops = true := by
  obtain ⟨hi, he, hb⟩ := h
  cases op with
  | scribble id p => cases hop
  | marshalInto id =>
    refine ⟨congrArg (fun i : Legacy.Instance => some (Out.marshalled (marshalSlim i.inner))) hi,
      T.filter (· ≠ id), ⟨hi, he, ?_⟩, hc⟩
    intro id' hid'
    show getBuf (setBuf s₁.bufs id _) id' = getBuf (setBuf s₂.bufs id _) id'
    rw [getBuf_setBuf, getBuf_setBuf, hi]
    split
    · rfl
    · next hne =>
      refine hb id' fun hm => hid' ?_
      rw [List.mem_filter, decide_eq_true_eq]
      exact ⟨hm, fun e => hne e.symm⟩
  | unmarshalFrom id =>
    simp only [cleanFrom, Bool.and_eq_true, Bool.not_eq_true', List.contains_eq_mem,
      decide_eq_false_iff_not] at hc
    have hstep : ∀ s : State, step s (.unmarshalFrom id)
        = ({ s with inst := (Legacy.Instance.unmarshal s.inst s.encSize (getBuf s.bufs id)).1 },
            some (.loaded (Legacy.Instance.unmarshal s.inst s.encSize (getBuf s.bufs id)).2)) :=
      fun _ => rfl
    rw [hstep, hstep, hi, he, hb id hc.1]
    exact ⟨rfl, T, ⟨rfl, rfl, hb⟩, hc.2⟩
  | buildFrom ks vs opt =>
    simp only [cleanFrom, Bool.and_eq_true, List.all_eq_true, Bool.not_eq_true',
      List.contains_eq_mem, decide_eq_false_iff_not] at hc
    obtain ⟨⟨hk, hv⟩, hc⟩ := hc
    have hks : ks.map (getBuf s₁.bufs) = ks.map (getBuf s₂.bufs) :=
      List.map_congr_left (fun k hk' => hb k (hk k hk'))
    have hvs : vs.map (·.map (getBuf s₁.bufs)) = vs.map (·.map (getBuf s₂.bufs)) := by
      cases vs with
      | none => rfl
      | some l =>
        exact congrArg some (List.map_congr_left (fun k hk' => hb k (hv k hk')))
    simp only [step, hks, hvs]
    split
    · exact ⟨rfl, T, ⟨hi, he, hb⟩, hc⟩
    · split
      · exact ⟨rfl, T, ⟨rfl, he, hb⟩, hc⟩
      · exact ⟨rfl, T, ⟨hi, he, hb⟩, hc⟩
  | query q =>
    exact ⟨congrArg (fun i => some (Out.answered (answer i q))) hi, T, ⟨hi, he, hb⟩, hc⟩

theorem sim_run (ops : List Op) : ∀ (T : List Nat) (s₁ s₂ : State), Sim T s₁ s₂ → cleanFrom T ops = true →
    (run s₁ ops).2 = (run s₂ (ops.filter (fun o => !o.isScribble))).2 ∧
    (run s₁ ops).1.inst = (run s₂ (ops.filter (fun o => !o.isScribble))).1.inst := by
  induction ops with
  | nil => intro T s₁ s₂ h _; exact ⟨rfl, h.1⟩
  | cons op ops ih =>
    intro T s₁ s₂ h hc
    cases hop : op.isScribble with
    | false =>
      obtain ⟨ho, T', hs, hc'⟩ := step_sim h op ops hop hc
      obtain ⟨hout, hinst⟩ := ih T' _ _ hs hc'
      rw [List.filter_cons_of_pos (by rw [hop]; rfl), run_cons, run_cons]
      refine ⟨?_, hinst⟩
      simp only [ho, hout]
    | true =>
      cases op with
      | scribble id p =>
        -- the scribbled buffer joins `T`; the other run does not move
        obtain ⟨hi, he, hb⟩ := h
        refine ih (id :: T) _ s₂ ⟨hi, he, ?_⟩ hc
        intro id' hid'
        rw [List.mem_cons, not_or] at hid'
        show getBuf (setBuf s₁.bufs id _) id' = _
        rw [getBuf_setBuf, if_neg (fun e => hid'.1 e.symm)]
        exact hb id' hid'.2
      | _ => cases hop

theorem sim_refl (s : State) : Sim [] s s := ⟨rfl, rfl, fun _ _ => rfl⟩

theorem step_bufs_unchanged (s : State) (op : Op)
    (h : match op with | .scribble _ _ => False | .marshalInto _ => False | _ => True) :
    (step s op).1.bufs = s.bufs := by
  cases op with
  | scribble id p => exact h.elim
  | marshalInto id => exact h.elim
  | unmarshalFrom id => rfl
  | query q => rfl
  | buildFrom ks vs opt =>
    simp only [step]
    split
    · rfl
    · split <;> rfl

end Buffers
