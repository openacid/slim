import SlimProofs.BitsLemmas.Count
import SlimProofs.BitsLemmas.Words
import SlimProofs.BitsLemmas.Rank
import SlimProofs.BitsLemmas.OfMany
import SlimProofs.BitsLemmas.Select
import SlimProofs.BitsLemmas.Positions
/-
  SlimProofs.BitsLemmas — the word-level bitmap functions of `SlimModel.Bits` characterised by
  their meaning (bit `getBit ws i`, rank `cnt (getBit ws) i`), for all inputs.

  Below: concrete instances (the hypotheses are satisfiable and the conclusions compute).
-/

namespace Bits

example : AscLe [1, 1, 70] ∧ ¬ Asc [1, 1, 70] := by decide
example : ofIdx [1, 1, 70] 0 = [2, 64] := by decide
example : rank64 (newBM [1, 1, 70] 0 "r64") 70 = .ok (1, true) := by
  rw [rank64_newBM _ _ _ (by decide)]; rfl
example : rank128 (newBM [1, 5, 70, 130] 200 "r128") 131 = .ok (4, false) := by
  rw [rank128_newBM _ _ _ (by decide)]; rfl

example : SubsOK [[0, 2], [], [1]] [3, 0, 2] := by simp [SubsOK]
example : ofMany [[0, 2], [], [1]] [3, 0, 2] = [21] := by decide
example : specRank (bitsOf (ofMany [[0, 2], [], [1]] [3, 0, 2])) (([3, 0, 2].take 2).sum + 2) = 3 := by
  rw [specRank_bitsOf, cnt_getBit_ofMany_add (by simp [SubsOK]) 2 2 (by decide) (by decide)]; decide

example : Slim.stepToPos [2, 0, 3] = [0, 2, 2, 5] := by decide
example : distinctPos [2, 0, 3] 0 = [0, 2, 5] := by decide
/-- element 2 is the 1-th non-empty element of sizes `[2, 0, 3]`: it occupies `[2, 5)` -/
example : select32R64 (newBM (Slim.stepToPos [2, 0, 3]) 0 "s32") 1 = .ok (2, 5) := by
  rw [positions_filter]
  exact select32R64_positions_pos [2, 3] (by decide) 1 (by decide)
example : select32R64 (newBM (Slim.stepToPos [2, 1, 3]) 0 "s32") 1 = .ok (2, 3) :=
  select32R64_positions_pos [2, 1, 3] (by decide) 1 (by decide)

end Bits
