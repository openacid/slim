import SlimProofs.SizeVarint
import SlimProofs.WireSlim
/-
  SlimProofs.InputWire — coarse, side-condition-free upper bounds for the protobuf size of a bitmap
  and of an array, from the LENGTHS of their lists only (and well-formedness, which bounds every
  varint).  Used to discharge `Frame.BodyOK` (`length ≤ maxAlloc = 2^48`) from counts that are
  known to be below `2^31`: precision is irrelevant, so a length prefix `sizeVarint L` is bounded
  by `L + 1` (no hypothesis), which at worst doubles the payload at each nesting level.
-/

namespace InputWire

open Wire SizeV

/-- a scalar field: at most two bytes of tag and ten of value -/
theorem sizeVarintF_le (fno v : Nat) (hf : fno * 8 < 2 ^ 14) (hv : v < 2 ^ 64) :
    sizeVarintF fno v ≤ 12 :=
  SizeV.sizeVarintF_le fno v (sizeVarint_le2 hf) (sizeVarint_le10 hv)

/-- a well-formed bitmap message of at most `W` words whose index tables have the lengths `mk`
    gives them -/
structure BMLen (b : BitmapMsg) (W : Nat) : Prop where
  wf : b.WF
  words : b.words.length ≤ W
  rank : b.rankIndex.length ≤ W + 1
  sel : b.selectIndex.length ≤ 2 * W + 1

theorem BMLen.mono {b : BitmapMsg} {W W' : Nat} (h : BMLen b W) (hw : W ≤ W') : BMLen b W' :=
  ⟨h.wf, Nat.le_trans h.words hw, Nat.le_trans h.rank (Nat.add_le_add_right hw 1),
    Nat.le_trans h.sel (Nat.add_le_add_right (Nat.mul_le_mul_left 2 hw) 1)⟩

theorem protoSizeBitmap_le (b : BitmapMsg) (W : Nat) (h : BMLen b W) :
    protoSizeBitmap b ≤ 29 + 50 * W := by
  obtain ⟨⟨w1, w2, w3⟩, hw, hr, hs⟩ := h
  unfold protoSizeBitmap
  have h1 := sizePackedF_le 20 b.words (sizeVarint_le2 (by decide))
    (fun x hx => sizeVarint_le10 (w1 x hx)) hw (sizeVarint_le_succ _)
  have h2 := sizePackedF_le 30 b.rankIndex (sizeVarint_le2 (by decide))
    (fun x hx => sizeVarint_le5 (Nat.lt_trans (w2 x hx) (by decide))) hr (sizeVarint_le_succ _)
  have h3 := sizePackedF_le 40 b.selectIndex (sizeVarint_le2 (by decide))
    (fun x hx => sizeVarint_le5 (Nat.lt_trans (w3 x hx) (by decide))) hs (sizeVarint_le_succ _)
  omega

theorem protoSizeVLenArray_le (v : VLenArrayMsg) (P Q B : Nat) (hwf : v.WF)
    (hp : ∀ b, v.positionBM = some b → protoSizeBitmap b ≤ P)
    (hq : ∀ b, v.presenceBM = some b → protoSizeBitmap b ≤ Q)
    (hb : v.bytes.length ≤ B) :
    protoSizeVLenArray v ≤ 45 + 2 * P + 2 * Q + 2 * B := by
  obtain ⟨w1, w2, w3, _, _⟩ := hwf
  unfold protoSizeVLenArray
  have h1 := sizeVarintF_le 10 v.n (by decide) (Nat.lt_trans w1 (by decide))
  have h2 := sizeVarintF_le 11 v.eltCnt (by decide) (Nat.lt_trans w2 (by decide))
  have h3 := sizeVarintF_le 23 v.fixedSize (by decide) (Nat.lt_trans w3 (by decide))
  have h4 := sizeMsgF_map_le 20 v.positionBM protoSizeBitmap (sizeVarint_le2 (by decide)) hp
    (sizeVarint_le_succ P)
  have h5 := sizeMsgF_map_le 61 v.presenceBM protoSizeBitmap (sizeVarint_le2 (by decide)) hq
    (sizeVarint_le_succ Q)
  have h6 := sizeBytesF_le 30 v.bytes (sizeVarint_le2 (by decide)) hb (sizeVarint_le_succ B)
  omega

end InputWire
