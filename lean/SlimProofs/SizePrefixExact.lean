import SlimProofs.SizePrefixEnc
/-
  SlimProofs.SizePrefixExact — C17, the two exact statements behind the prefix clause:

  * when the root already carries a step, lengthening it changes two raw bytes of
    `InnerPrefixes.Bytes` and nothing else: the serialized sizes are EQUAL
    (`marshal_size_same`, from `SizePrefixEnc.vlen_size_same`; no size hypothesis);
  * when the root gains its first step (finding K1), the presence bitmap of `InnerPrefixes` gets
    index 0 and every entry of its `"r128"` rank index after the first grows by exactly one
    (`presence_rank_gain`, from `indexRank128_cons_zero`, which stands in SizePrefixEnc.lean because the
    size bound is its corollary too).
-/

namespace SizePrefixExact

open Bits Slim Refine Wire SizeV SizePrefixEnc

theorem marshal_size_same {t t' : Trie1} {ws d : Nat} (h : Lengthened t t' ws d) (hws : ws ≠ 0) :
    (marshalSlim (encode t')).length = (marshalSlim (encode t)).length := by
  have hdiff := marshal_diff h
  rw [vlen_size_same h (fun h => absurd h hws)] at hdiff
  exact Nat.add_right_cancel hdiff

/-- Finding K1 at the level of the message: when the root gains its first step, the presence
    bitmap of `InnerPrefixes` is built from `0 :: idx` instead of `idx`, so (by
    `indexRank128_cons_zero`) every entry of its rank index after the first is one larger. -/
theorem presence_rank_gain {t t' : Trie1} {d : Nat} (h : Lengthened t t' 0 d) (hd : d ≠ 0) (k : Nat) :
    ePrefIdx t' = 0 :: ePrefIdx t ∧
    (newBM (ePrefIdx t') (eInners t').length "r128").rankIndex[k]?
      = (newBM (ePrefIdx t) (eInners t).length "r128").rankIndex[k]?.map
          (fun x => if k = 0 then x else x + 1) := by
  obtain ⟨⟨e1, s0⟩, hpos, hlen⟩ := ePrefIdx_gain h hd
  refine ⟨e1, ?_⟩
  rw [e1, hlen]
  exact indexRank128_cons_zero _ _ s0 (filter_range_lt _ _) hpos k

end SizePrefixExact
