import SlimProofs.InputWire
import SlimProofs.EncodeWF
import SlimProofs.SizeBound
import SlimProofs.VLen
/-
  SlimProofs.InputCore — `Refine.Small t` follows from its six counter fields alone
  (`SmallCore t`): for a well-shaped trie whose counters fit an int32 the protobuf body is far
  below the allocator limit `maxAlloc = 2^48` (at most `2^40`: `protoSizeSlim_encodeCreator_le`),
  so the field `body` of `Small` follows from the other six (`small_of_core`).

  The fixed part of the message is `SizeBound.size_le`; every array is below `2^35` bytes
  (`Refine.VLenBits.size`).
-/

namespace InputCore

open Bits Slim Refine Wire InputWire SizeV

/-- `Refine.Small` without its field `body` -/
structure SmallCore (t : Trie1) : Prop where
  bigCnt : t.bigCnt < 2 ^ 31
  nodes : t.nodes.size + 63 < 2 ^ 31
  labelBits : labelBits t + 63 < 2 ^ 31
  innerPrefixBytes : (eStoredPs t).flatten.length + 64 < 2 ^ 31
  leafPrefixBytes : (eLeafPs t).flatten.length + 64 < 2 ^ 31
  leafBytes : ∀ es, t.elts = some es → es.length + 63 < 2 ^ 31 ∧ es.flatten.length + 64 < 2 ^ 31

theorem protoSizeSlim_encodeCreator_le {t : Trie1} (hs : ShapeOK t) (hsm : SmallCore t) :
    protoSizeSlim (encodeCreator t) ≤ 2 ^ 40 := by
  have hn := hsm.nodes
  have hl := hsm.labelBits
  have h := SizeBound.size_le hs (Nat.lt_trans hsm.bigCnt (by decide)) (by omega) (by omega)
  have hT : (eTbl t).length ≤ 1024 := by
    rw [eTbl_length]; exact Nat.pow_le_pow_right (by decide) (eShortSize_le t)
  have hI := eInners_length_le t
  have hc : sizeVarint (2 ^ 35) ≤ 10 := sizeVarint_le10 (by decide)
  have a1 := sizeMsgF_some_le 38 _ (sizeVarint_le2 (by decide))
    (eIps_bits hsm.nodes fun _ => hsm.innerPrefixBytes).size hc
  have a2 := sizeMsgF_map_le 58 (eLps t) protoSizeVLenArray (sizeVarint_le2 (by decide))
    (fun v hv => (eLps_bits hsm.nodes (fun _ => hsm.leafPrefixBytes) v hv).size) hc
  have a3 := sizeMsgF_map_le 60 (encodeCreator t).leaves protoSizeVLenArray
    (sizeVarint_le2 (by decide)) (fun v hv => (leaves_bits hsm.leafBytes v hv).size) hc
  unfold SizeBound.arrays at h
  omega

theorem bodyOK_encode {t : Trie1} (hs : t.nodes.size ≠ 0 → ShapeOK t) (hsm : SmallCore t) :
    Frame.BodyOK (encodeSlim (Slim.encode t)) := by
  unfold Frame.BodyOK Frame.maxAlloc
  rw [← protoSizeSlim_eq]
  unfold Slim.encode
  split
  · decide
  · next h => exact Nat.le_trans (protoSizeSlim_encodeCreator_le (hs h) hsm) (by decide)

theorem small_of_core {t : Trie1} (hs : t.nodes.size ≠ 0 → ShapeOK t) (hsm : SmallCore t) :
    Small t :=
  ⟨hsm.bigCnt, hsm.nodes, hsm.labelBits, hsm.innerPrefixBytes, hsm.leafPrefixBytes, hsm.leafBytes,
    bodyOK_encode hs hsm⟩

theorem core_of_small {t : Trie1} (h : Small t) : SmallCore t :=
  ⟨h.bigCnt, h.nodes, h.labelBits, h.innerPrefixBytes, h.leafPrefixBytes, h.leafBytes⟩

end InputCore
