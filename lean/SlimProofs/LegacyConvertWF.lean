import SlimProofs.LegacyConvertSim
import SlimProofs.BuildShape
import SlimProofs.Tree
/-
  Stage (ii-b) (the stages: LegacyConvertOld): what the loader makes of an old inner node is what
  today's `buildStep` makes of the node's key range when big nodes are off and no key is dropped
  (`buildStep_old_inner`): the branching position is the old common-prefix length
  (`minLcp_eq_brPos`), the labels are end-of-key label + old half-byte labels + 1
  (`keptLabels_eq`), the child ranges are the singleton of the key that ends + the old runs
  (`childRuns_eq`).  The last two are computations: when no key is dropped today's labels and two
  scans are the old grouping run on today's label function (`groupRuns_labels`,
  `groupRuns_eq_childRuns`), and that is the old grouping of the half-bytes behind the key that
  ends (`groupRuns_labelOf`).  And `fixNodes` / `bfs`: `firstChild` by the BFS law, which gives
  back the records `buildStep` made (`fixNodes_strip`).
-/

namespace LegacyConvert
open LegacyWrite Legacy Tree BuildInv

theorem labelOf_rest {keys : List Bytes} {kn : Array (List Nat)}
    (hkn : ∀ t, kn.getD t [] = knOf keys t) {q : Sub} (B : BranchFacts keys kn q)
    (t : Nat) (h1 : restStart kn q ≤ t) (h2 : t < q.e) :
    labelOf keys (brPos kn q) false t = nibAt kn (brPos kn q) t + 1 := by
  have hl := B.longer t h1 h2
  unfold labelOf labelAt
  rw [List.getElem?_eq_getElem hl, nibAt_eq hkn _ _ hl]
  simp only [Bool.false_eq_true, if_false]; omega

theorem labelOf_first {keys : List Bytes} {kn : Array (List Nat)} {q : Sub}
    (B : BranchFacts keys kn q) (he : endsAt kn q = true) :
    labelOf keys (brPos kn q) false q.s = 0 := by
  unfold labelOf
  rw [labelAt_eq_zero_iff, B.ends he]; exact Nat.le_refl _

section
variable {keys : List Bytes} {kn : Array (List Nat)} (hkn : ∀ t, kn.getD t [] = knOf keys t)
  {q : Sub} (hg : SubGood keys q) (B : BranchFacts keys kn q)
include hkn hg B

/-- grouping the keys of the range by today's labels at the old branching position gives the key
    that ends (label 0, alone: the next key is longer), then the old runs -/
theorem groupRuns_labelOf :
    groupRuns (labelOf keys (brPos kn q) false) q.e (q.e - q.s) q.s
      = (if endsAt kn q then [(0, q.s, q.s + 1)] else []) ++
          (runsOf kn q).map (fun x => (x.1 + 1, x.2.1, x.2.2)) := by
  have hrest := groupRuns_succ_label (nibAt kn (brPos kn q)) (labelOf keys (brPos kn q) false) q.e
    (q.e - restStart kn q) (restStart kn q) (fun t h1 h2 => labelOf_rest hkn B t h1 h2)
  have hlt := B.rest_lt
  unfold runsOf
  cases he : endsAt kn q with
  | false =>
    have hs : restStart kn q = q.s := by unfold restStart; rw [he]; rfl
    rw [hs] at hrest ⊢
    exact hrest
  | true =>
    rw [restStart_of_ends he] at hrest hlt ⊢
    obtain ⟨n, hn⟩ : ∃ n, q.e - (q.s + 1) = n + 1 := ⟨q.e - (q.s + 1) - 1, by omega⟩
    have hj : scanWhile (fun t => labelOf keys (brPos kn q) false t == 0) (q.e - (q.s + 1)) (q.s + 1)
        = q.s + 1 := by
      rw [hn, scanWhile, labelOf_rest hkn B (q.s + 1) (Nat.le_of_eq (restStart_of_ends he)) hlt]
      rfl
    rw [show q.e - q.s = q.e - (q.s + 1) + 1 by omega, groupRuns_succ _ _ _ _ hg.lt,
      labelOf_first B he, hj, hrest]
    rfl

theorem keptLabels_eq {c : BCtx} (hc : CtxOK keys (List.replicate keys.length true) {} c) :
    keptLabels c q.s q.e (brPos kn q) false = newLabelsOf (endsAt kn q) (runsOf kn q) := by
  unfold newLabelsOf
  rw [keptLabels_keptIn hc, LeafCount.keptIn_replicate hg.le, ← groupRuns_labels _ _ _ _ (Nat.le_refl _), groupRuns_labelOf hkn hg B,
    List.map_append, List.map_map]
  cases endsAt kn q <;> rfl

theorem childRuns_eq :
    childRuns (labelOf keys (brPos kn q) false) q.e
        (newLabelsOf (endsAt kn q) (runsOf kn q)) q.s
      = (if endsAt kn q then [(0, q.s, q.s + 1)] else []) ++
          (runsOf kn q).map (fun x => (x.1 + 1, x.2.1, x.2.2)) := by
  have h := groupRuns_eq_childRuns (labelOf keys (brPos kn q) false) q.e (q.e - q.s) q.s
  rw [groupRuns_labelOf hkn hg B, List.map_append, List.map_map] at h
  refine Eq.trans ?_ h.symm
  unfold newLabelsOf
  cases endsAt kn q <;> rfl

theorem newLabelsOf_asc (hasc : strictAsc keys = true) {c : BCtx}
    (hc : CtxOK keys (List.replicate keys.length true) {} c) :
    (newLabelsOf (endsAt kn q) (runsOf kn q)).Pairwise (· < ·) := by
  rw [← keptLabels_eq hkn hg B hc]
  exact (keptLabels_spec hc
    (labelOf_mono hasc false hg.le nofun fun t h1 h2 => (B.pre t h1 h2).2)).2

/-- today's branching position (the least adjacent `lcp`) is the old one (`lcp` of first and last) -/
theorem minLcp_eq_brPos {c : BCtx} (hc : CtxOK keys (List.replicate keys.length true) {} c)
    (h2 : q.s + 2 ≤ q.e) : minLcp c q.s q.e = brPos kn q := by
  apply Nat.le_antisymm
  · have hp := prefix_of_minLcp hc hg.le h2 (Nat.le_refl _)
    have hl := hp (q.e - 1) (by omega) (by omega)
    have hf := hp q.s (Nat.le_refl _) hg.lt
    unfold brPos
    rw [hkn, hkn]
    exact BuildTotal.le_lcp_of_take_eq hl.2.symm hf.1 hl.1
  · apply le_minLcp h2
    intro t h1 h3
    rw [hc.lcps t (Nat.lt_of_lt_of_le h3 hg.le)]
    have ha := B.pre t h1 (by omega)
    have hb := B.pre (t + 1) (by omega) h3
    exact BuildTotal.le_lcp_of_take_eq (ha.2.trans hb.2.symm) ha.1 hb.1

/-- **One turn of the loader on an old inner node is `buildStep` on its range**: with big nodes
    off, `buildStep` succeeds and pushes the record the loader makes (with `firstChild` filled in)
    and appends the loader's child ranges. -/
theorem buildStep_old_inner {c : BCtx}
    (hc : CtxOK keys (List.replicate keys.length true) {} c) (st : BSt) (hbig : st.isBig = false)
    (h2 : q.s + 2 ≤ q.e) (hlim : brPos kn q - q.d ≤ 0xffff) :
    buildStep c st { s := q.s, e := q.e, fb := q.d } = .ok { st with
      isBig := false
      queue := st.queue ++
        ((if endsAt kn q then [({ s := q.s, e := q.s + 1, fb := brPos kn q } : Subset)] else []) ++
          (runsOf kn q).map (fun x => ({ s := x.2.1, e := x.2.2, fb := brPos kn q + 1 } : Subset))).toArray
      nodes := st.nodes.push (.inner
        { big := false, labels := newLabelsOf (endsAt kn q) (runsOf kn q),
          firstChild := st.queue.size,
          pref := if brPos kn q - q.d = 0 then Pref.none else Pref.step (brPos kn q - q.d) }) } := by
  rw [buildStep_inner_eq c st _ (by show ¬ q.e - q.s = 1; omega) false (by rw [hbig]; rfl)
    (brPos kn q) (by rw [minLcp_eq_brPos hkn hg B hc h2]; rfl)]
  have hd := B.d_le
  rw [if_neg (by show ¬ brPos kn q < q.d; omega),
    if_neg (by rw [hc.opt]; simpa using hlim)]
  simp only [keyLabel_eq hc, keptLabels_eq hkn hg B hc, childRuns_eq hkn hg B,
    hc.opt, prefOf, Bool.false_eq_true, if_false, List.map_append, List.map_map]
  congr 3
  cases endsAt kn q <;> rfl

end
def fixNode (fc : Nat) : Node → Node
  | .inner r => .inner { r with firstChild := fc }
  | .leaf ith lp => .leaf ith lp

def fixList : Nat → List Node → List Node
  | _, [] => []
  | fc, nd :: rest => fixNode fc nd :: fixList (fc + labCnt nd) rest

def fixNodes (nodes : Array Node) : Array Node := (fixList 1 nodes.toList).toArray

theorem fixList_length (fc : Nat) (l : List Node) : (fixList fc l).length = l.length := by
  induction l generalizing fc with
  | nil => rfl
  | cons nd rest ih => simp [fixList, ih]

theorem fixList_getElem? (fc : Nat) (l : List Node) (j : Nat) :
    (fixList fc l)[j]? = l[j]?.map (fixNode (fc + ((l.take j).map labCnt).sum)) := by
  induction l generalizing fc j with
  | nil => simp [fixList]
  | cons nd rest ih =>
    cases j with
    | zero => simp [fixList]
    | succ j =>
      simp only [fixList, List.getElem?_cons_succ, List.take_succ_cons, List.map_cons,
        List.sum_cons]
      rw [ih]
      congr 2
      omega

theorem fixNodes_size (nodes : Array Node) : (fixNodes nodes).size = nodes.size := by
  simp [fixNodes, fixList_length]

theorem fixNodes_getElem? (nodes : Array Node) (j : Nat) :
    (fixNodes nodes)[j]? = nodes[j]?.map (fixNode (bfs nodes j)) := by
  unfold fixNodes bfs
  rw [List.getElem?_toArray, fixList_getElem?, Array.getElem?_toList]

/-- the loader leaves `firstChild` at 0 -/
def stripNode : Node → Node
  | .inner r => .inner { r with firstChild := 0 }
  | .leaf ith lp => .leaf ith lp

theorem labCnt_stripNode (nd : Node) : labCnt (stripNode nd) = labCnt nd := by
  cases nd <;> rfl

theorem fixNodes_strip (nodes : Array Node) (bcnt : Nat)
    (h : ∀ (j : Nat) (nd : Node), nodes[j]? = some nd →
      BuildShape.NodeSh bcnt (innersBefore nodes j) (leavesBefore nodes j) nd) :
    fixNodes (nodes.map stripNode) = nodes := by
  apply Array.ext_getElem?
  intro j
  rw [fixNodes_getElem?, Array.getElem?_map]
  cases hj : nodes[j]? with
  | none => rfl
  | some nd =>
    cases nd with
    | leaf ith lp => rfl
    | inner r =>
      have h1 := (h j _ hj).1
      have h2 : bfs (nodes.map stripNode) j = bfs nodes j := by
        unfold bfs
        rw [Array.toList_map, ← List.map_take, List.map_map]
        congr 3
        funext nd; exact labCnt_stripNode nd
      rw [bfs_eq_innersBefore] at h1
      simp only [Option.map_some, stripNode, fixNode, h2, ← h1]

end LegacyConvert
