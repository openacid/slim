import SlimModel.Frame
import SlimProofs.Encode
/-
  SlimProofs.WireFrame — the 32-byte header and the framed read: round trip, and what a cut does to
  any stream whose frame parses (a short read inside the frame).
-/
namespace Frame

/-- A version string that fits the header field: ASCII, at most 16 bytes, not ending in NUL. -/
def VersionOK (v : String) : Prop :=
  v.toList.length ≤ 16 ∧ (∀ c ∈ v.toList, c.toNat < 128) ∧ (∀ c, v.toList.getLast? = some c → c.toNat ≠ 0)

instance (v : String) : Decidable (VersionOK v) := by unfold VersionOK; infer_instance

export Encode (leBytes_length)

theorem padVersion_length (v : Bytes) : (padVersion v).length = 16 := by
  simp [padVersion, versionLen]; omega

theorem header_length (ver : String) (n : Nat) : (header ver n).length = 32 := by
  simp [header, padVersion_length, leBytes_length]

theorem frame_length (ver : String) (body : Bytes) : (frame ver body).length = 32 + body.length := by
  simp [frame, header_length]

theorem dropTrailingNul_pad (bs : Bytes) (k : Nat) (h : ∀ b, bs.getLast? = some b → b ≠ 0) :
    dropTrailingNul (bs ++ List.replicate k 0) = bs := by
  unfold dropTrailingNul
  rw [List.reverse_append, List.reverse_replicate, List.dropWhile_append, List.dropWhile_replicate]
  simp only [beq_self_eq_true, if_true, List.isEmpty_nil]
  have : List.dropWhile (fun x => x == (0 : UInt8)) bs.reverse = bs.reverse := by
    cases hr : bs.reverse with
    | nil => rfl
    | cons x xs =>
      have hl : bs.getLast? = some x := by rw [List.getLast?_eq_head?_reverse, hr]; rfl
      have := h x hl
      simp [this]
  rw [this, List.reverse_reverse]

theorem verStr_padVersion (v : String) (h : VersionOK v) : verStr (padVersion (verBytes v)) = v := by
  obtain ⟨hlen, hascii, hlast⟩ := h
  have hl : (verBytes v).length = v.toList.length := by simp [verBytes]
  have htake : (verBytes v).take versionLen = verBytes v :=
    List.take_of_length_le (by rw [hl]; exact hlen)
  have hnl : ∀ b, (verBytes v).getLast? = some b → b ≠ 0 := by
    intro b hb
    simp only [verBytes, List.getLast?_map, Option.map_eq_some_iff] at hb
    obtain ⟨c, hc, rfl⟩ := hb
    have h1 := hlast c hc
    have h2 : c.toNat < 128 := hascii c (List.mem_of_getLast? hc)
    intro h0
    have : (UInt8.ofNat c.toNat).toNat = 0 := by rw [h0]; rfl
    rw [UInt8.toNat_ofNat', Nat.mod_eq_of_lt (Nat.lt_trans h2 (by decide))] at this
    exact h1 this
  unfold verStr padVersion
  rw [htake, dropTrailingNul_pad _ _ hnl]
  have : (verBytes v).map (fun b => Char.ofNat b.toNat) = v.toList := by
    unfold verBytes
    rw [List.map_map]
    conv => rhs; rw [← List.map_id v.toList]
    apply List.map_congr_left
    intro c hc
    have h2 : c.toNat < 128 := hascii c hc
    simp only [Function.comp, id]
    rw [UInt8.toNat_ofNat', Nat.mod_eq_of_lt (Nat.lt_trans h2 (by decide)), Char.ofNat_toNat]
  rw [this, String.ofList_toList]

theorem readHeader_short (bs : Bytes) (h : bs.length < 32) : readHeader bs = .error .truncated := by
  simp [readHeader, headerSize, h]

theorem readHeader_append (a b c tail : Bytes) (ha : a.length = 16) (hb : b.length = 8) (hc : c.length = 8) :
    readHeader (a ++ (b ++ c) ++ tail) = .ok (⟨verStr a, leVal b, leVal c⟩, tail) := by
  have h1 : List.drop 24 a = [] := List.drop_eq_nil_of_le (by omega)
  have h2 : List.drop 32 a = [] := List.drop_eq_nil_of_le (by omega)
  have h3 : List.drop 16 b = [] := List.drop_eq_nil_of_le (by omega)
  simp [readHeader, headerSize, List.drop_append, ha, hb, hc, h1, h2, h3]
  omega

theorem readHeader_header (v : String) (hv : VersionOK v) (n : Nat) (hn : n < 2 ^ 64) (tail : Bytes) :
    readHeader (header v n ++ tail) = .ok (⟨v, 32, n⟩, tail) := by
  unfold header
  rw [readHeader_append _ _ _ tail (padVersion_length _) (leBytes_length 8 _) (leBytes_length 8 _),
    verStr_padVersion v hv, Encode.leVal_leBytes_of_lt (w := 8) (n := n) (by omega),
    Encode.leVal_leBytes_of_lt (w := 8) (n := headerSize) (by decide)]
  rfl

/-- Bodies `make([]byte, n)` can allocate. -/
def BodyOK (body : Bytes) : Prop := body.length ≤ maxAlloc

theorem _root_.Wire.bodyOK_length_lt {body : Bytes} (h : BodyOK body) : body.length < 2 ^ 64 :=
  Nat.lt_of_le_of_lt h (by decide : maxAlloc < 2 ^ 64)

theorem readFrame_frame (v : String) (hv : VersionOK v) (body : Bytes) (hb : BodyOK body) (rest : Bytes) :
    readFrame (frame v body ++ rest) = .ok (v, body, rest) := by
  unfold BodyOK maxAlloc at hb
  unfold readFrame frame
  rw [List.append_assoc, readHeader_header v hv body.length (by omega)]
  have h1 : ¬ (2 ^ 63 ≤ body.length ∨ maxAlloc < body.length) := by unfold maxAlloc; omega
  simp [headerSize, h1]

theorem readHeader_frame (v : String) (hv : VersionOK v) (body : Bytes) (hb : BodyOK body) (rest : Bytes) :
    readHeader (frame v body ++ rest) = .ok (⟨v, 32, body.length⟩, body ++ rest) := by
  unfold frame
  rw [List.append_assoc]
  exact readHeader_header v hv _ (Wire.bodyOK_length_lt hb) _

/-! A short read has nothing to do with how the stream was made: the lemmas on a cut speak of any
  stream whose header (frame) parses. -/

theorem readHeader_take {bs : Bytes} {h : Header} {r : Bytes} (hr : readHeader bs = .ok (h, r)) (cut : Nat) :
    readHeader (bs.take cut) = if cut < 32 then .error .truncated else .ok (h, r.take (cut - 32)) := by
  by_cases hc : cut < 32
  · rw [if_pos hc, readHeader_short _ (Nat.lt_of_le_of_lt (List.length_take_le _ _) hc)]
  · unfold readHeader headerSize at hr ⊢
    split at hr
    · cases hr
    · next hlen =>
      simp only [Except.ok.injEq, Prod.mk.injEq] at hr
      obtain ⟨rfl, rfl⟩ := hr
      have h1 : ¬ (min cut bs.length < 32) := by omega
      -- the three header fields lie in front of the cut
      simp only [List.length_take, h1, hc, if_false, List.take_take, List.drop_take]
      rw [Nat.min_eq_left (by omega), Nat.min_eq_left (by omega), Nat.min_eq_left (by omega)]

/-- A stream whose first frame parses, cut at `cut`: a short read (`io.ReadFull` of the header or of the
    body) inside the frame, the same frame and the cut rest after it. -/
theorem readFrame_take {bs : Bytes} {v : String} {body rest : Bytes} (hr : readFrame bs = .ok (v, body, rest))
    (cut : Nat) :
    readFrame (bs.take cut) =
      if cut < 32 + body.length then .error .truncated else .ok (v, body, rest.take (cut - (32 + body.length))) := by
  unfold readFrame at hr ⊢
  cases hh : readHeader bs with
  | error e => rw [hh] at hr; cases hr
  | ok p =>
    obtain ⟨h, r⟩ := p
    rw [hh] at hr
    rw [readHeader_take hh cut]
    simp only at hr
    split at hr
    · cases hr
    · split at hr
      · cases hr
      · split at hr
        · cases hr
        · next h1 h2 h3 =>
          simp only [Except.ok.injEq, Prod.mk.injEq] at hr
          obtain ⟨rfl, rfl, rfl⟩ := hr
          have hbl : (r.take h.bodySize).length = h.bodySize := by
            rw [List.length_take]; exact Nat.min_eq_left (Nat.le_of_not_lt h3)
          rw [hbl]
          by_cases hc : cut < 32
          · simp [hc, Nat.lt_of_lt_of_le hc (Nat.le_add_right 32 h.bodySize)]
          · simp only [hc, if_false, h1, h2, List.length_take]
            by_cases hc2 : cut < 32 + h.bodySize
            · have : min (cut - 32) r.length < h.bodySize :=
                Nat.lt_of_le_of_lt (Nat.min_le_left _ _) (Nat.sub_lt_left_of_lt_add (Nat.le_of_not_lt hc) hc2)
              simp [hc2, this]
            · have hle : h.bodySize ≤ cut - 32 := Nat.le_sub_of_add_le' (Nat.le_of_not_lt hc2)
              have : ¬ min (cut - 32) r.length < h.bodySize :=
                Nat.not_lt.mpr (Nat.le_min.mpr ⟨hle, Nat.le_of_not_lt h3⟩)
              simp only [hc2, this, if_false, List.take_take, List.drop_take]
              rw [Nat.min_eq_left hle, Nat.sub_sub]

end Frame
