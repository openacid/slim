import SlimProofs.WireStep
/-
  SlimProofs.WireMsg — decode ∘ encode = id and size = length for trie.Bitmap and trie.VLenArray.
-/
namespace Wire

theorem lt32 {x : Nat} (h : x < 2 ^ 31) : x < 2 ^ 32 := Nat.lt_trans h (by decide)

theorem decodeBitmap_encode (b : BitmapMsg) (hwf : b.WF) (hsz : (encodeBitmap b).length < 2 ^ 64) :
    decodeBitmapInto {} (encodeBitmap b) = .ok b := by
  obtain ⟨hw, hr, hs⟩ := hwf
  exact Eats.decode (h := bitmapH) (b := b)
    (.append (.packed (fun a l => { a with words := l }) _ (by simp [bitmapH, repU64_packed _ hw]) rfl) <|
     .append (.packed (fun a l => { a with rankIndex := l }) _ (by simp [bitmapH, repI32_packed _ hr]) rfl) <|
     .packed (fun (a : BitmapMsg) l => { a with selectIndex := l }) _ (by simp [bitmapH, repI32_packed _ hs]) rfl)
    hsz

theorem all_i32ok (l : List Nat) (h : ∀ x ∈ l, x < 2 ^ 31) : l.all i32ok = true := by
  simp only [List.all_eq_true, i32ok, decide_eq_true_eq]; exact h

theorem bitmapI32OK_of_WF (b : BitmapMsg) (h : b.WF) : bitmapI32OK b = true := by
  simp [bitmapI32OK, all_i32ok _ h.2.1, all_i32ok _ h.2.2]

theorem optOK_of {β : Type} {f : β → Bool} {P : β → Prop} (hf : ∀ b, P b → f b = true) {o : Option β}
    (h : ∀ b, o = some b → P b) : optOK f o = true := by
  cases o with
  | none => rfl
  | some b => exact hf b (h b rfl)

theorem checkI32_ok {α : Type} (ok : α → Bool) (m : α) (h : ok m = true) : checkI32 ok (.ok m) = .ok m := by
  simp [checkI32, h]

theorem decodeBitmapTop_encode (b : BitmapMsg) (hwf : b.WF) (hsz : (encodeBitmap b).length < 2 ^ 64) :
    decodeBitmap (encodeBitmap b) = .ok b := by
  unfold decodeBitmap
  rw [decodeBitmap_encode b hwf hsz, checkI32_ok _ _ (bitmapI32OK_of_WF b hwf)]

theorem protoSizeBitmap_eq (b : BitmapMsg) : protoSizeBitmap b = (encodeBitmap b).length := by
  simp [protoSizeBitmap, encodeBitmap, encPackedF_length]

theorem decodeVLenArray_encode (v : VLenArrayMsg) (hwf : v.WF) (hsz : (encodeVLenArray v).length < 2 ^ 64) :
    decodeVLenArrayInto {} (encodeVLenArray v) = .ok v := by
  obtain ⟨hn, hc, hf, hpb, hqb⟩ := hwf
  exact Eats.decode (h := vlenH) (b := v)
    (.append (.scalar (fun a x => { a with n := x }) (fun _ => rfl) rfl (lt32 hn)) <|
     .append (.scalar (fun a x => { a with eltCnt := x }) (fun _ => rfl) rfl (lt32 hc)) <|
     .append (.sub (fun a x => { a with positionBM := x }) _ decodeBitmap_encode hpb
        (fun _ _ hd => by simp [vlenH, msgF, hd]) rfl) <|
     .append (.scalar (fun a x => { a with fixedSize := x }) (fun _ => rfl) rfl (lt32 hf)) <|
     .append (.bytes (fun a x => { a with bytes := x }) _ rfl rfl) <|
     .sub (fun (a : VLenArrayMsg) x => { a with presenceBM := x }) _ decodeBitmap_encode hqb
        (fun _ _ hd => by simp [vlenH, msgF, hd]) rfl)
    hsz

theorem vlenI32OK_of_WF (v : VLenArrayMsg) (h : v.WF) : vlenI32OK v = true := by
  obtain ⟨hn, hc, hf, hp, hq⟩ := h
  simp [vlenI32OK, i32ok, hn, hc, hf, optOK_of bitmapI32OK_of_WF hp,
    optOK_of bitmapI32OK_of_WF hq]

theorem decodeVLenArrayTop_encode (v : VLenArrayMsg) (hwf : v.WF) (hsz : (encodeVLenArray v).length < 2 ^ 64) :
    decodeVLenArray (encodeVLenArray v) = .ok v := by
  unfold decodeVLenArray
  rw [decodeVLenArray_encode v hwf hsz, checkI32_ok _ _ (vlenI32OK_of_WF v hwf)]

theorem protoSizeVLenArray_eq (v : VLenArrayMsg) : protoSizeVLenArray v = (encodeVLenArray v).length := by
  simp only [protoSizeVLenArray, encodeVLenArray, List.length_append, encVarintF_length, encBytesF_length,
    encMsgF_length protoSizeBitmap_eq]

end Wire
