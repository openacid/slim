import SlimProofs.LegacySelect
import SlimProofs.LegacyLeaf
import SlimProofs.Refine.Enc
/-
  The loader after the reconstructed writer, on messages, for 0.5.10 / 0.5.11.

  The inner prefixes that `LegacyWrite.oldInnerPrefixes` derives from today's array and
  `innerPrefixTobitstr` converts back are today's inner prefixes again: the writer cuts the byte
  array at the set positions of the position bitmap (`onesFrom`, `slices`) and rewrites each
  element, the loader's loop is a map over the same elements (`innerPrefixTobitstr_map`), and
  what today's builder stores survives `convertOne ∘ ctrlOfBitstr` (`converts_bitstrOf`).  Only the
  select table of the position bitmap keeps the old word-index entries, which `select32R64`
  tolerates (`select_positions_old`).  `IsBuilt` is the form of the array `Slim.encodeCreator`
  builds under the `InnerPrefix` option.

  `load_0510_msg` adds `fixLeafSize_eq_new`: the loader's two in-memory conversions take `oldMsg`,
  the message an old stream carries for today's message (`decodeSlim` finds it: Legacy0510Wire),
  to `wordSelectMsg`, today's message with word-index select tables.
-/
open Bits

namespace Legacy
open LegacyWrite

theorem wordBits_eq (w base : Nat) :
    wordBits w base = ((List.range 64).filter (fun k => w.testBit k)).map (base + ·) := by
  unfold wordBits
  split
  · next h =>
    subst h
    simp
  · rw [List.range_eq_range']

theorem onesFrom_eq_flatMap (ws : List Nat) (i : Nat) :
    onesFrom ws i = (ws.zipIdx i).flatMap (fun p => wordBits p.1 (p.2 * 64)) := by
  induction ws generalizing i with
  | nil => rfl
  | cons w ws ih => rw [onesFrom, List.zipIdx_cons, List.flatMap_cons, ih, wordBits_eq]

theorem onesFrom_eq_toArray (ws : List Nat) : onesFrom ws 0 = toArray ws := by
  rw [toArray_eq_toArrayFast, toArrayFast, onesFrom_eq_flatMap]

theorem stepToPos_go_head (l : List Nat) (p : Nat) :
    Slim.stepToPos.go l p = p :: (Slim.stepToPos.go l p).drop 1 := by
  cases l <;> rfl

theorem cutAt_go (es : List Bytes) (p : Nat) :
    cutAt es.flatten p ((Slim.stepToPos.go (es.map List.length) p).drop 1) = es := by
  induction es generalizing p with
  | nil => rfl
  | cons e es ih =>
    simp only [List.map_cons, Slim.stepToPos.go, List.drop_succ_cons, List.drop_zero,
      List.flatten_cons]
    rw [stepToPos_go_head, cutAt, Nat.add_sub_cancel_left, List.take_left, List.drop_left, ih]

theorem slices_flatten (es : List Bytes) :
    slices es.flatten (Slim.stepToPos (es.map List.length)) = es := by
  unfold Slim.stepToPos
  rw [stepToPos_go_head, slices, List.drop_zero, cutAt_go]

/-- the array `Slim.encodeCreator` builds from the stored prefixes `nss` (half-byte lists) -/
def IsBuilt (ips : VLenArrayMsg) (nss : List (List Nat)) : Prop :=
  ips.bytes = (nss.map Slim.bitstrOf).flatten ∧
  ips.positionBM = some (newBM (Slim.stepToPos ((nss.map Slim.bitstrOf).map List.length)) 0 "s32")

/-- of `hc` only `0 < e.length` is used; `Converts` is what the caller has -/
theorem oldInnerPrefixes_packed (ips : VLenArrayMsg) (es : List Bytes) (hb : ips.bytes = es.flatten)
    (hp : ips.positionBM = some (newBM (Slim.stepToPos (es.map List.length)) 0 "s32"))
    (hc : ∀ e ∈ es, Converts ctrlOfBitstr id e) :
    oldInnerPrefixes ips =
      { ips with bytes := (es.map ctrlOfBitstr).flatten
                 positionBM :=
                   some (wordIndexSelect (newBM (Slim.stepToPos (es.map List.length)) 0 "s32")) } := by
  have hne : ∀ e ∈ es, 0 < e.length := fun e he => (hc e he).pos
  unfold oldInnerPrefixes
  rw [hp]
  simp only
  have hwords : (newBM (Slim.stepToPos (es.map List.length)) 0 "s32").words
      = ofIdx (Slim.stepToPos (es.map List.length)) 0 := rfl
  rw [hwords, onesFrom_eq_toArray,
    toArray_positions_pos _ (List.forall_mem_map.mpr hne), hb, slices_flatten]
  cases es with
  | nil => rfl
  | cons e t =>
    rw [if_neg]
    have := hne e List.mem_cons_self
    simp only [List.flatten_cons, List.isEmpty_iff, List.append_eq_nil_iff]
    exact fun h => List.length_pos_iff.mp this h.1

theorem innerPrefixes_roundtrip (s : SlimMsg) (ips : VLenArrayMsg) (es : List Bytes)
    (hb : ips.bytes = es.flatten)
    (hp : ips.positionBM = some (newBM (Slim.stepToPos (es.map List.length)) 0 "s32"))
    (hc : ∀ e ∈ es, Converts ctrlOfBitstr id e) :
    innerPrefixTobitstr { s with innerPrefixes := some (oldInnerPrefixes ips) }
      = .ok { s with innerPrefixes := some { ips with positionBM := ips.positionBM.map wordIndexSelect } } := by
  rw [oldInnerPrefixes_packed ips es hb hp hc,
    innerPrefixTobitstr_map ctrlOfBitstr id _ _ _ es rfl rfl rfl hc
      (by rw [List.map_congr_left fun e he => (hc e he).2.1.symm]
          exact select_positions_old _ (List.forall_mem_map.mpr fun e he => (hc e he).pos))]
  simp only [List.map_id, ← hb, hp, Option.map_some]

theorem IsBuilt.roundtrip {ips : VLenArrayMsg} {nss : List (List Nat)} (h : IsBuilt ips nss) (s : SlimMsg) :
    innerPrefixTobitstr { s with innerPrefixes := some (oldInnerPrefixes ips) }
      = .ok { s with innerPrefixes := some { ips with positionBM := ips.positionBM.map wordIndexSelect } } :=
  innerPrefixes_roundtrip s ips _ h.1 h.2 (List.forall_mem_map.mpr fun ns _ => converts_bitstrOf ns)

end Legacy

namespace Legacy
open LegacyWrite

def storedOf (t : Trie1) : List (List Nat) :=
  (Slim.innerRecs t.nodes).filterMap (fun r => match r.pref with | .stored ns => some ns | _ => none)

theorem eStoredPs_eq (t : Trie1) : Refine.eStoredPs t = (storedOf t).map Slim.bitstrOf := by
  unfold Refine.eStoredPs storedOf
  rw [List.map_filterMap]
  congr 1
  funext r
  unfold Refine.storedOf
  cases r.pref <;> rfl

/-- with `InnerPrefix`, `creator.build` stores the bit-string forms of the stored prefixes and the
    position bitmap of their boundaries (without it: fixed-size steps and no position bitmap,
    `Refine.eIps_positionBM_step`, and neither the writer nor the loader touches the array) -/
theorem encodeCreator_isBuilt (t : Trie1) (h : t.opt.inner = true) :
    IsBuilt (Refine.eIps t) (storedOf t) :=
  ⟨by rw [Refine.eIps_bytes_stored h, eStoredPs_eq], by rw [Refine.eIps_positionBM_stored h, eStoredPs_eq]⟩

/-- The message a 0.5.10 / 0.5.11 stream carries for today's message `cur` (what `decodeSlim`
    finds: the writer's rewritten arrays, the retired fields as unknown bytes `u`). -/
def oldMsg (cur : SlimMsg) (u : Bytes) : SlimMsg :=
  { cur with innerPrefixes := cur.innerPrefixes.map oldInnerPrefixes
             leafPrefixes := cur.leafPrefixes.map oldLeafPrefixes
             leaves := cur.leaves.map (fun lv => { bytes := lv.bytes })
             unrecognized := u }

def wordSelectMsg (cur : SlimMsg) (u : Bytes) : SlimMsg :=
  { cur with innerPrefixes := cur.innerPrefixes.map
               (fun ips => { ips with positionBM := ips.positionBM.map wordIndexSelect })
             leafPrefixes := cur.leafPrefixes.map oldLeafPrefixes
             unrecognized := u }

theorem innerPrefixTobitstr_oldMsg (m : SlimMsg) (u : Bytes) (ips : VLenArrayMsg)
    (hips : m.innerPrefixes = some ips)
    (h : (∃ nss, IsBuilt ips nss) ∨ ips.positionBM = none) :
    innerPrefixTobitstr (oldMsg m u) = .ok
      { oldMsg m u with
        innerPrefixes := some { ips with positionBM := ips.positionBM.map wordIndexSelect } } := by
  have e : oldMsg m u = { oldMsg m u with innerPrefixes := some (oldInnerPrefixes ips) } := by
    unfold oldMsg; rw [hips]; rfl
  rcases h with ⟨nss, hb⟩ | hp
  · rw [e]
    exact hb.roundtrip (oldMsg m u)
  · have hold : oldInnerPrefixes ips = ips := by
      unfold oldInnerPrefixes; rw [hp]
    have hsame : ({ ips with positionBM := ips.positionBM.map wordIndexSelect } : VLenArrayMsg) = ips := by
      cases ips; simp only at hp; subst hp; rfl
    rw [hold] at e
    rw [hsame, ← e]
    unfold innerPrefixTobitstr
    have : (oldMsg m u).innerPrefixes = some ips := by rw [e]
    simp only [this, hp]
    rfl

/-- Message-level `load ∘ write` for 0.5.10 / 0.5.11, every option: the two in-memory conversions
    of the loader turn the message of the old stream into today's message of the same trie, up to
    the select tables of the prefix position bitmaps (word indexes, tolerated by `select32R64`)
    and the retired fields kept as unknown bytes.  Leaves: fixed width `w > 0` (all that 0.5.10
    supported), at least one. -/
theorem load_0510_msg (t : Trie1) (es : List Bytes) (w : Nat) (u : Bytes)
    (helts : t.elts = some es) (hw : 0 < w) (hne : es ≠ []) (hes : ∀ v ∈ es, v.length = w) :
    (innerPrefixTobitstr (oldMsg (Slim.encodeCreator t) u) >>= fun m => fixLeafSize m (some w))
      = .ok (wordSelectMsg (Slim.encodeCreator t) u) := by
  have hleaves : (Slim.encodeCreator t).leaves = Slim.newVLenArray es := by
    rw [Slim.encodeCreator_leaves, helts]
  have hnew := newVLenArray_const es w hw hne hes
  have hips := Refine.enc_innerPrefixes t
  have hcase : (∃ nss, IsBuilt (Refine.eIps t) nss) ∨ (Refine.eIps t).positionBM = none := by
    cases hin : t.opt.inner with
    | true => exact .inl ⟨_, encodeCreator_isBuilt t hin⟩
    | false => exact .inr (Refine.eIps_positionBM_step hin)
  generalize Slim.encodeCreator t = m at hleaves hips ⊢
  rw [innerPrefixTobitstr_oldMsg m u _ hips hcase]
  simp only [bind, Except.bind]
  have hl : ({ oldMsg m u with
        innerPrefixes := some { Refine.eIps t with
          positionBM := (Refine.eIps t).positionBM.map wordIndexSelect }
      } : SlimMsg).leaves = some { bytes := es.flatten } := by
    unfold oldMsg
    simp only [hleaves, hnew, Option.map_some]
  rw [fixLeafSize_eq_new _ es w hw hne hes hl]
  unfold wordSelectMsg oldMsg
  simp only [← hleaves, hips, Option.map_some]

end Legacy
