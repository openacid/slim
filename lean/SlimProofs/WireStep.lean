import SlimProofs.WireField
/-
  SlimProofs.WireStep — the field loop consumes what each field writer emits (including nothing,
  when proto3 omits the field), and what the unknown-field normal form describes.
-/
namespace Wire

variable {α : Type} (h : α → Nat → WVal → Except Err (Option α)) (u : α → Bytes → α)

theorem encMsgF_payload_le (fno : Nat) (p : Bytes) : p.length ≤ (encMsgF fno (some p)).length := by
  simp [encMsgF]; omega

/-- In state `a` the field loop consumes the chunk `e`, whatever follows it, and goes on in state
    `b` (a chunk is shorter than 2^64 bytes: lengths are uint64 varints).

    The states are meant to be closed terms: every reader starts from `{}`, each link of a chain
    below yields `set a x` for a one-field update `set`, and the next link is about that very
    state.  So "a field that is not written changes nothing" is `set a 0 = a` (`[]`, `none`) for the
    state reached so far and holds by `rfl`, what the handler does with the field is `rfl` or one
    `simp`, no intermediate state is written down (unification carries it along the chain), and the
    last state is the message itself by eta. -/
def Eats (a : α) (e : Bytes) (b : α) : Prop :=
  e.length < 2 ^ 64 → ∀ rest, decodeMsg h u a (e ++ rest) = decodeMsg h u b rest

variable {h u} {a b c : α} {fno : Nat}

theorem Eats.append {e₁ e₂ : Bytes} (h₁ : Eats h u a e₁ b) (h₂ : Eats h u b e₂ c) :
    Eats h u a (e₁ ++ e₂) c := by
  intro hl rest
  rw [List.length_append] at hl
  rw [List.append_assoc, h₁ (by omega), h₂ (by omega)]

theorem Eats.nil : Eats h u a [] a := fun _ _ => rfl

theorem Eats.decode {e : Bytes} (hr : Eats h u a e b) (hl : e.length < 2 ^ 64) :
    decodeMsg h u a e = .ok b := by
  have := hr hl []
  rwa [List.append_nil, decodeMsg_nil] at this

theorem fnoOK {n : Nat} (h1 : 1 ≤ n := by decide) (h2 : n < 2 ^ 60 := by decide) : FnoOK n := ⟨h1, h2⟩

/-- An `int32` or `uint32` scalar: the unmarshaler keeps the low 32 bits; 0 is not written. -/
theorem Eats.scalar (set : α → Nat → α) {v : Nat}
    (hh : ∀ x, h a fno (.varint x) = .ok (some (set a (x % 2 ^ 32)))) (h0 : set a 0 = a)
    (hv : v < 2 ^ 32) (hf : FnoOK fno := by exact fnoOK) : Eats h u a (encVarintF fno v) (set a v) := by
  intro _ rest
  unfold encVarintF
  by_cases hz : v = 0
  · simp [hz, h0]
  · simp only [hz, if_false]
    exact (isField_varint hf (Nat.lt_trans hv (by decide))).decodeMsg_append (Nat.mod_eq_of_lt hv ▸ hh v) rest

theorem Eats.packed (set : α → List Nat → α) (l : List Nat)
    (hh : h a fno (.bytes (packedPayload l)) = .ok (some (set a l))) (h0 : set a [] = a)
    (hf : FnoOK fno := by exact fnoOK) : Eats h u a (encPackedF fno l) (set a l) := by
  intro hl rest
  unfold encPackedF at hl ⊢
  by_cases hz : l = []
  · simp [hz, h0]
  · simp only [hz, if_false] at hl ⊢
    exact (isField_bytes hf hl).decodeMsg_append hh rest

theorem Eats.bytes (set : α → Bytes → α) (p : Bytes)
    (hh : h a fno (.bytes p) = .ok (some (set a p))) (h0 : set a [] = a)
    (hf : FnoOK fno := by exact fnoOK) : Eats h u a (encBytesF fno p) (set a p) := by
  intro hl rest
  unfold encBytesF at hl ⊢
  by_cases hz : p = []
  · simp [hz, h0]
  · simp only [hz, if_false] at hl ⊢
    exact (isField_bytes hf hl).decodeMsg_append hh rest

/-- A sub-message pointer `o` whose own codec round-trips (`hdec`) on what the pointer may hold
    (`hP`); nil is not written, a present sub-message always is. -/
theorem Eats.sub {β : Type} [Inhabited β] {dec : β → Bytes → Except Err β} {enc : β → Bytes} {P : β → Prop}
    (set : α → Option β → α) (o : Option β)
    (hdec : ∀ x, P x → (enc x).length < 2 ^ 64 → dec default (enc x) = .ok x) (hP : ∀ x, o = some x → P x)
    (hh : ∀ p x, dec default p = .ok x → h a fno (.bytes p) = .ok (some (set a (some x))))
    (h0 : set a none = a) (hf : FnoOK fno := by exact fnoOK) :
    Eats h u a (encMsgF fno (o.map enc)) (set a o) := by
  intro hl rest
  cases o with
  | none => rw [h0]; rfl
  | some x =>
    have hx := Nat.lt_of_le_of_lt (encMsgF_payload_le fno (enc x)) hl
    exact (isField_bytes hf hl).decodeMsg_append (hh _ _ (hdec x (hP x rfl) hx)) rest

variable (h u)

/-- The value `readField` hands over fits the wire type of the key. -/
def Fits (wire : Nat) (v : WVal) : Prop :=
  (wire = 0 ∧ ∃ w, v = .varint w) ∨ (wire = 2 ∧ ∃ p, v = .bytes p) ∨ (wire ≠ 0 ∧ wire ≠ 2 ∧ v = .other)

theorem readValue_fits {wire : Nat} {b : Bytes} {v : WVal} {k : Nat}
    (hr : readValue wire b = .ok (v, k)) : Fits wire v := by
  unfold readValue at hr
  split at hr
  · split at hr
    · simp at hr
    · simp only [Except.ok.injEq, Prod.mk.injEq] at hr
      exact Or.inl ⟨rfl, _, hr.1.symm⟩
  · split at hr
    · simp at hr
    · simp only [Except.ok.injEq, Prod.mk.injEq] at hr
      exact Or.inr (Or.inr ⟨by omega, by omega, hr.1.symm⟩)
  · split at hr
    · simp at hr
    · split at hr
      · simp at hr
      · simp only [Except.ok.injEq, Prod.mk.injEq] at hr
        exact Or.inr (Or.inl ⟨rfl, _, hr.1.symm⟩)
  · split at hr
    · simp at hr
    · simp only [Except.ok.injEq, Prod.mk.injEq] at hr
      exact Or.inr (Or.inr ⟨by omega, by omega, hr.1.symm⟩)
  · split at hr
    · simp at hr
    · simp only [Except.ok.injEq, Prod.mk.injEq] at hr
      exact Or.inr (Or.inr ⟨by omega, by omega, hr.1.symm⟩)
  · simp at hr

theorem readField_ok {bs : Bytes} {x : Nat} {v : WVal} {raw : Bytes} {n : Nat}
    (hr : readField bs = .ok (x, v, raw, n)) :
    ∃ nt k, decodeVarint bs = some (x, nt) ∧ n = nt + k ∧ raw = (bs.drop nt).take k ∧ Fits (x % 8) v := by
  unfold readField at hr
  split at hr
  · simp at hr
  · next x' nt hd =>
    split at hr
    · simp at hr
    · split at hr
      · simp at hr
      · next v' k hv =>
        simp only [Except.ok.injEq, Prod.mk.injEq] at hr
        obtain ⟨rfl, rfl, rfl, rfl⟩ := hr
        exact ⟨nt, k, hd, rfl, rfl, readValue_fits hv⟩

/-- Of a field that `readField` accepts and whose key is canonical, the bytes consumed are the key
    and the raw value (a key below 2^64 is read back from its canonical form with that length). -/
theorem readField_canonical {bs : Bytes} {x : Nat} {v : WVal} {raw : Bytes} {n : Nat}
    (hr : readField bs = .ok (x, v, raw, n)) (hc : (varint x == bs.take (varint x).length) = true) :
    Fits (x % 8) v ∧ 1 ≤ n ∧ varint x ++ raw ++ bs.drop n = bs := by
  obtain ⟨nt, k, hd, rfl, rfl, hfits⟩ := readField_ok hr
  have hpre : varint x = bs.take (varint x).length := by simpa using hc
  have hbs : bs = varint x ++ bs.drop (varint x).length := by
    conv => lhs; rw [← List.take_append_drop (varint x).length bs]
    rw [← hpre]
  have h2 := decodeVarint_varint (decodeVarint_spec hd).1 (bs.drop (varint x).length)
  rw [← hbs, hd] at h2
  simp only [Option.some.injEq, Prod.mk.injEq, true_and] at h2
  subst h2
  refine ⟨hfits, Nat.le_add_right_of_le (varint_length_pos _), ?_⟩
  rw [List.append_assoc, ← List.drop_drop, List.take_append_drop, ← hbs]

/-- The decoder moves a normal-form unknown-field string verbatim into the unknown-field store.
    `hunk`: the typed unmarshalers decline every (number, wire type) outside `known`;
    `hnil`/`happ`: the store is an append-only byte string. -/
theorem decodeMsg_unknownOnly (known : Nat → Nat → Bool)
    (hunk : ∀ acc fno wire v, known fno wire = false → Fits wire v → h acc fno v = .ok none)
    (hnil : ∀ acc, u acc [] = acc) (happ : ∀ acc a b, u (u acc a) b = u acc (a ++ b))
    (bs : Bytes) (acc : α) (hk : unknownOnly known bs = true) : decodeMsg h u acc bs = .ok (u acc bs) := by
  induction bs using unknownOnly.induct generalizing acc with
  | case1 => rw [decodeMsg_nil, hnil]
  | case2 b bs' e hr => simp [unknownOnly, hr] at hk
  | case3 b bs' x v raw m hr ih =>
    rw [unknownOnly] at hk
    simp only [hr, Bool.and_eq_true, Bool.not_eq_true'] at hk
    obtain ⟨⟨hk, hcanon⟩, hrest⟩ := hk
    obtain ⟨hfits, hm, hbs⟩ := readField_canonical hr hcanon
    rw [decodeMsg]
    simp only [hr, hunk acc (x / 8) (x % 8) v hk hfits]
    have hdrop : bs'.drop (m - 1) = (b :: bs').drop m := by
      have : m = (m - 1) + 1 := by omega
      conv => rhs; rw [this, List.drop_succ_cons]
    rw [ih _ hrest, happ, hdrop, hbs]

end Wire
