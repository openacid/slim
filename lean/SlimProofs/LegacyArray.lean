import SlimModel.Legacy
import SlimModel.LegacyWrite
import SlimProofs.BitsLemmas
import SlimProofs.VLen
/-
  SlimProofs.LegacyArray — the three-section layout read back: what the loader's accessors
  (`Legacy.bmhas`, `arrRank`, `u16Get`, `getStep`, `getBM16Child`) return on the
  sections the reconstructed writer (`LegacyWrite.stepsMsg`, `childrenMsg`) wrote,
  for any node list, any index extension (`minWords`, the 0.5.9 "extended index bitmaps") and both
  children encodings.  The index of every section is read through `initIndex_bmhas` /
  `initIndex_rank`; per section: `getStep_stepsMsg` (`C06_step_rebase`),
  `getBM16Child_childrenMsg` (`C06_bm16`), `getBytes_leavesMsg`.
-/
open Bits

namespace Legacy
open LegacyWrite

/-- The ids of a section in the form the Bits library speaks about index lists,
    `(List.range n).filter q`. -/
theorem idsFrom_eq (p : OldNode → Bool) (ns : List OldNode) (i : Nat) :
    idsFrom p i ns = ((List.range ns.length).filter fun j => p (ns.getD j default)).map (i + ·) := by
  induction ns generalizing i with
  | nil => rfl
  | cons n ns ih =>
    have hm : ((i + ·) ∘ Nat.succ) = ((i + 1) + ·) := funext fun j => Nat.add_right_comm i j 1
    rw [idsFrom, ih, List.length_cons, List.range_succ_eq_map, List.filter_cons, List.filter_map]
    show (if p n = true then _ else _) = List.map _ (if p n = true then _ else _)
    split
    · rw [List.map_cons, List.map_map, hm]
      rfl
    · rw [List.map_map, hm]
      rfl

theorem ids_eq (p : OldNode → Bool) (ns : List OldNode) :
    idsWhere ns p = (List.range ns.length).filter fun j => p (ns.getD j default) := by
  rw [idsWhere, idsFrom_eq]
  simp

theorem ids_asc (p : OldNode → Bool) (ns : List OldNode) : Asc (idsWhere ns p) :=
  ids_eq p ns ▸ asc_filter_range _ _

theorem mem_ids (p : OldNode → Bool) (ns : List OldNode) (x : Nat) :
    x ∈ idsWhere ns p ↔ ∃ h : x < ns.length, p ns[x] = true := by
  rw [ids_eq, List.mem_filter, List.mem_range]
  exact ⟨fun ⟨h, hp⟩ => ⟨h, by rwa [getD_eq_getElem _ _ h] at hp⟩,
    fun ⟨h, hp⟩ => ⟨h, by rwa [getD_eq_getElem _ _ h]⟩⟩

theorem ids_rank (p : OldNode → Bool) (ns : List OldNode) (j : Nat) (hj : j ≤ ns.length) :
    ((idsWhere ns p).filter (· < j)).length = (ns.take j).countP p := by
  rw [← cnt_mem_asc (ids_asc p ns)]
  refine Bits.cnt_eq_countP_take ns p _ (fun i a hi => ?_) j hj
  obtain ⟨hlt, rfl⟩ := List.getElem?_eq_some_iff.mp hi
  rw [Bool.eq_iff_iff, decide_eq_true_eq, mem_ids]
  exact ⟨fun ⟨_, h⟩ => h, fun h => ⟨hlt, h⟩⟩

theorem zeroEmpty_eq (ws os : List Nat) :
    zeroEmpty ws os = os.mapIdx fun k o => if ws[k]? = some 0 then 0 else o := by
  induction ws generalizing os with
  | nil =>
    have : zeroEmpty [] os = os := by cases os <;> rfl
    rw [this]
    apply List.ext_getElem?
    intro k
    rw [List.getElem?_mapIdx]
    exact Option.map_id'.symm
  | cons w ws ih =>
    cases os with
    | nil => rfl
    | cons o os =>
      rw [zeroEmpty, ih, List.mapIdx_cons]
      simp

theorem zeroEmpty_length (ws os : List Nat) : (zeroEmpty ws os).length = os.length := by
  rw [zeroEmpty_eq, List.length_mapIdx]

theorem zeroEmpty_mem (ws os : List Nat) : ∀ x ∈ zeroEmpty ws os, x = 0 ∨ x ∈ os := by
  intro x hx
  rw [zeroEmpty_eq, List.mem_mapIdx] at hx
  obtain ⟨k, hk, rfl⟩ := hx
  split
  · exact Or.inl rfl
  · exact Or.inr (List.getElem_mem hk)

theorem zeroEmpty_getElem? (ws os : List Nat) (j w : Nat) (hw : ws[j]? = some w) (hne : w ≠ 0) :
    (zeroEmpty ws os)[j]? = os[j]? := by
  rw [zeroEmpty_eq, List.getElem?_mapIdx, hw]
  simp only [if_neg fun h => hne (Option.some.inj h)]
  exact Option.map_id'

theorem bmhas_eq_getBit (ws : List Nat) (i : Nat) : bmhas ws i = getBit ws i := by
  unfold bmhas getBit
  rw [List.getD_eq_getElem?_getD]
  cases ws[i / 64]? with
  | none => simp
  | some w => rfl

theorem initIndex_bmhas {ids : List Nat} (h : Asc ids) (mw : Nat) (elts : Bytes) (i : Nat) :
    bmhas (initIndex ids mw elts).bitmaps i = decide (i ∈ ids) := by
  unfold initIndex
  simp only
  rw [bmhas_eq_getBit, getBit_ofIdx_asc h.ascLe]

/-- The word and the offset the accessors read for a present id, and the element number they
    derive from them (`Offsets[i>>6] + popcount(word below i)`): the rank of the id. -/
theorem initIndex_read {ids : List Nat} (h : Asc ids) (mw : Nat) (elts : Bytes) (i : Nat)
    (hi : i ∈ ids) :
    ∃ w off, (initIndex ids mw elts).bitmaps[i / 64]? = some w ∧
      (initIndex ids mw elts).offsets[i / 64]? = some off ∧
      w.testBit (i % 64) = true ∧
      off + popcount (w % 2 ^ (i % 64)) = (ids.filter (· < i)).length := by
  have hlen := ofIdx_mem_lt h.ascLe (mw * 64) i hi
  obtain ⟨w, r, hw, hr, hR, hb⟩ :=
    rank64_ok_inv _ _ _ _ (rank64_of_index (ofIdx ids (mw * 64)) false [] i hlen)
  rw [getBit_ofIdx _ _ _ hlen, decide_eq_true hi] at hb
  rw [cnt_getBit_ofIdx _ _ _ (Nat.le_of_lt hlen), eraseDups_of_asc h] at hR
  have hw0 : w ≠ 0 := by
    intro h0
    rw [h0, Nat.zero_testBit] at hb
    cases hb
  exact ⟨w, r, hw, (zeroEmpty_getElem? _ _ _ w hw hw0).trans hr, hb.symm, hR.symm⟩

theorem initIndex_rank {ids : List Nat} (h : Asc ids) (mw : Nat) (elts : Bytes) (i : Nat)
    (hi : i ∈ ids) :
    arrRank (initIndex ids mw elts) i = .ok ((ids.filter (· < i)).length, true) := by
  obtain ⟨w, off, hw, ho, hb, hr⟩ := initIndex_read h mw elts i hi
  unfold arrRank rank64
  simp only [hw, ho, hb, hr]

theorem initIndex_flags (ids : List Nat) (mw : Nat) (elts : Bytes) :
    (initIndex ids mw elts).flags = 0 ∧ (initIndex ids mw elts).elts = elts ∧
    (initIndex ids mw elts).bmElts = none := ⟨rfl, rfl, rfl⟩

theorem bmhas_ids (p : OldNode → Bool) (nodes : List OldNode) (mw : Nat) (elts : Bytes) (id : Nat) :
    bmhas (initIndex (idsWhere nodes p) mw elts).bitmaps id
      = decide (∃ h : id < nodes.length, p nodes[id] = true) := by
  rw [initIndex_bmhas (ids_asc p nodes), Bool.eq_iff_iff, decide_eq_true_eq, decide_eq_true_eq,
    mem_ids]

theorem initIndex_read_ids (p : OldNode → Bool) (nodes : List OldNode) (mw : Nat) (elts : Bytes)
    (id : Nat) (hid : id < nodes.length) (hp : p nodes[id] = true) :
    ∃ w off, (initIndex (idsWhere nodes p) mw elts).bitmaps[id / 64]? = some w ∧
      (initIndex (idsWhere nodes p) mw elts).offsets[id / 64]? = some off ∧
      w.testBit (id % 64) = true ∧
      (nodes.filter p)[off + popcount (w % 2 ^ (id % 64))]? = some nodes[id] := by
  obtain ⟨w, off, hw, ho, hb, hr⟩ :=
    initIndex_read (ids_asc p nodes) mw elts id ((mem_ids p nodes id).mpr ⟨hid, hp⟩)
  rw [ids_rank p nodes id (Nat.le_of_lt hid)] at hr
  exact ⟨w, off, hw, ho, hb, hr ▸ Refine.getElem?_filter_take p nodes id _ (List.getElem?_eq_getElem hid) hp⟩

theorem arrRank_ids (p : OldNode → Bool) (nodes : List OldNode) (mw : Nat) (elts : Bytes) (id : Nat)
    (hid : id < nodes.length) (hp : p nodes[id] = true) :
    ∃ k, arrRank (initIndex (idsWhere nodes p) mw elts) id = .ok (k, true) ∧
      (nodes.filter p)[k]? = some nodes[id] :=
  ⟨_, initIndex_rank (ids_asc p nodes) mw elts id ((mem_ids p nodes id).mpr ⟨hid, hp⟩),
    ids_rank p nodes id (Nat.le_of_lt hid) ▸
      Refine.getElem?_filter_take p nodes id _ (List.getElem?_eq_getElem hid) hp⟩

theorem leBytes2 (v : Nat) : leBytes 2 v = [UInt8.ofNat (v % 256), UInt8.ofNat (v / 256 % 256)] := by
  simp only [leBytes]

theorem leBytes4 (v : Nat) : leBytes 4 v = [UInt8.ofNat (v % 256), UInt8.ofNat (v / 256 % 256),
    UInt8.ofNat (v / 256 / 256 % 256), UInt8.ofNat (v / 256 / 256 / 256 % 256)] := by
  simp only [leBytes]

theorem toNat_ofNat_mod (v : Nat) : (UInt8.ofNat (v % 256)).toNat = v % 256 := by
  rw [UInt8.toNat_ofNat']; omega

def hasStep (n : OldNode) : Bool := n.step != 0

theorem stepsMsg_eq (nodes : List OldNode) (mw : Nat) :
    stepsMsg nodes mw = initIndex (idsWhere nodes hasStep) mw
      ((nodes.filter hasStep).flatMap (fun n => leBytes 2 n.step)) := rfl

theorem u16Get_stepsMsg (nodes : List OldNode) (mw id : Nat) (hid : id < nodes.length)
    (hs : nodes[id].step ≠ 0) :
    u16Get (stepsMsg nodes mw) id = .ok (some (nodes[id].step % 65536)) := by
  rw [stepsMsg_eq]
  have hp : hasStep nodes[id] = true := by simpa [hasStep] using hs
  obtain ⟨w, off, hw, ho, hb, hk⟩ := initIndex_read_ids hasStep nodes mw
    ((nodes.filter hasStep).flatMap (fun n => leBytes 2 n.step)) id hid hp
  obtain ⟨hklt, hkeq⟩ := List.getElem?_eq_some_iff.mp hk
  have e := Refine.flatMap_fixed_getElem? (fun n => leBytes 2 n.step) 2 (nodes.filter hasStep)
    (fun _ _ => rfl) _ hklt
  have e0 := e 0 (by decide)
  rw [Nat.add_zero] at e0
  unfold u16Get
  simp only [hw, ho, hb, pure, Except.pure, Bool.not_true, Bool.false_eq_true, if_false,
    ← Nat.add_mul]
  rw [(initIndex_flags _ _ _).2.1, e0, e 1 (by decide), hkeq]
  simp only [leBytes2, List.getElem?_cons_zero, List.getElem?_cons_succ]
  rw [toNat_ofNat_mod, toNat_ofNat_mod, ← Nat.mod_mul]

/-- `C06_step_rebase`: on the steps section the writer wrote, `getStepBefore000510` returns the
    run length without the label half-byte, `stp - 1` (the Go code then multiplies by 4 for bits),
    and 0 for a node without a stored step — for every node id, any index extension. -/
theorem getStep_stepsMsg (nodes : List OldNode) (mw id : Nat) (hid : id < nodes.length)
    (hlim : nodes[id].step < 65536) :
    getStep (stepsMsg nodes mw) id = .ok (nodes[id].step - 1) := by
  unfold getStep
  have hbm : bmhas (stepsMsg nodes mw).bitmaps id = hasStep nodes[id] := by
    rw [stepsMsg_eq, bmhas_ids]
    simp only [hid, exists_true_left, Bool.decide_eq_true]
  rw [hbm]
  by_cases hs : nodes[id].step = 0
  · have : hasStep nodes[id] = false := by simp [hasStep, hs]
    rw [this, hs]
    rfl
  · have : hasStep nodes[id] = true := by simpa [hasStep] using hs
    rw [this, if_pos rfl, u16Get_stepsMsg nodes mw id hid hs]
    simp only [bind, Except.bind, pure, Except.pure]
    exact congrArg Except.ok (by omega)

abbrev isInner : OldNode → Bool := fun n => n.inner

theorem digits4 (B a b c d n : Nat) (ha : a < B) (hb : b < B) (hc : c < B) (hd : d < B)
    (hn : n = a + b * B + c * (B * B) + d * (B * B * B)) :
    n / 1 % B = a ∧ n / B % B = b ∧ n / (B * B) % B = c ∧ n / (B * B * B) % B = d := by
  have hB : 0 < B := Nat.zero_lt_of_lt ha
  have q : ∀ x r, x < B → (x + r * B) / B = r := fun x r hx => by
    rw [Nat.add_mul_div_right _ _ hB, Nat.div_eq_of_lt hx, Nat.zero_add]
  have m : ∀ x r, x < B → (x + r * B) % B = x := fun x r hx => by
    rw [Nat.add_mul_mod_self_right, Nat.mod_eq_of_lt hx]
  have hh : n = a + (b + (c + d * B) * B) * B := by
    rw [hn]
    simp only [Nat.add_mul, Nat.mul_assoc, Nat.add_assoc]
  subst hh
  refine ⟨?_, ?_, ?_, ?_⟩
  · rw [Nat.div_one, m _ _ ha]
  · rw [q _ _ ha, m _ _ hb]
  · rw [← Nat.div_div_eq_div_mul, q _ _ ha, q _ _ hb, m _ _ hc]
  · rw [← Nat.div_div_eq_div_mul, ← Nat.div_div_eq_div_mul, q _ _ ha, q _ _ hb, q _ _ hc,
      Nat.mod_eq_of_lt hd]

theorem getD_lt (l : List Nat) (hlt : ∀ b ∈ l, b < 65536) (j : Nat) : l.getD j 0 < 65536 := by
  rw [List.getD_eq_getElem?_getD]
  cases h : l[j]? with
  | none => simp
  | some v => simp; exact hlt v (List.mem_of_getElem? h)

theorem packBM16_cons (a : Nat) (rest : List Nat) :
    packBM16 (a :: rest) =
      (a + rest.getD 0 0 * 65536 + rest.getD 1 0 * 4294967296 + rest.getD 2 0 * 281474976710656)
        :: packBM16 (rest.drop 3) := by
  rw [packBM16]

theorem packBM16_get (bms : List Nat) (hlt : ∀ b ∈ bms, b < 65536) (k : Nat) (hk : k < bms.length) :
    ∃ w, (packBM16 bms)[k / 4]? = some w ∧ (w / 2 ^ (16 * (k % 4))) % 65536 = bms.getD k 0 := by
  induction bms using packBM16.induct generalizing k with
  | case1 => simp at hk
  | case2 a rest ih =>
    have ha : a < 65536 := hlt a (by simp)
    have hrest : ∀ b ∈ rest, b < 65536 := fun b hb => hlt b (List.mem_cons_of_mem _ hb)
    rw [packBM16_cons]
    obtain ⟨h0, h1, h2, h3⟩ := digits4 65536 a _ _ _ _ ha (getD_lt rest hrest 0) (getD_lt rest hrest 1)
      (getD_lt rest hrest 2) rfl
    match k, hk with
    | 0, _ => exact ⟨_, rfl, h0⟩
    | 1, _ => exact ⟨_, rfl, h1⟩
    | 2, _ => exact ⟨_, rfl, h2⟩
    | 3, _ => exact ⟨_, rfl, h3⟩
    | m + 4, hk =>
      have hk' : m < (rest.drop 3).length := by
        rw [List.length_drop]
        exact Nat.lt_sub_of_add_lt (Nat.lt_of_succ_lt_succ hk)
      obtain ⟨w, hw1, hw2⟩ := ih (fun x hx => hrest x (List.mem_of_mem_drop hx)) m hk'
      refine ⟨w, ?_, ?_⟩
      · rw [Nat.add_div_right m (by decide), List.getElem?_cons_succ]; exact hw1
      · rw [Nat.add_mod_right, hw2]
        simp only [List.getD_eq_getElem?_getD, List.getElem?_drop, List.getElem?_cons_succ,
          Nat.add_comm 3 m]

theorem getBM16Child_packed (a : Array32Msg) (id k : Nat) (be : BitsMsg) (bms : List Nat)
    (hr : arrRank a id = .ok (k, true)) (hfl : ¬ (a.flags / 2) % 2 = 0) (hbe : a.bmElts = some be)
    (hwords : be.words = packBM16 bms) (hlt : ∀ b ∈ bms, b < 65536) (hk : k < bms.length) :
    getBM16Child a id = .ok (bms.getD k 0 * 2) := by
  obtain ⟨w, hw1, hw2⟩ := packBM16_get bms hlt k hk
  have e1 : k * 16 / 64 = k / 4 := Nat.mul_div_mul_right k 4 (by decide)
  have e2 : k * 16 % 64 = 16 * (k % 4) := (Nat.mul_mod_mul_right 16 k 4).trans (Nat.mul_comm _ _)
  have e3 : (2 : Nat) ^ 16 = 65536 := by decide
  unfold getBM16Child
  simp only [hr, bind, Except.bind, pure, Except.pure, hfl, if_false, hbe, hwords, e1, e2, e3, hw1,
    Nat.shiftRight_eq_div_pow, hw2]

theorem getBM16Child_u32 (a : Array32Msg) (id k : Nat) (l : List OldNode) (n : OldNode)
    (hr : arrRank a id = .ok (k, true)) (hfl : (a.flags / 2) % 2 = 0)
    (helts : a.elts = l.flatMap u32Child) (hk : l[k]? = some n) (hbm : n.bm < 65536) :
    getBM16Child a id = .ok (n.bm * 2) := by
  obtain ⟨hklt, rfl⟩ := List.getElem?_eq_some_iff.mp hk
  have e := Refine.flatMap_fixed_getElem? u32Child 4 l (fun _ _ => rfl) k hklt
  have e0 := e 0 (by decide)
  rw [Nat.add_zero] at e0
  unfold getBM16Child
  simp only [hr, bind, Except.bind, pure, Except.pure, hfl, if_true, helts, e0, e 1 (by decide),
    e 2 (by decide), e 3 (by decide), u32Child, leBytes4, List.getElem?_cons_zero,
    List.getElem?_cons_succ]
  rw [toNat_ofNat_mod, toNat_ofNat_mod, ← Nat.mod_mul]
  exact congrArg (fun x => Except.ok (x * 2))
    ((Nat.add_mul_mod_self_right _ _ 65536).trans (Nat.mod_eq_of_lt hbm))

/-- `C06_bm16`: on the children section the writer wrote — uint32 elements (≤ 0.5.3) or 16-bit
    bitmap elements (≥ 0.5.4), any index extension — `getBM16Child` returns the node's label
    bitmap shifted by one (`bm << 1`: bit 0 is left for the end-of-key label the loader adds when
    the node is also a leaf). -/
theorem getBM16Child_childrenMsg (vr : Variant) (nodes : List OldNode) (mw id : Nat)
    (hid : id < nodes.length) (hin : nodes[id].inner = true) (hbm : ∀ n ∈ nodes, n.bm < 65536) :
    getBM16Child (childrenMsg vr nodes mw) id = .ok (nodes[id].bm * 2) := by
  obtain ⟨k, hr, hk⟩ := arrRank_ids isInner nodes mw [] id hid hin
  have hne : nodes.isEmpty = false := by
    cases nodes with
    | nil => simp at hid
    | cons _ _ => rfl
  unfold childrenMsg
  by_cases hv : vr.bitmapChild = true
  · simp only [hv, Bool.not_true, Bool.false_eq_true, if_false, hne, Bool.false_and]
    have hklt : k < ((nodes.filter isInner).map (·.bm)).length := by
      rw [List.length_map]
      exact (List.getElem?_eq_some_iff.mp hk).1
    refine (getBM16Child_packed _ id _ _ ((nodes.filter isInner).map (·.bm)) ?_ ?_ rfl rfl ?_
      hklt).trans ?_
    · exact hr
    · show ¬ (3 / 2) % 2 = 0
      decide
    · intro b hb
      obtain ⟨n, hn, rfl⟩ := List.mem_map.mp hb
      exact hbm n (List.mem_filter.mp hn).1
    · rw [List.getD_eq_getElem?_getD, List.getElem?_map, hk]
      rfl
  · have hv' : vr.bitmapChild = false := by simpa using hv
    simp only [hv', Bool.not_false, if_true]
    exact getBM16Child_u32 _ id _ (nodes.filter isInner) nodes[id] hr (by simp [initIndex]) rfl hk
      (hbm _ (List.getElem_mem hid))

theorem childrenMsg_bitmaps (vr : Variant) (nodes : List OldNode) (mw : Nat) :
    (childrenMsg vr nodes mw).bitmaps = (initIndex (idsWhere nodes (·.inner)) mw []).bitmaps := by
  unfold childrenMsg
  simp only
  split
  · rfl
  · split <;> rfl

def leafVal (vals : Array Bytes) (n : OldNode) : Bytes :=
  match n.leaf with
  | some k => vals.getD k []
  | none => []

abbrev isLeaf : OldNode → Bool := fun n => n.leaf.isSome

theorem leavesMsg_eq (nodes : List OldNode) (vals : Array Bytes) :
    leavesMsg nodes vals = initIndex (idsWhere nodes isLeaf) 0 (nodes.flatMap (leafVal vals)) := rfl

theorem flatMap_filter_nil {α : Type} (f : α → Bytes) (p : α → Bool) (h : ∀ a, p a = false → f a = [])
    (l : List α) : l.flatMap f = (l.filter p).flatMap f := by
  induction l with
  | nil => rfl
  | cons a l ih =>
    rw [List.flatMap_cons, ih]
    cases hp : p a
    · rw [List.filter_cons_of_neg (by simp [hp]), h a hp, List.nil_append]
    · rw [List.filter_cons_of_pos hp, List.flatMap_cons]

/-- `Base.GetBytes(id, w)` on the leaves section the writer wrote: the encoded value of the key
    that ends at node `id` (all values of width `w`), any id of a node that is a leaf (also when it
    is an inner node at the same time). -/
theorem getBytes_leavesMsg (nodes : List OldNode) (vals : Array Bytes) (w id k : Nat)
    (hid : id < nodes.length) (hleaf : nodes[id].leaf = some k)
    (hw : ∀ n ∈ nodes, ∀ j, n.leaf = some j → (vals.getD j []).length = w) :
    getBytes (leavesMsg nodes vals) id w = .ok (some (vals.getD k [])) := by
  rw [leavesMsg_eq]
  have hp : isLeaf nodes[id] = true := by simp [isLeaf, hleaf]
  obtain ⟨r, hr, hk⟩ := arrRank_ids isLeaf nodes 0 (nodes.flatMap (leafVal vals)) id hid hp
  unfold getBytes
  simp only [hr, bind, Except.bind, pure, Except.pure, Bool.not_true, Bool.false_eq_true, if_false]
  have helts : (initIndex (idsWhere nodes isLeaf) 0 (nodes.flatMap (leafVal vals))).elts
      = (nodes.filter isLeaf).flatMap (leafVal vals) := by
    show nodes.flatMap (leafVal vals) = _
    apply flatMap_filter_nil
    intro a ha
    unfold leafVal
    cases hl : a.leaf with
    | none => rfl
    | some j => simp [isLeaf, hl] at ha
  have hwid : ∀ a ∈ nodes.filter isLeaf, (leafVal vals a).length = w := by
    intro a ha
    obtain ⟨ham, hap⟩ := List.mem_filter.mp ha
    unfold leafVal
    cases hl : a.leaf with
    | none => simp [isLeaf, hl] at hap
    | some j => exact hw a ham j hl
  obtain ⟨hklt, hkeq⟩ := List.getElem?_eq_some_iff.mp hk
  obtain ⟨h1, h2⟩ := Refine.flatMap_fixed_slice (leafVal vals) w (nodes.filter isLeaf) hwid _ hklt
  rw [helts, Nat.mul_comm w, Slim.sliceBytes_ok _ _ _ h1, h2, hkeq]
  unfold leafVal
  rw [hleaf]

end Legacy
