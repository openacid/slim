import SlimModel.Stat
import SlimProofs.Refine
import SlimProofs.BuildShape
import SlimProofs.Subtree
import SlimProofs.Tree
/-
  `Slim.initLevels` on the message of a record array (`Slim.encode t`), for a BFS-numbered tree
  (`TreeOK`, SlimProofs/Tree.lean).  One step of the level walk goes from `c` to
  `Tree.bfs t.nodes c`, the first node of the next BFS level: what the walk computes by two ranks
  (`ithInnerFrom`, Go: `getIthInnerFrom`, and a rank in `Inners`) is `bfs` (`walk_succ`).  The ids
  visited increase strictly below `N = t.nodes.size`, which pays for the fuel, and
  `entry t c = (c, inner nodes before c, c − that)` is recorded for each (`walk_ok`,
  `initLevels_encode`); the third component is the number of leaves before `c` only for `c ≤ N`
  (`entry_leaf`).  `stat_levels` is `Stat` on such a table: the last entry is the totals.
-/

namespace StatLemmas

open Bits Slim Refine Tree

theorem ithInnerFrom_encode {t : Trie1} (hs : ShapeOK t) (m : Nat) (r : InnerRec)
    (hr : (eInners t)[m]? = some r) :
    ithInnerFrom (encodeCreator t) m = .ok (baseOf t m) := by
  have hm : m ≤ (eInners t).length := Nat.le_of_lt (List.getElem?_eq_some_iff.mp hr).1
  rw [ithInnerFrom, enc_bigInnerCnt]
  by_cases hb : m < t.bigCnt
  · rw [if_pos hb, baseOf_big hs m hm (Nat.le_of_lt hb)]
    rfl
  · obtain ⟨w, n, hw, hn, hx, -⟩ := rank64_ok_inv _ _ _ _ (shortBM_rank m r hr)
    rw [if_neg hb, enc_shortBM]
    dsimp only [bind, Except.bind]
    rw [hw, hn]
    dsimp only
    rw [← hx, enc_shortSize, baseOf_int hs m hm (Nat.le_of_not_lt hb),
      if_neg (Int.not_lt.mpr (Int.natCast_nonneg _)), Int.toNat_natCast]
    rfl

theorem rank64_last {idxs : List Nat} (hasc : Asc idxs) (capa : Nat) (hpos : 0 < capa) :
    ∃ ti b, rank64 (newBM idxs capa "r64") ((newBM idxs capa "r64").words.length * 64 - 1)
        = .ok (ti, b) ∧ ti + (if b then 1 else 0) = idxs.length := by
  have hW : 0 < 64 * (ofIdx idxs capa).length := Nat.lt_of_lt_of_le hpos (capa_le_ofIdx_length idxs capa)
  rw [newBM, mk_r64, Nat.mul_comm]
  refine ⟨_, _, rank64_of_index _ false [] _ (Nat.sub_lt hW Nat.one_pos), ?_⟩
  rw [cnt_last _ hW, cnt_getBit_ofIdx_all hasc]

theorem innersBefore_all (t : Trie1) : innersBefore t.nodes t.nodes.size = eInners t := by
  rw [innersBefore_eq, eInners_eq, List.take_of_length_le (by simp)]

theorem eInnerIdx_length (t : Trie1) : (eInnerIdx t).length = (eInners t).length := by
  rw [eInners_eq, ← countP_isInner, ← List.take_length (l := t.nodes.toList),
    ← cnt_eq_countP_take _ _ _ (nodeType_hq t) _ (Nat.le_refl _)]
  exact (cnt_eq_length_filter _ _).symm

theorem rank_nt_last (t : Trie1) (hpos : 0 < t.nodes.size) :
    ∃ ti b, rank64 (newBM (eInnerIdx t) t.nodes.size "r64")
        ((newBM (eInnerIdx t) t.nodes.size "r64").words.length * 64 - 1) = .ok (ti, b) ∧
      ti + (if b then 1 else 0) = (eInners t).length := by
  obtain ⟨ti, b, h1, h2⟩ := rank64_last (idxs := eInnerIdx t) (asc_filter_range _ _) t.nodes.size hpos
  exact ⟨ti, b, h1, by rw [h2, eInnerIdx_length]⟩

/-- the labels of all inner nodes: one per non-root node -/
theorem sum_labels {t : Trie1} (hs : ShapeOK t) :
    ((eInners t).map (fun r => r.labels.length)).sum + 1 = t.nodes.size := by
  have := hs.total
  rw [innersBefore_all, Nat.add_comm] at this
  exact this.symm

theorem rank_inners_last {t : Trie1} (hs : ShapeOK t) (hI : 0 < (eInners t).length) :
    ∃ tt b, rank128 (eInnersBM t) ((eInnersBM t).words.length * 64 - 1) = .ok (tt, b) ∧
      tt + (if b then 1 else 0) + 1 = t.nodes.size := by
  rw [eInnersBM_words, Nat.mul_comm]
  -- at least one element, of positive size
  obtain ⟨r, hr⟩ : ∃ r, (eInners t)[0]? = some r := ⟨_, List.getElem?_eq_getElem hI⟩
  have hW : 0 < 64 * (ofMany (eSubs t) (eSizes t)).length := baseOf_lt hs 0 r hr
  refine ⟨_, _, rank128_mk_cnt _ _ (Nat.sub_lt hW Nat.one_pos), ?_⟩
  rw [cnt_last _ hW, cnt_ofMany (eSub_ok hs), eSubs_lengths hs]
  exact sum_labels hs

/-- the level entry of node id `c`: (nodes before `c`, inner nodes before `c`, the rest); the rest
    are the leaves before `c` as long as `c ≤ N` (`entry_leaf`) -/
def entry (t : Trie1) (c : Nat) : Level :=
  (c, (innersBefore t.nodes c).length, c - (innersBefore t.nodes c).length)

theorem innersBefore_le (t : Trie1) (c : Nat) :
    (innersBefore t.nodes c).length ≤ c := by
  rw [innersBefore_eq]
  have := List.length_filterMap_le innerOf (t.nodes.toList.take c)
  rw [List.length_take] at this
  exact Nat.le_trans this (Nat.min_le_left _ _)

/-- what the walk computes by two ranks is `bfs` -/
theorem bfs_eq_take (t : Trie1) (c : Nat) :
    (((eInners t).take (innersBefore t.nodes c).length).map (fun r => r.labels.length)).sum + 1
      = bfs t.nodes c := by
  rw [← innersBefore_eq_take, Nat.add_comm]; exact bfs_eq_innersBefore _ _

theorem bfs_lt {t : Trie1} (h : TreeOK t) {c : Nat}
    (hlt : (innersBefore t.nodes c).length < (eInners t).length) : bfs t.nodes c < t.nodes.size := by
  obtain ⟨j, hj, hjm⟩ := inner_at t _ _ (List.getElem?_eq_getElem hlt)
  -- `bfs` only looks at the inner nodes before: `bfs c` is the first child of the next inner node
  rw [← bfs_eq_take, ← hjm, bfs_eq_take, ← fc_eq h.shape hj]
  exact kid_lt h.shape hj (k := 0) (List.length_pos_iff.mpr (h.shape.labels j _ hj).1)

theorem walk_succ {t : Trie1} (hs : ShapeOK t) {c : Nat} (hc : c < t.nodes.size) (fuel : Nat)
    (acc : List Level) :
    initLevels.walk (encodeCreator t) (newBM (eInnerIdx t) t.nodes.size "r64")
      (eInners t).length (fuel + 1) c acc =
    if (innersBefore t.nodes c).length = (eInners t).length then .ok (entry t c :: acc)
    else initLevels.walk (encodeCreator t) (newBM (eInnerIdx t) t.nodes.size "r64")
      (eInners t).length fuel
      (bfs t.nodes c) (entry t c :: acc) := by
  rw [← bfs_eq_take, initLevels.walk, rank_nodeType t c _ (Array.getElem?_eq_getElem hc)]
  dsimp only [bind, Except.bind]
  by_cases hm : (innersBefore t.nodes c).length = (eInners t).length
  · rw [if_pos hm, if_pos hm]
    rfl
  · obtain ⟨r, hr⟩ : ∃ r, (eInners t)[(innersBefore t.nodes c).length]? = some r :=
      ⟨_, List.getElem?_eq_getElem (Nat.lt_of_le_of_ne (innersBefore_length_le t c) hm)⟩
    obtain ⟨b, hrank⟩ := rank128_encode hs _ r hr
    rw [if_neg hm, if_neg hm, ithInnerFrom_encode hs _ r hr, enc_inners]
    dsimp only
    rw [hrank]
    rfl

theorem pairwise_lt_cons {a b : Nat} {l : List Nat} (hab : a < b)
    (h : (b :: l).Pairwise (· < ·)) : (a :: b :: l).Pairwise (· < ·) :=
  List.pairwise_cons.mpr ⟨fun x hx => (List.mem_cons.mp hx).elim (fun e => e ▸ hab)
    (fun hx' => Nat.lt_trans hab ((List.pairwise_cons.mp h).1 x hx')), h⟩

def Orbit (f : Nat → Nat) : List Nat → Prop
  | a :: b :: l => b = f a ∧ Orbit f (b :: l)
  | _ => True

/-- behind the last inner node no parent is left: the level that starts there is the last -/
theorem bfs_last {t : Trie1} (hs : ShapeOK t) {c : Nat}
    (hm : (innersBefore t.nodes c).length = (eInners t).length) : bfs t.nodes c = t.nodes.size := by
  rw [← bfs_eq_take, hm, List.take_length, sum_labels hs]

theorem walk_ok {t : Trie1} (h : TreeOK t) :
    ∀ fuel c, c < t.nodes.size → t.nodes.size < c + fuel → ∀ acc,
      ∃ cs : List Nat, (c :: cs ++ [t.nodes.size]).Pairwise (· < ·) ∧
        Orbit (bfs t.nodes) (c :: cs ++ [t.nodes.size]) ∧
        initLevels.walk (encodeCreator t) (newBM (eInnerIdx t) t.nodes.size "r64")
          (eInners t).length fuel c acc = .ok (((c :: cs).map (entry t)).reverse ++ acc) := by
  refine fuel_descent fun fuel c ih hc acc => ?_
  rw [walk_succ h.shape hc]
  by_cases hm : (innersBefore t.nodes c).length = (eInners t).length
  · rw [if_pos hm]
    exact ⟨[], List.pairwise_cons.mpr
      ⟨fun x hx => List.mem_singleton.mp hx ▸ hc, List.pairwise_singleton _ _⟩,
      ⟨(bfs_last h.shape hm).symm, trivial⟩, rfl⟩
  · have hgt := h.lt_bfs hc
    -- the walk moves forward: from the first node of a level to the first node of the next
    obtain ⟨cs, hpw, horb, hwalk⟩ := ih _ hgt
      (bfs_lt h (Nat.lt_of_le_of_ne (innersBefore_length_le t c) hm)) (entry t c :: acc)
    refine ⟨_ :: cs, pairwise_lt_cons hgt hpw, ⟨rfl, horb⟩, ?_⟩
    rw [if_neg hm, hwalk, List.map_cons (a := c), List.reverse_cons, List.append_assoc]
    rfl

theorem initLevels_encode {t : Trie1} (h : TreeOK t) :
    ∃ cs : List Nat, cs.head? = some 0 ∧ (cs ++ [t.nodes.size]).Pairwise (· < ·) ∧
      Orbit (bfs t.nodes) (cs ++ [t.nodes.size]) ∧
      initLevels (encode t) = .ok ((cs ++ [t.nodes.size]).map (entry t)) := by
  have hpos := h.shape.nonempty
  have hne : t.nodes.size ≠ 0 := Nat.ne_of_gt hpos
  rw [encode_eq t hne]
  obtain ⟨ti, b, hti, hI⟩ := rank_nt_last t hpos
  have hcap := capa_le_ofIdx_length (eInnerIdx t) t.nodes.size
  obtain ⟨cs, hpw, horb, hwalk⟩ := walk_ok h
    ((newBM (eInnerIdx t) t.nodes.size "r64").words.length * 64 + 2) 0 hpos
    (by rw [newBM_words, Nat.mul_comm, Nat.zero_add]; exact Nat.lt_of_le_of_lt hcap (Nat.lt_add_of_pos_right (Nat.succ_pos 1))) []
  refine ⟨0 :: cs, rfl, hpw, horb, ?_⟩
  -- the last entry is that of `t.nodes.size`, whatever way the total was computed
  have hfin : ∀ total, total = t.nodes.size →
      ((total, (eInners t).length, total - (eInners t).length) ::
        (((0 :: cs).map (entry t)).reverse ++ [])).reverse
        = (0 :: cs ++ [t.nodes.size]).map (entry t) := by
    intro total ht
    rw [ht, List.append_nil, List.reverse_cons, List.reverse_reverse, List.map_append]
    simp only [List.map_cons, List.map_nil, entry, innersBefore_all]
  unfold initLevels
  simp only [enc_nodeTypeBM, if_neg hne, hti, bind, Except.bind, pure, Except.pure, hI]
  by_cases hI0 : (eInners t).length > 0
  · obtain ⟨tt, b', htt, hN⟩ := rank_inners_last h.shape hI0
    simp only [hI0, if_true, enc_inners, htt, hwalk]
    exact congrArg Except.ok (hfin _ hN)
  · have hN : 1 = t.nodes.size := by
      have := sum_labels h.shape
      rw [List.eq_nil_of_length_eq_zero (Nat.eq_zero_of_not_pos hI0)] at this
      exact this
    simp only [hI0, if_false, hwalk]
    exact congrArg Except.ok (hfin _ hN)

theorem stat_levels {t : Trie1} (hpos : 0 < t.nodes.size) (cs : List Nat) {k : Nat}
    (hk : (innersBefore t.nodes t.nodes.size).length + k = t.nodes.size) :
    ((cs ++ [t.nodes.size]).map (entry t)).getLast?
      = some (t.nodes.size, (innersBefore t.nodes t.nodes.size).length,
          t.nodes.size - (innersBefore t.nodes t.nodes.size).length) ∧
    stat (encode t) ((cs ++ [t.nodes.size]).map (entry t))
      = .ok { levels := (cs ++ [t.nodes.size]).map (entry t), keyCnt := k,
              nodeCnt := t.nodes.size } := by
  have hlast : ((cs ++ [t.nodes.size]).map (entry t)).getLast? = some (entry t t.nodes.size) := by
    rw [List.map_append, List.getLast?_append]
    rfl
  have hnt : (encode t).nodeTypeBM.isNone = false := by
    rw [encode_eq t (Nat.ne_of_gt hpos), enc_nodeTypeBM' t hpos]
    rfl
  refine ⟨hlast, ?_⟩
  unfold stat
  rw [hlast, hnt, entry, Nat.sub_eq_of_eq_add' hk.symm]
  rfl

theorem entry_sum (t : Trie1) (c : Nat) :
    (entry t c).1 = (entry t c).2.1 + (entry t c).2.2 :=
  (Nat.add_sub_cancel' (innersBefore_le t c)).symm

theorem entry_leaf (t : Trie1) {c : Nat} (hc : c ≤ t.nodes.size) :
    (entry t c).2.2 = leavesBefore t.nodes c :=
  Nat.sub_eq_of_eq_add (leaves_add_inners t.nodes c hc).symm

theorem entry_mono (t : Trie1) {a b : Nat} (hab : a ≤ b) (hb : b ≤ t.nodes.size) :
    (entry t a).1 ≤ (entry t b).1 ∧ (entry t a).2.1 ≤ (entry t b).2.1 ∧
      (entry t a).2.2 ≤ (entry t b).2.2 := by
  refine ⟨hab, BuildShape.innersBefore_length_mono t.nodes hab, ?_⟩
  rw [entry_leaf t (Nat.le_trans hab hb), entry_leaf t hb, leavesBefore_eq, leavesBefore_eq]
  have : t.nodes.toList.take a = (t.nodes.toList.take b).take a := by
    rw [List.take_take, Nat.min_eq_left hab]
  rw [this]
  exact length_filterMap_take_le leafOf _ a

end StatLemmas
