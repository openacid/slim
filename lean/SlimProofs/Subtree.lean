import SlimModel.Query
import SlimProofs.WF
/-
  SlimProofs.Subtree — what the query proofs read off a well-formed record array (`WF`, with the
  queue made explicit: `QOK`, `wf_iff`).

  The labels of a subset are monotone along its keys, so for every value there is an index where
  they pass it (`IsCut`, `mono_cut`); cuts are ordered like their values (`IsCut.le`), and no kept
  key lies between two cuts that have the same number of the node's labels below their values
  (`cut_gap`), since the label of a kept key is one of them.  A child's run reaches from the cut at
  its label to the cut behind it (`RunOK`; `InnerFacts.run` reads it off `WF`), so the kept keys of
  an inner node lie inside its children and the children are ordered like their labels
  (`gap_first`, `gap_adj`, `gap_last`).  The descents of `searchID` and the iterator keep their
  candidates by `cut_gap` and these; `most_node` follows `rightMost` / `leftMost` down to the
  leaves of the greatest and the smallest kept key of a subset.

  `keptIn` lists the kept indexes of an interval; a gap is where it is empty (`keptIn_nil`).

  `fuel_descent` is the induction by which every descent of the model is followed, here and in
  the files that import this one: at a node with one unit more than at the nodes behind it.

  Depends on `SlimProofs.WF` only.
-/

namespace LeafCount

/-- the kept indexes of `[s,e)`, ascending -/
def keptIn (keep : List Bool) (s e : Nat) : List Nat :=
  (List.range' s (e - s)).filter (keptAt keep)

theorem mem_keptIn {keep : List Bool} {s e t : Nat} :
    t ∈ keptIn keep s e ↔ s ≤ t ∧ t < e ∧ keptAt keep t = true := by
  rw [keptIn, List.mem_filter, List.mem_range'_1, and_assoc]
  exact and_congr_right fun hs => and_congr_left' (by omega)

theorem keptIn_asc (keep : List Bool) (s e : Nat) : (keptIn keep s e).Pairwise (· < ·) :=
  List.Pairwise.filter _ List.pairwise_lt_range'

theorem range'_split {s m e : Nat} (h1 : s ≤ m) (h2 : m ≤ e) :
    List.range' s (e - s) = List.range' s (m - s) ++ List.range' m (e - m) := by
  rw [← Nat.sub_add_sub_cancel h2 h1, Nat.add_comm (e - m), ← List.range'_append_1,
    Nat.add_sub_cancel' h1]

theorem keptIn_split (keep : List Bool) {s m e : Nat} (h1 : s ≤ m) (h2 : m ≤ e) :
    keptIn keep s e = keptIn keep s m ++ keptIn keep m e := by
  unfold keptIn
  rw [range'_split h1 h2, List.filter_append]

theorem keptIn_nil {keep : List Bool} {s e : Nat}
    (h : ∀ t, s ≤ t → t < e → keptAt keep t = false) : keptIn keep s e = [] := by
  unfold keptIn
  rw [List.filter_eq_nil_iff]
  intro t ht
  rw [List.mem_range'_1] at ht
  rw [h t ht.1 (by omega)]
  exact Bool.false_ne_true

theorem keptIn_skip {keep : List Bool} {s m e : Nat} (h1 : s ≤ m) (h2 : m ≤ e)
    (h : ∀ t, s ≤ t → t < m → keptAt keep t = false) : keptIn keep s e = keptIn keep m e := by
  rw [keptIn_split keep h1 h2, keptIn_nil h, List.nil_append]

theorem keptIn_single {keep : List Bool} {s e : Nat} (he : e = s + 1)
    (hk : keptAt keep s = true) : keptIn keep s e = [s] := by
  unfold keptIn
  rw [he, Nat.add_sub_cancel_left]
  exact List.filter_cons_of_pos hk

theorem keptIn_cons {keep : List Bool} {s e : Nat} (hs : s < e) (hk : keptAt keep s = true) :
    keptIn keep s e = s :: keptIn keep (s + 1) e := by
  rw [keptIn_split keep (Nat.le_succ s) hs, keptIn_single rfl hk]
  rfl

/-- the kept indexes from `x` on, as a filter of all of them -/
theorem keptIn_filter_ge (keep : List Bool) {x n : Nat} (h : x ≤ n) :
    (keptIn keep 0 n).filter (fun j => decide (x ≤ j)) = keptIn keep x n := by
  rw [keptIn_split keep (Nat.zero_le x) h, List.filter_append,
    List.filter_eq_nil_iff.mpr fun j hj hd =>
      Nat.not_le.mpr (mem_keptIn.mp hj).2.1 (of_decide_eq_true hd),
    List.filter_eq_self.mpr fun j hj => decide_eq_true (mem_keptIn.mp hj).1, List.nil_append]

/-- the kept indexes before `x`, as a filter of all of them -/
theorem keptIn_filter_lt (keep : List Bool) {x n : Nat} (h : x ≤ n) :
    (keptIn keep 0 n).filter (fun j => decide (j < x)) = keptIn keep 0 x := by
  rw [keptIn_split keep (Nat.zero_le x) h, List.filter_append,
    List.filter_eq_self.mpr fun j hj => decide_eq_true (mem_keptIn.mp hj).2.1,
    List.filter_eq_nil_iff.mpr fun j hj hd =>
      Nat.not_lt.mpr (mem_keptIn.mp hj).1 (of_decide_eq_true hd), List.append_nil]

end LeafCount

/-- Why `nodeCnt + 1` is fuel enough for every descent: a step spends one unit and moves to a child,
    whose id is greater and still below `N`, so fuel above the measure `N - j` lasts from node `j`. -/
theorem fuel_descent {N : Nat} {P : Nat → Nat → Prop}
    (step : ∀ fuel j, (∀ c, j < c → c < N → P fuel c) → j < N → P (fuel + 1) j) :
    ∀ fuel j, j < N → N < j + fuel → P fuel j
  | 0, _, hj, hf => absurd hj (Nat.lt_asymm hf)
  | fuel + 1, j, hj, hf => step fuel j (fun c hjc hc => fuel_descent step fuel c hc
      (Nat.lt_of_lt_of_le hf (Nat.add_right_comm j fuel 1 ▸ Nat.add_le_add_right hjc fuel))) hj

namespace Subtree

/-- `m` is the greatest kept index of `[s, e)` -/
def IsMaxKept (keep : List Bool) (s e m : Nat) : Prop :=
  s ≤ m ∧ m < e ∧ keptAt keep m = true ∧ ∀ t, m < t → t < e → keptAt keep t = false

/-- `m` is the smallest kept index of `[s, e)` -/
def IsMinKept (keep : List Bool) (s e m : Nat) : Prop :=
  s ≤ m ∧ m < e ∧ keptAt keep m = true ∧ ∀ t, s ≤ t → t < m → keptAt keep t = false

theorem gap_append {kept : Nat → Bool} {a b c : Nat}
    (h1 : ∀ t, a ≤ t → t < b → kept t = false) (h2 : ∀ t, b ≤ t → t < c → kept t = false) :
    ∀ t, a ≤ t → t < c → kept t = false := by
  intro t ha hc
  by_cases hb : t < b
  · exact h1 t ha hb
  · exact h2 t (Nat.le_of_not_lt hb) hc

structure QOK (keys : List Bytes) (keep : List Bool) (t : Trie1) (queue : Array Subset) : Prop where
  size : queue.size = t.nodes.size
  node : ∀ j (hj : j < t.nodes.size), ∃ o, queue[j]? = some o ∧ SubOK keys keep o ∧
      NodeOK keys keep t.opt queue t.leafKeyIdx j o t.nodes[j]

theorem wf_iff (keys : List Bytes) (keep : List Bool) (t : Trie1) :
    WF keys keep t ↔ ∃ queue, QOK keys keep t queue ∧
      queue[0]? = some { s := 0, e := keys.length, fb := 0 } := by
  constructor
  · rintro ⟨q, h1, h2, h3⟩; exact ⟨q, ⟨h1, h3⟩, h2⟩
  · rintro ⟨q, ⟨h1, h3⟩, h2⟩; exact ⟨q, h1, h2, h3⟩

theorem QOK.lt {keys : List Bytes} {keep : List Bool} {t : Trie1} {queue : Array Subset}
    (h : QOK keys keep t queue) {j : Nat} {o : Subset} (hqj : queue[j]? = some o) :
    j < t.nodes.size :=
  h.size ▸ (Array.getElem?_eq_some_iff.mp hqj).1

theorem _root_.SubOK.single {keys : List Bytes} {keep : List Bool} {o : Subset}
    (h : SubOK keys keep o) (h1 : o.e = o.s + 1) : keptAt keep o.s = true := by
  obtain ⟨x, hx1, hx2, hx3⟩ := h.kept
  obtain rfl : x = o.s := Nat.le_antisymm (Nat.le_of_lt_succ (Nat.lt_of_lt_of_eq hx2 h1)) hx1
  exact hx3

theorem view_node_of (t : Trie1) (a : Nat) (nd : Node) (h : t.nodes[a]? = some nd) :
    t.view.node a = .ok nd := by
  simp only [Trie1.view, h]

theorem view_node (t : Trie1) (j : Nat) (hj : j < t.nodes.size) :
    t.view.node j = .ok t.nodes[j] :=
  view_node_of t j _ (Array.getElem?_eq_getElem hj)

theorem view_nonempty {t : Trie1} (hpos : 0 < t.nodes.size) : t.view.isEmpty = false :=
  beq_false_of_ne (Nat.ne_of_gt hpos)

theorem nodes_getElem? (t : Trie1) (j : Nat) (hj : j < t.nodes.size) (nd : Node)
    (h : t.nodes[j] = nd) : t.nodes[j]? = some nd :=
  Array.getElem?_eq_some_iff.mpr ⟨hj, h⟩

/-- the facts of node `j`, for the subset the caller already holds -/
theorem QOK.view {keys : List Bytes} {keep : List Bool} {t : Trie1} {queue : Array Subset}
    (h : QOK keys keep t queue) {j : Nat} {o : Subset} (hqj : queue[j]? = some o) :
    SubOK keys keep o ∧ ∃ nd, t.view.node j = .ok nd ∧ t.nodes[j]? = some nd ∧
      NodeOK keys keep t.opt queue t.leafKeyIdx j o nd := by
  have hj := h.lt hqj
  obtain ⟨o', ho', hsub, hnode⟩ := h.node j hj
  rw [hqj] at ho'; cases ho'
  exact ⟨hsub, _, view_node t j hj, Array.getElem?_eq_getElem hj, hnode⟩

/-! ### strictly ascending label lists -/

theorem asc_lt {l : List Nat} (hp : l.Pairwise (· < ·)) {a b : Nat} (ha : a < l.length)
    (hb : b < l.length) (hab : a < b) : l[a] < l[b] :=
  List.pairwise_iff_getElem.mp hp a b ha hb hab

theorem asc_le {l : List Nat} (hp : l.Pairwise (· < ·)) {a b : Nat} (ha : a < l.length)
    (hb : b < l.length) (hab : a ≤ b) : l[a] ≤ l[b] := by
  by_cases h : a = b
  · subst h; exact Nat.le_refl _
  · exact Nat.le_of_lt (asc_lt hp ha hb (Nat.lt_of_le_of_ne hab h))

theorem asc_idx_le {l : List Nat} (hp : l.Pairwise (· < ·)) {a b : Nat} (ha : a < l.length)
    (hb : b < l.length) (h : l[a] ≤ l[b]) : a ≤ b :=
  Nat.le_of_not_lt fun hba => Nat.lt_irrefl _ (Nat.lt_of_le_of_lt h (asc_lt hp hb ha hba))

theorem asc_idx_eq {l : List Nat} (hp : l.Pairwise (· < ·)) {a b : Nat} (ha : a < l.length)
    (hb : b < l.length) (h : l[a] = l[b]) : a = b :=
  Nat.le_antisymm (asc_idx_le hp ha hb (Nat.le_of_eq h)) (asc_idx_le hp hb ha (Nat.le_of_eq h.symm))

theorem asc_lt_iff {l : List Nat} (hp : l.Pairwise (· < ·)) {a b : Nat} (ha : a < l.length)
    (hb : b < l.length) : l[a] < l[b] ↔ a < b :=
  ⟨fun h => Nat.lt_of_not_le fun hba => Nat.lt_irrefl _ (Nat.lt_of_lt_of_le h (asc_le hp hb ha hba)),
    asc_lt hp ha hb⟩

/-! ### ranks in strictly ascending label lists -/

theorem rank_le (labels : List Nat) (x : Nat) : rankLabels labels x ≤ labels.length := by
  unfold rankLabels; exact List.length_filter_le _ _

theorem rank_zero_of_ge (labels : List Nat) (x : Nat) (h : ∀ b ∈ labels, x ≤ b) :
    rankLabels labels x = 0 := by
  unfold rankLabels
  rw [List.filter_eq_nil_iff.mpr]
  · rfl
  · intro b hb; simpa using h b hb

/-- exactly the first `rk` labels are below `x` -/
def IsRank (labels : List Nat) (x rk : Nat) : Prop :=
  ∀ k (hk : k < labels.length), labels[k] < x ↔ k < rk

theorem isRank_rank {labels : List Nat} (hp : labels.Pairwise (· < ·)) (x : Nat) :
    IsRank labels x (rankLabels labels x) := by
  intro k hk
  induction labels generalizing k with
  | nil => exact absurd hk (Nat.not_lt_zero _)
  | cons a as ih =>
    rw [List.pairwise_cons] at hp
    by_cases hax : a < x
    · have hr : rankLabels (a :: as) x = rankLabels as x + 1 := by
        unfold rankLabels; rw [List.filter_cons_of_pos (by simpa using hax)]; rfl
      rw [hr]
      cases k with
      | zero => exact ⟨fun _ => Nat.succ_pos _, fun _ => hax⟩
      | succ k => exact (ih hp.2 k (Nat.lt_of_succ_lt_succ hk)).trans Nat.succ_lt_succ_iff.symm
    · -- `x ≤ a`, and `a` is the least label: no label is below `x`
      have hxa := Nat.le_of_not_lt hax
      have hge : ∀ b ∈ a :: as, x ≤ b := fun b hb =>
        (List.mem_cons.mp hb).elim (fun h => h ▸ hxa)
          (fun h => Nat.le_trans hxa (Nat.le_of_lt (hp.1 b h)))
      rw [rank_zero_of_ge _ _ hge]
      exact ⟨fun h => absurd (Nat.lt_of_le_of_lt (hge _ (List.getElem_mem hk)) h) (Nat.lt_irrefl _),
        fun h => absurd h (Nat.not_lt_zero _)⟩

theorem isRank_getElem {labels : List Nat} (hp : labels.Pairwise (· < ·)) {k : Nat}
    (hk : k < labels.length) : IsRank labels labels[k] k := fun _ hk' => asc_lt_iff hp hk' hk

theorem isRank_succ {labels : List Nat} (hp : labels.Pairwise (· < ·)) {k : Nat}
    (hk : k < labels.length) : IsRank labels (labels[k] + 1) (k + 1) := fun _ hk' =>
  ⟨fun h => Nat.lt_succ_of_le (asc_idx_le hp hk' hk (Nat.le_of_lt_succ h)),
    fun h => Nat.lt_succ_of_le (asc_le hp hk' hk (Nat.le_of_lt_succ h))⟩

/-! ### the children of an inner node, abstractly

  `lab t` is the label of key `t`, `labels` the labels of the kept keys of `[s, e)`. -/

/-- `c` is the run of the keys of `[s, e)` that carry label number `k` -/
def IsRun (lab : Nat → Nat) (labels : List Nat) (s e k : Nat) (hk : k < labels.length)
    (c : Subset) : Prop :=
  s ≤ c.s ∧ c.e ≤ e ∧ c.s < c.e ∧
    ∀ t, s ≤ t → t < e → ((c.s ≤ t ∧ t < c.e) ↔ lab t = labels[k])

section gaps
variable {kept : Nat → Bool} {lab : Nat → Nat} {labels : List Nat} {s e : Nat}

/-- `a` cuts `[s, e)` at the value `x`: labels below `x` before `a`, labels at least `x` from
    `a` on -/
def IsCut (lab : Nat → Nat) (s e x a : Nat) : Prop :=
  s ≤ a ∧ a ≤ e ∧ (∀ t, s ≤ t → t < a → lab t < x) ∧ (∀ t, a ≤ t → t < e → x ≤ lab t)

theorem mono_cut (lab : Nat → Nat) (s x : Nat) :
    ∀ e, s ≤ e → (∀ a b, s ≤ a → a ≤ b → b < e → lab a ≤ lab b) →
      ∃ a, IsCut lab s e x a := by
  intro e
  induction e with
  | zero =>
    intro hs _
    exact ⟨s, Nat.le_refl _, hs, fun t h1 h2 => absurd h2 (Nat.not_lt.mpr h1),
      fun t _ h2 => absurd h2 (Nat.not_lt_zero _)⟩
  | succ e ih =>
    intro hs hmono
    by_cases hx : s ≤ e ∧ ¬ lab e < x
    · obtain ⟨a, h1, h2, h3, h4⟩ :=
        ih hx.1 (fun a b ha hab hb => hmono a b ha hab (Nat.lt_succ_of_lt hb))
      refine ⟨a, h1, Nat.le_succ_of_le h2, h3, fun t h5 h6 => ?_⟩
      rcases Nat.lt_or_eq_of_le (Nat.le_of_lt_succ h6) with h6 | rfl
      · exact h4 t h5 h6
      · exact Nat.le_of_not_lt hx.2
    · -- the labels of `[s, e]` are at most `lab e`, which is below `x`
      refine ⟨e + 1, hs, Nat.le_refl _, fun t h1 h2 => ?_,
        fun t h1 h2 => absurd h2 (Nat.not_lt.mpr h1)⟩
      have hte := Nat.le_of_lt_succ h2
      have hlt : lab e < x := Decidable.of_not_not fun hn => hx ⟨Nat.le_trans h1 hte, hn⟩
      exact Nat.lt_of_le_of_lt (hmono t e h1 hte (Nat.lt_succ_self e)) hlt

/-- the keys of `[s, e)` that carry the label `x.1` are `[x.2.1, x.2.2)`: a non-empty interval from
    the cut at the label to the cut behind it -/
structure _root_.RunOK (lab : Nat → Nat) (s e : Nat) (x : Nat × Nat × Nat) : Prop where
  cs : IsCut lab s e x.1 x.2.1
  ce : IsCut lab s e (x.1 + 1) x.2.2
  lt : x.2.1 < x.2.2

theorem _root_.RunOK.ge {x : Nat × Nat × Nat} (h : RunOK lab s e x) : s ≤ x.2.1 := h.cs.1

theorem _root_.RunOK.le {x : Nat × Nat × Nat} (h : RunOK lab s e x) : x.2.2 ≤ e := h.ce.2.1

theorem _root_.RunOK.iff {x : Nat × Nat × Nat} (h : RunOK lab s e x) (t : Nat) (h1 : s ≤ t) (h2 : t < e) :
    (x.2.1 ≤ t ∧ t < x.2.2) ↔ lab t = x.1 :=
  ⟨fun ht => Nat.le_antisymm (Nat.le_of_lt_succ (h.ce.2.2.1 t h1 ht.2)) (h.cs.2.2.2 t ht.1 h2),
    fun hl => ⟨Nat.le_of_not_lt fun hlt => Nat.lt_irrefl _ (hl ▸ h.cs.2.2.1 t h1 hlt),
      Nat.lt_of_not_le fun hle => Nat.not_succ_le_self _ (hl ▸ h.ce.2.2.2 t hle h2)⟩⟩

theorem _root_.RunOK.lab_s {x : Nat × Nat × Nat} (h : RunOK lab s e x) : lab x.2.1 = x.1 :=
  (h.iff x.2.1 h.ge (Nat.lt_of_lt_of_le h.lt h.le)).mp ⟨Nat.le_refl _, h.lt⟩

/-- for monotone labels, an interval that holds exactly the keys of one label lies between the
    cuts at that label and behind it -/
theorem _root_.RunOK.of_iff {x : Nat × Nat × Nat} (h1 : s ≤ x.2.1) (h3 : x.2.1 < x.2.2) (h2 : x.2.2 ≤ e)
    (h4 : ∀ t, s ≤ t → t < e → ((x.2.1 ≤ t ∧ t < x.2.2) ↔ lab t = x.1))
    (hmono : ∀ a b, s ≤ a → a ≤ b → b < e → lab a ≤ lab b) : RunOK lab s e x := by
  have hse : x.2.1 < e := Nat.lt_of_lt_of_le h3 h2
  have hs : lab x.2.1 = x.1 := (h4 x.2.1 h1 hse).mp ⟨Nat.le_refl _, h3⟩
  refine ⟨⟨h1, Nat.le_of_lt hse, fun t ht1 ht2 => ?_, fun t ht1 ht2 => ?_⟩,
    ⟨Nat.le_trans h1 (Nat.le_of_lt h3), h2, fun t ht1 ht2 => ?_, fun t ht1 ht2 => ?_⟩, h3⟩
  · have hm : lab t ≤ x.1 := hs ▸ hmono t x.2.1 ht1 (Nat.le_of_lt ht2) hse
    have hne : lab t ≠ x.1 := fun he =>
      Nat.not_le.mpr ht2 ((h4 t ht1 (Nat.lt_trans ht2 hse)).mpr he).1
    exact Nat.lt_of_le_of_ne hm hne
  · rw [← hs]; exact hmono x.2.1 t h1 ht1 ht2
  · by_cases htc : x.2.1 ≤ t
    · exact Nat.lt_succ_of_le (Nat.le_of_eq ((h4 t ht1 (Nat.lt_of_lt_of_le ht2 h2)).mp ⟨htc, ht2⟩))
    · exact Nat.lt_succ_of_le (hs ▸ hmono t x.2.1 ht1 (Nat.le_of_not_le htc) hse)
  · have hst : s ≤ t := Nat.le_trans h1 (Nat.le_trans (Nat.le_of_lt h3) ht1)
    have hm : x.1 ≤ lab t := hs ▸ hmono x.2.1 t h1 (Nat.le_trans (Nat.le_of_lt h3) ht1) ht2
    have hne : x.1 ≠ lab t := fun he =>
      Nat.not_lt.mpr ht1 ((h4 t hst ht2).mpr he.symm).2
    exact Nat.lt_of_le_of_ne hm hne

theorem IsCut.le {x y a b : Nat} (hx : IsCut lab s e x a) (hy : IsCut lab s e y b) (hxy : x ≤ y) :
    a ≤ b :=
  -- else `lab b < x ≤ y ≤ lab b`
  Nat.le_of_not_lt fun hba => Nat.lt_irrefl _ (Nat.lt_of_lt_of_le (hx.2.2.1 b hy.1 hba)
    (Nat.le_trans hxy (hy.2.2.2 b (Nat.le_refl _) (Nat.lt_of_lt_of_le hba hx.2.1))))

/-- no kept key lies between two cuts with the same number of labels below their values:
    its label would be at least `x` and below `y` -/
theorem cut_gap
    (hlabels : ∀ t, s ≤ t → t < e → kept t = true → lab t ∈ labels)
    {x y a b rk : Nat} (hx : IsCut lab s e x a) (hy : IsCut lab s e y b)
    (hrx : IsRank labels x rk) (hry : IsRank labels y rk) :
    ∀ t, a ≤ t → t < b → kept t = false := by
  intro t h1 h2
  have hst : s ≤ t := Nat.le_trans hx.1 h1
  have hte : t < e := Nat.lt_of_lt_of_le h2 hy.2.1
  refine Bool.eq_false_iff.mpr fun hkt => ?_
  obtain ⟨k', hk', hkl⟩ := List.mem_iff_getElem.mp (hlabels t hst hte hkt)
  have hlt : labels[k'] < x := (hrx k' hk').mpr ((hry k' hk').mp (hkl ▸ hy.2.2.1 t hst h2))
  exact Nat.not_le.mpr hlt (hkl ▸ hx.2.2.2 t h1 hte)

theorem cut_left_none
    (hlabels : ∀ t, s ≤ t → t < e → kept t = true → lab t ∈ labels)
    {x a : Nat} (hcut : IsCut lab s e x a) (hrank : IsRank labels x 0) :
    ∀ t, s ≤ t → t < a → kept t = false := by
  intro t h1 h2
  refine Bool.eq_false_iff.mpr fun hkt => ?_
  obtain ⟨k', hk', hkl⟩ :=
    List.mem_iff_getElem.mp (hlabels t h1 (Nat.lt_of_lt_of_le h2 hcut.2.1) hkt)
  exact Nat.not_lt_zero _ ((hrank k' hk').mp (hkl ▸ hcut.2.2.1 t h1 h2))

theorem cut_right_none
    (hlabels : ∀ t, s ≤ t → t < e → kept t = true → lab t ∈ labels)
    {x a : Nat} (hcut : IsCut lab s e x a) (hrank : IsRank labels x labels.length) :
    ∀ t, a ≤ t → t < e → kept t = false := by
  intro t h1 h2
  refine Bool.eq_false_iff.mpr fun hkt => ?_
  obtain ⟨k', hk', hkl⟩ :=
    List.mem_iff_getElem.mp (hlabels t (Nat.le_trans hcut.1 h1) h2 hkt)
  exact Nat.not_lt.mpr (hcut.2.2.2 t h1 h2) (hkl ▸ (hrank k' hk').mpr hk')

theorem gap_first
    (hlabels : ∀ t, s ≤ t → t < e → kept t = true → lab t ∈ labels)
    (hpw : labels.Pairwise (· < ·))
    {hk : 0 < labels.length} {c : Subset} (hc : RunOK lab s e (labels[0], c.s, c.e)) :
    ∀ t, s ≤ t → t < c.s → kept t = false :=
  cut_left_none hlabels hc.cs (isRank_getElem hpw hk)

theorem gap_last
    (hlabels : ∀ t, s ≤ t → t < e → kept t = true → lab t ∈ labels)
    (hpw : labels.Pairwise (· < ·))
    {k : Nat} {hk : k < labels.length} (hlast : k + 1 = labels.length) {c : Subset}
    (hc : RunOK lab s e (labels[k], c.s, c.e)) :
    ∀ t, c.e ≤ t → t < e → kept t = false :=
  cut_right_none hlabels hc.ce (hlast ▸ isRank_succ hpw hk)

theorem gap_adj
    (hlabels : ∀ t, s ≤ t → t < e → kept t = true → lab t ∈ labels)
    (hpw : labels.Pairwise (· < ·))
    {k : Nat} {hk : k < labels.length} {hk1 : k + 1 < labels.length} {c c' : Subset}
    (hc : RunOK lab s e (labels[k], c.s, c.e)) (hc' : RunOK lab s e (labels[k + 1], c'.s, c'.e)) :
    c.e ≤ c'.s ∧ ∀ t, c.e ≤ t → t < c'.s → kept t = false :=
  ⟨hc.ce.le hc'.cs (asc_lt hpw hk hk1 (Nat.lt_succ_self k)),
    cut_gap hlabels hc.ce hc'.cs (isRank_succ hpw hk) (isRank_getElem hpw hk1)⟩

end gaps

/-! ### reading an inner node of a well-formed array -/

/-- everything the query proofs use of an inner node, with the children as `IsRun`s -/
structure InnerFacts (keys : List Bytes) (keep : List Bool) (t : Trie1) (queue : Array Subset)
    (j : Nat) (o : Subset) (r : InnerRec) (ws : Nat) : Prop where
  fb_le : o.fb ≤ ws
  pre : ∀ t, o.s ≤ t → t < o.e →
      ws ≤ (knOf keys t).length ∧ (knOf keys t).take ws = (knOf keys o.s).take ws
  pref : r.pref = prefOf t.opt (knOf keys o.s) o.fb ws
  big : r.big = true → ws % 2 = 0 ∧ o.fb % 2 = 0
  labels : ∀ t, o.s ≤ t → t < o.e → keptAt keep t = true → labelOf keys ws r.big t ∈ r.labels
  ne : 0 < r.labels.length
  pw : r.labels.Pairwise (· < ·)
  mono : ∀ a b, o.s ≤ a → a ≤ b → b < o.e → labelOf keys ws r.big a ≤ labelOf keys ws r.big b
  fc : j < r.firstChild
  kid : ∀ k (hk : k < r.labels.length), ∃ c : Subset,
      queue[r.firstChild + k]? = some c ∧ c.fb = ws + labelLen (r.labels[k]) r.big ∧
      IsRun (labelOf keys ws r.big) r.labels o.s o.e k hk c

theorem inner_facts {keys : List Bytes} {keep : List Bool} {t : Trie1} {queue : Array Subset}
    (h : QOK keys keep t queue) {j : Nat} {o : Subset} {r : InnerRec}
    (hsub : SubOK keys keep o) (hin : InnerOK keys keep t.opt queue j o r) :
    ∃ ws, InnerFacts keys keep t queue j o r ws := by
  obtain ⟨ws, hfbws, hall, hbig, hpref, hlabels, hpw, hmono, hjfc, hkids⟩ := hin
  have hmem : ∀ t, o.s ≤ t → t < o.e → keptAt keep t = true → labelOf keys ws r.big t ∈ r.labels :=
    fun t h1 h2 h3 => (hlabels _).mpr ⟨t, h1, h2, h3, rfl⟩
  refine ⟨ws, hfbws, hall, hpref, hbig, hmem, ?_, hpw, hmono, hjfc, ?_⟩
  · obtain ⟨t, h1, h2, h3⟩ := hsub.kept
    exact List.length_pos_of_mem (hmem t h1 h2 h3)
  · intro k hk
    obtain ⟨c, hc, hcfb, hcs, hce, hciff⟩ := hkids k hk
    exact ⟨c, hc, hcfb, hcs, hce, (h.view hc).1.lt, hciff⟩

/-- child `k` as the proofs read it: its keys lie between the cut at its label and the cut
    behind it -/
theorem InnerFacts.run {keys : List Bytes} {keep : List Bool} {t : Trie1} {queue : Array Subset}
    {j : Nat} {o : Subset} {r : InnerRec} {ws : Nat} (F : InnerFacts keys keep t queue j o r ws)
    (k : Nat) (hk : k < r.labels.length) : ∃ c : Subset,
      queue[r.firstChild + k]? = some c ∧ c.fb = ws + labelLen (r.labels[k]) r.big ∧
      RunOK (labelOf keys ws r.big) o.s o.e (r.labels[k], c.s, c.e) := by
  obtain ⟨c, hc, hcfb, h1, h2, h3, h4⟩ := F.kid k hk
  exact ⟨c, hc, hcfb, .of_iff h1 h3 h2 h4 F.mono⟩

/-! ### `rightMost` / `leftMost` -/

theorem rightMost_leaf (v : View) (fuel j ith : Nat) (lp : Option Bytes)
    (h : v.node j = .ok (.leaf ith lp)) : rightMost v (fuel + 1) j = .ok j := by
  simp only [rightMost, h, bind, Except.bind, pure, Except.pure]

theorem rightMost_inner (v : View) (fuel j : Nat) (r : InnerRec)
    (h : v.node j = .ok (.inner r)) :
    rightMost v (fuel + 1) j = rightMost v fuel (r.firstChild + r.labels.length - 1) := by
  simp only [rightMost, h, bind, Except.bind]

theorem leftMost_leaf (v : View) (fuel j ith : Nat) (lp : Option Bytes)
    (h : v.node j = .ok (.leaf ith lp)) : leftMost v (fuel + 1) j = .ok j := by
  simp only [leftMost, h, bind, Except.bind, pure, Except.pure]

theorem leftMost_inner (v : View) (fuel j : Nat) (r : InnerRec)
    (h : v.node j = .ok (.inner r)) :
    leftMost v (fuel + 1) j = leftMost v fuel r.firstChild := by
  simp only [leftMost, h, bind, Except.bind]

/-- One induction for both descents: at an inner node `rightMost` goes to the last child and
    `leftMost` to the first, behind and before which the node has no kept key. -/
theorem most_node {keys : List Bytes} {keep : List Bool} {t : Trie1} {queue : Array Subset}
    (h : QOK keys keep t queue) :
    ∀ fuel j, j < t.nodes.size → t.nodes.size < j + fuel → ∀ o, queue[j]? = some o →
      (∃ id ith lp m, rightMost t.view fuel j = .ok id ∧ t.nodes[id]? = some (.leaf ith lp) ∧
        t.leafKeyIdx[ith]? = some m ∧ IsMaxKept keep o.s o.e m) ∧
      (∃ id ith lp m, leftMost t.view fuel j = .ok id ∧ t.nodes[id]? = some (.leaf ith lp) ∧
        t.leafKeyIdx[ith]? = some m ∧ IsMinKept keep o.s o.e m) := by
  refine fuel_descent fun fuel j ih _ o hqj => ?_
  obtain ⟨hsub, nd, hview, hnd, hnode⟩ := h.view hqj
  cases nd with
  | leaf ith lp =>
    obtain ⟨h1e, hidx, _⟩ := hnode
    have hk := hsub.single h1e
    exact ⟨⟨j, ith, lp, o.s, rightMost_leaf _ _ _ ith lp hview, hnd, hidx, Nat.le_refl _, hsub.lt, hk,
        fun t h1 h2 => absurd h1 (Nat.not_lt.mpr (Nat.le_of_lt_succ (Nat.lt_of_lt_of_eq h2 h1e)))⟩,
      ⟨j, ith, lp, o.s, leftMost_leaf _ _ _ ith lp hview, hnd, hidx, Nat.le_refl _, hsub.lt, hk,
        fun t h1 h2 => absurd h2 (Nat.not_lt.mpr h1)⟩⟩
  | inner r =>
    obtain ⟨ws, F⟩ := inner_facts h hsub hnode.2
    obtain ⟨c, hc, _, hrun⟩ := F.run _ (Nat.sub_one_lt (Nat.ne_of_gt F.ne))
    obtain ⟨c', hc', _, hrun'⟩ := F.run 0 F.ne
    obtain ⟨id, ith, lp, m, hrm, hl, hidx, hm1, hm2, hm3, hm4⟩ :=
      (ih _ (Nat.lt_add_right _ F.fc) (h.lt hc) c hc).1
    obtain ⟨id', ith', lp', m', hlm, hl', hidx', hn1, hn2, hn3, hn4⟩ :=
      (ih _ (Nat.lt_add_right 0 F.fc) (h.lt hc') c' hc').2
    rw [rightMost_inner _ _ _ r hview, leftMost_inner _ _ _ r hview, Nat.add_sub_assoc F.ne]
    exact ⟨⟨id, ith, lp, m, hrm, hl, hidx, Nat.le_trans hrun.ge hm1, Nat.lt_of_lt_of_le hm2 hrun.le,
        hm3, gap_append hm4 (gap_last (kept := keptAt keep) F.labels F.pw (Nat.sub_add_cancel F.ne) hrun)⟩,
      ⟨id', ith', lp', m', hlm, hl', hidx', Nat.le_trans hrun'.ge hn1,
        Nat.lt_of_lt_of_le hn2 hrun'.le, hn3,
        gap_append (gap_first (kept := keptAt keep) F.labels F.pw hrun') hn4⟩⟩

end Subtree

/-- **`rightMost`/`leftMost` in a well-formed trie**, with the fuel that `searchID` supplies:
    from any node `j` (with subset `o` of the queue that `WF` provides) they end at the leaves of
    the greatest / smallest kept key of `o`. -/
theorem rightMost_leftMost_wf (keys : List Bytes) (keep : List Bool) (t : Trie1)
    (hwf : WF keys keep t) :
    ∃ queue : Array Subset, Subtree.QOK keys keep t queue ∧
      queue[0]? = some { s := 0, e := keys.length, fb := 0 } ∧
      ∀ j o, queue[j]? = some o →
        (∃ id ith lp m, rightMost t.view (t.view.nodeCnt + 1) j = .ok id ∧
          t.nodes[id]? = some (.leaf ith lp) ∧ t.leafKeyIdx[ith]? = some m ∧
          Subtree.IsMaxKept keep o.s o.e m) ∧
        (∃ id ith lp m, leftMost t.view (t.view.nodeCnt + 1) j = .ok id ∧
          t.nodes[id]? = some (.leaf ith lp) ∧ t.leafKeyIdx[ith]? = some m ∧
          Subtree.IsMinKept keep o.s o.e m) := by
  obtain ⟨queue, hq, hroot⟩ := (Subtree.wf_iff keys keep t).mp hwf
  exact ⟨queue, hq, hroot, fun j o hqj =>
    Subtree.most_node hq _ j (hq.lt hqj) (Nat.lt_succ_of_le (Nat.le_add_left _ _)) o hqj⟩

#print axioms rightMost_leftMost_wf
