import SlimModel.Legacy
import SlimModel.LegacyWrite
import SlimProofs.BitsLemmas
import SlimProofs.Refine.Prefix
/-
  `before000512InnerPrefixTobitstr` (model: `Legacy.innerPrefixTobitstr`) rewrites every stored
  inner prefix from the control-byte form of 0.5.10 / 0.5.11 into the `bitstr.New` form of 0.5.12.

  A prefix of arbitrary bit length is given at byte level (`BitPrefix`): its payload bytes, zero
  padded, and the number `r < 8` of valid bits in the last payload byte (`r = 0`: all eight; the
  empty payload with `r = 0` is the prefix of length 0); its bit length is `bitLen`.

    bitstrEnc p = payload ‖ mask(r)                              (`bitstr.New`, 0.5.12)
    ctrlEnc p   = 0x00 ‖ payload                       if r = 0   (0.5.10 / 0.5.11)
                  0x01 ‖ payload with bit (7 - r) of the last byte set   otherwise

  The two forms of a prefix have the same length, so the Go loop can `copy` each element over
  itself and the position bitmap stays right.  The loop is a map over the elements for any two
  encodings related by its per-element step `convertOne` (`Converts`, `go_map`), provided
  `select32R64` on the position bitmap returns the element boundaries (`Bits.SelectsBoundaries`;
  true of the bitmap today's builder writes by `Bits.select32R64_positions_pos`, and of the same
  bitmap with the word-index select entries of the old writers by `select_positions_old` in
  LegacySelect).  It is used at two pairs of encodings: `ctrlEnc` / `bitstrEnc` for C06, and the
  model's writer `LegacyWrite.ctrlOfBitstr` against `id` on what today's builder stores
  (`converts_bitstrOf`) for the round trip through the old format.
-/
open Bits

namespace Legacy

/-- the trailing byte of `bitstr.New` for `r` valid bits in the last payload byte (0: all) -/
def maskNat (r : Nat) : Nat := if r = 0 then 0xff else (0xff <<< (8 - r)) % 256

structure BitPrefix where
  payload : Bytes
  r : Nat
  deriving Repr, DecidableEq

namespace BitPrefix

def Valid (p : BitPrefix) : Prop :=
  p.r < 8 ∧ (p.r ≠ 0 → ∃ init last, p.payload = init ++ [last] ∧ last.toNat % 2 ^ (8 - p.r) = 0)

def bitLen (p : BitPrefix) : Nat :=
  if p.r = 0 then 8 * p.payload.length else 8 * (p.payload.length - 1) + p.r

/-- 0.5.12: `bitstr.New(s, 0, bitLen)` -/
def bitstrEnc (p : BitPrefix) : Bytes := p.payload ++ [UInt8.ofNat (maskNat p.r)]

/-- 0.5.10 / 0.5.11: control byte, payload, a single 1 bit after the last payload bit -/
def ctrlEnc (p : BitPrefix) : Bytes :=
  if p.r = 0 then 0 :: p.payload
  else 1 :: (p.payload.dropLast ++ [UInt8.ofNat ((p.payload.getLast?.getD 0).toNat ||| 2 ^ (7 - p.r))])

theorem bitstrEnc_length (p : BitPrefix) : p.bitstrEnc.length = p.payload.length + 1 := by
  simp [bitstrEnc]

theorem ctrlEnc_length (p : BitPrefix) (hv : p.Valid) : p.ctrlEnc.length = p.payload.length + 1 := by
  unfold ctrlEnc
  split
  · simp
  · next h =>
    obtain ⟨init, last, hp, _⟩ := hv.2 h
    simp [hp]

end BitPrefix

/- The last payload byte `b` of a prefix with `r` valid bits has its low `8 - r` bits zero; the
  control-byte form sets bit `7 - r` of it (the end marker), and the mask byte of `bitstr.New`
  has exactly the bits `8 - r … 7`. -/

theorem testBit_of_mod_two_pow (b s i : Nat) (hz : b % 2 ^ s = 0) (hi : i < s) :
    b.testBit i = false := by
  have := Nat.testBit_mod_two_pow b s i
  rw [hz] at this
  simpa [hi] using this.symm

theorem testBit_byte_ge (b i : Nat) (hb : b < 256) (hi : 8 ≤ i) : b.testBit i = false :=
  Nat.testBit_lt_two_pow (Nat.lt_of_lt_of_le hb (Nat.pow_le_pow_right (by decide) hi : 2 ^ 8 ≤ 2 ^ i))

theorem trailingZeros8_eq (x : UInt8) (k : Nat) (hk : k < 8) (h1 : x.toNat.testBit k = true)
    (h0 : ∀ j, j < k → x.toNat.testBit j = false) : trailingZeros8 x = k := by
  unfold trailingZeros8
  have : (List.range 8).find? (fun k => x.toNat.testBit k) = some k :=
    List.find?_range_eq_some.mpr ⟨h1, List.mem_range.mpr hk, fun j hj => by simp [h0 j hj]⟩
  rw [this]

theorem mask_testBit (s i : Nat) :
    ((0xff <<< s) % 256).testBit i = (decide (s ≤ i) && decide (i < 8)) := by
  rw [show (256 : Nat) = 2 ^ 8 from rfl, Nat.testBit_mod_two_pow, Nat.testBit_shiftLeft,
    show (255 : Nat) = 2 ^ 8 - 1 from rfl, Nat.testBit_two_pow_sub_one]
  by_cases h1 : s ≤ i <;> by_cases h2 : i < 8 <;> simp [h1, h2] <;> omega

theorem marker_testBit (b r i : Nat) (hb : b < 256) :
    (UInt8.ofNat (b ||| 2 ^ (7 - r))).toNat.testBit i = (b.testBit i || decide (i = 7 - r)) := by
  rw [UInt8.toNat_ofNat', Nat.testBit_mod_two_pow, Nat.testBit_or, Nat.testBit_two_pow]
  by_cases hi : i < 8
  · simp [hi, eq_comm]
  · have : i ≠ 7 - r := by omega
    simp [hi, testBit_byte_ge b i hb (by omega), this]

theorem tz_marker (r b : Nat) (hb : b < 256) (hz : b % 2 ^ (8 - r) = 0) :
    trailingZeros8 (UInt8.ofNat (b ||| 2 ^ (7 - r))) = 7 - r := by
  apply trailingZeros8_eq _ _ (by omega)
  · rw [marker_testBit b r _ hb]; simp
  · intro j hj
    have : j ≠ 7 - r := by omega
    rw [marker_testBit b r _ hb, testBit_of_mod_two_pow b (8 - r) j hz (by omega)]; simp [this]

theorem and_mask (r b : Nat) (hb : b < 256) (hz : b % 2 ^ (8 - r) = 0) :
    b &&& (0xff <<< (8 - r)) % 256 = b := by
  apply Nat.eq_of_testBit_eq; intro i
  rw [Nat.testBit_and, mask_testBit]
  by_cases hlo : i < 8 - r
  · simp [testBit_of_mod_two_pow b (8 - r) i hz hlo]
  · by_cases hi : i < 8
    · simp [hi, Nat.le_of_not_lt hlo]
    · simp [testBit_byte_ge b i hb (by omega)]

theorem and_marker (r b : Nat) (hr : r < 8) (hb : b < 256) (hz : b % 2 ^ (8 - r) = 0) :
    (UInt8.ofNat (b ||| 2 ^ (7 - r))).toNat &&& ((0xff <<< (8 - r)) % 256) = b := by
  refine Eq.trans ?_ (and_mask r b hb hz)
  apply Nat.eq_of_testBit_eq; intro i
  rw [Nat.testBit_and, Nat.testBit_and, marker_testBit b r i hb, mask_testBit]
  by_cases h : i = 7 - r
  · have : ¬ 8 - r ≤ i := by omega
    simp [this]
  · simp [h]

theorem and_ff (b : Nat) (hb : b < 256) : b &&& 0xff = b := by
  rw [show (0xff : Nat) = 2 ^ 8 - 1 from rfl, Nat.and_two_pow_sub_one_eq_mod]
  exact Nat.mod_eq_of_lt hb

theorem bitstrNew0_snoc (B : Bytes) (c : UInt8) (n : Nat) (h0 : n ≠ 0) (hn : (n + 7) / 8 = B.length + 1) :
    bitstrNew0 (B ++ [c]) n
      = .ok (B ++ [UInt8.ofNat (c.toNat &&& maskNat (n % 8)), UInt8.ofNat (maskNat (n % 8))]) := by
  unfold bitstrNew0
  have hl : (B ++ [c]).length = B.length + 1 := by simp
  rw [if_neg h0, hn, hl, if_neg (Nat.lt_irrefl _), ← hl, List.take_length]
  simp only [List.getLast?_concat, Option.getD_some, List.dropLast_concat]
  rfl

def bitLenOf (old : Bytes) (c0 : UInt8) : Int :=
  if c0.toNat % 2 = 0 then ((old.length - 1) * 8 : Nat)
  else (((old.length - 1) * 8 : Nat) : Int) - trailingZeros8 (old.getLast?.getD 0) - 1

/-- the per-element body of `before000512InnerPrefixTobitstr`: bit length from the control byte
    and the trailing zeros of the last byte, then `bitstr.New(old[1:], 0, bitLen)`.  The model has
    it inline between the slice and the `copy`; `go_body` is the tie. -/
def convertOne (old : Bytes) : Except Err Bytes :=
  match old.head? with
  | some c0 =>
    if bitLenOf old c0 < 0 then .error (.panic "negative bit length") else
    bitstrNew0 (old.drop 1) (bitLenOf old c0).toNat
  | none => .error (.panic "index out of range (old[0])")

theorem convertOne_cons (c0 : UInt8) (rest : Bytes) :
    convertOne (c0 :: rest)
      = if bitLenOf (c0 :: rest) c0 < 0 then .error (.panic "negative bit length")
        else bitstrNew0 rest (bitLenOf (c0 :: rest) c0).toNat := rfl

/-- `C06_prefix_reencode_one`: the loader's conversion of the control-byte form of any prefix is
    its bit-string form. -/
theorem convert_one (p : BitPrefix) (hv : p.Valid) : convertOne p.ctrlEnc = .ok p.bitstrEnc := by
  unfold BitPrefix.ctrlEnc BitPrefix.bitstrEnc
  by_cases h0 : p.r = 0
  · -- whole bytes: control byte 0, the last payload byte keeps its eight bits
    have hb : bitLenOf (0 :: p.payload) 0 = ((p.payload.length * 8 : Nat) : Int) := rfl
    rw [if_pos h0, convertOne_cons, hb, if_neg (Int.not_lt.mpr (Int.natCast_nonneg _)), Int.toNat_natCast, h0]
    rcases List.eq_nil_or_concat p.payload with h | ⟨B, c, h⟩
    · rw [h]; rfl
    · have hn : ((B ++ [c]).length * 8 + 7) / 8 = B.length + 1 := by
        rw [List.length_append, List.length_singleton]
        omega
      rw [h, List.concat_eq_append, bitstrNew0_snoc B c _ (by simp) hn, Nat.mul_mod_left]
      show _ = Except.ok (B ++ [c] ++ [UInt8.ofNat 255])
      rw [show maskNat 0 = 255 from rfl, and_ff _ c.toNat_lt, UInt8.ofNat_toNat, List.append_assoc]
      rfl
  · -- `r` bits in the last byte: control byte 1; the marker bit gives the bit length and is masked away
    obtain ⟨init, last, hp, hz⟩ := hv.2 h0
    have hr := hv.1
    have hb : bitLenOf (1 :: (init ++ [UInt8.ofNat (last.toNat ||| 2 ^ (7 - p.r))])) 1
        = ((init.length * 8 + p.r : Nat) : Int) := by
      unfold bitLenOf
      rw [if_neg (by decide), ← List.cons_append, List.getLast?_concat]
      simp only [Option.getD_some, List.length_cons, List.length_append, List.length_nil,
        Nat.add_sub_cancel, tz_marker p.r last.toNat last.toNat_lt hz]
      omega
    rw [if_neg h0, hp, List.dropLast_concat, List.getLast?_concat, Option.getD_some, convertOne_cons, hb,
      if_neg (Int.not_lt.mpr (Int.natCast_nonneg _)), Int.toNat_natCast,
      bitstrNew0_snoc init _ _ (by omega) (by omega), show (init.length * 8 + p.r) % 8 = p.r by omega]
    have hm : maskNat p.r = (0xff <<< (8 - p.r)) % 256 := if_neg h0
    rw [hm, and_marker p.r last.toNat hr last.toNat_lt hz, UInt8.ofNat_toNat, List.append_assoc]
    rfl

theorem convert_one_length (p : BitPrefix) (hv : p.Valid) :
    p.bitstrEnc.length = p.ctrlEnc.length := by
  rw [p.bitstrEnc_length, p.ctrlEnc_length hv]

theorem go_body (pbm : BitmapMsg) (fuel i : Nat) (bytes : Bytes) :
    innerPrefixTobitstr.go pbm (fuel + 1) i bytes =
      (select32R64 pbm i >>= fun p =>
        Slim.sliceBytes bytes p.1 p.2 >>= fun old =>
          convertOne old >>= fun new =>
            if p.2 = (copyInto bytes p.1 old.length new).length
            then .ok (copyInto bytes p.1 old.length new)
            else innerPrefixTobitstr.go pbm fuel (i + 1) (copyInto bytes p.1 old.length new)) := by
  rw [innerPrefixTobitstr.go.eq_2]
  cases hsel : select32R64 pbm i with
  | error e => rfl
  | ok p =>
    obtain ⟨frm, to⟩ := p
    simp only [bind, Except.bind]
    cases hsl : Slim.sliceBytes bytes frm to with
    | error e => rfl
    | ok old =>
      simp only []
      unfold convertOne
      cases hh : old.head? with
      | none => rfl
      | some c0 =>
        simp only []
        change (if bitLenOf old c0 < 0 then _ else _) = _
        by_cases hneg : bitLenOf old c0 < 0
        · rw [if_pos hneg]; simp only [if_pos hneg]
        · rw [if_neg hneg]; simp only [if_neg hneg]
          rfl

def sz (p : BitPrefix) : Nat := p.payload.length + 1

theorem sz_pos (ps : List BitPrefix) : ∀ x ∈ ps.map sz, 0 < x := by
  intro x hx
  obtain ⟨p, _, rfl⟩ := List.mem_map.mp hx
  exact Nat.succ_pos _

theorem flatten_length_sz (f : BitPrefix → Bytes) (ps : List BitPrefix)
    (h : ∀ p ∈ ps, (f p).length = sz p) : (ps.map f).flatten.length = (ps.map sz).sum := by
  rw [List.length_flatten, List.map_map]
  exact congrArg List.sum (List.map_congr_left h)

theorem flatten_length_ctrl (ps : List BitPrefix) (hv : ∀ p ∈ ps, p.Valid) :
    (ps.map BitPrefix.ctrlEnc).flatten.length = (ps.map sz).sum :=
  flatten_length_sz _ ps fun p hp => p.ctrlEnc_length (hv p hp)

theorem flatten_length_bitstr (ps : List BitPrefix) :
    (ps.map BitPrefix.bitstrEnc).flatten.length = (ps.map sz).sum :=
  flatten_length_sz _ ps fun p _ => p.bitstrEnc_length

theorem sliceBytes_mid (A old C : Bytes) :
    Slim.sliceBytes (A ++ old ++ C) A.length (A.length + old.length) = .ok old := by
  unfold Slim.sliceBytes
  rw [if_pos ⟨by omega, by simp⟩, Nat.add_sub_cancel_left, List.append_assoc, List.drop_left,
    List.take_left]

theorem copyInto_mid (A old new C : Bytes) (h : new.length = old.length) :
    copyInto (A ++ old ++ C) A.length old.length new = A ++ new ++ C := by
  unfold copyInto
  have hmin : min old.length new.length = new.length := by omega
  simp only [hmin, List.take_length]
  rw [List.append_assoc A old C, List.take_left, ← List.append_assoc,
    List.drop_left' (by rw [List.length_append, h])]


section map
variable {α : Type} (old new : α → Bytes)

def Converts (x : α) : Prop :=
  convertOne (old x) = .ok (new x) ∧ (new x).length = (old x).length ∧ 0 < (old x).length

theorem Converts.pos {old new : α → Bytes} {x : α} (h : Converts old new x) : 0 < (new x).length :=
  h.2.1 ▸ h.2.2

/-- The loop is a map over the elements, in place, whatever the two encodings are.  Invariant: `A`
    is what has been converted already, and the element of index `i` starts at `A.length`. -/
theorem go_map (pbm : BitmapMsg) :
    ∀ (xs : List α) (x : α) (A : Bytes) (i fuel : Nat),
    (∀ y ∈ x :: xs, Converts old new y) → xs.length < fuel →
    (∀ k, k < (x :: xs).length → select32R64 pbm (i + k) =
      .ok (A.length + (((x :: xs).map fun y => (old y).length).take k).sum,
           A.length + (((x :: xs).map fun y => (old y).length).take (k + 1)).sum)) →
    innerPrefixTobitstr.go pbm fuel i (A ++ ((x :: xs).map old).flatten)
      = .ok (A ++ ((x :: xs).map new).flatten)
  | xs, x, A, i, fuel + 1, hc, hf, hsel => by
    obtain ⟨hcv, hlen, hpos⟩ := hc x List.mem_cons_self
    have h0 := hsel 0 (Nat.succ_pos _)
    simp only [Nat.add_zero, List.take_zero, List.sum_nil, List.map_cons, List.take_succ_cons,
      List.sum_cons] at h0
    rw [List.map_cons, List.flatten_cons, ← List.append_assoc, go_body, h0]
    simp only [bind, Except.bind, sliceBytes_mid, hcv, copyInto_mid A _ _ _ hlen]
    cases xs with
    | nil => simp [hlen]
    | cons y ys =>
      -- not the last element: what follows is not empty, so the end test fails
      have hy := (hc y (List.mem_cons_of_mem _ List.mem_cons_self)).2.2
      rw [if_neg (by simp only [List.map_cons, List.flatten_cons, List.length_append, hlen]; omega)]
      have ih := go_map pbm ys y (A ++ new x) (i + 1) fuel
        (fun z hz => hc z (List.mem_cons_of_mem _ hz)) (Nat.lt_of_succ_lt_succ hf)
        (fun k hk => by
          have := hsel (k + 1) (Nat.succ_lt_succ hk)
          simpa [List.length_append, hlen, Nat.add_assoc, Nat.add_comm 1 k] using this)
      simpa [List.append_assoc] using ih

theorem length_le_flatten (xs : List α) (h : ∀ x ∈ xs, 0 < (old x).length) :
    xs.length ≤ (xs.map old).flatten.length := by
  induction xs with
  | nil => exact Nat.le_refl _
  | cons a t ih =>
    have := h a List.mem_cons_self
    have := ih fun x hx => h x (List.mem_cons_of_mem _ hx)
    simp only [List.map_cons, List.flatten_cons, List.length_append, List.length_cons]
    omega

theorem innerPrefixTobitstr_map (s : SlimMsg) (ips : VLenArrayMsg) (pbm : BitmapMsg) (xs : List α)
    (hips : s.innerPrefixes = some ips) (hpbm : ips.positionBM = some pbm)
    (hbytes : ips.bytes = (xs.map old).flatten) (hc : ∀ x ∈ xs, Converts old new x)
    (hsel : SelectsBoundaries pbm (xs.map fun x => (old x).length)) :
    innerPrefixTobitstr s
      = .ok { s with innerPrefixes := some { ips with bytes := (xs.map new).flatten } } := by
  unfold innerPrefixTobitstr
  simp only [hips, hpbm, bind, Except.bind, pure, Except.pure]
  cases xs with
  | nil =>
    cases s
    cases ips
    simp only at hips hpbm hbytes
    subst hips hpbm hbytes
    rfl
  | cons x rest =>
    have hlen := length_le_flatten old (x :: rest) fun y hy => (hc y hy).2.2
    rw [hbytes, List.isEmpty_eq_false_iff.mpr fun h => by rw [h] at hlen; exact absurd hlen (by simp)]
    have := go_map old new pbm rest x [] 0 _ hc (Nat.lt_succ_of_le (Nat.le_of_succ_le hlen))
      (fun k hk => by simpa using hsel k (by simpa using hk))
    simp only [List.nil_append] at this
    simp only [Bool.false_eq_true, if_false, this]

end map

theorem conv_ctrl (p : BitPrefix) (hv : p.Valid) : Converts BitPrefix.ctrlEnc BitPrefix.bitstrEnc p :=
  ⟨convert_one p hv, convert_one_length p hv, by rw [p.ctrlEnc_length hv]; exact Nat.succ_pos _⟩

/-- `C06_prefix_reencode`: `before000512InnerPrefixTobitstr` rewrites the byte array of any list
    of control-byte prefixes into the concatenation of their bit-string forms. -/
theorem innerPrefixTobitstr_spec (s : SlimMsg) (ips : VLenArrayMsg) (pbm : BitmapMsg)
    (ps : List BitPrefix)
    (hips : s.innerPrefixes = some ips) (hpbm : ips.positionBM = some pbm)
    (hbytes : ips.bytes = (ps.map BitPrefix.ctrlEnc).flatten)
    (hv : ∀ p ∈ ps, p.Valid)
    (hsel : SelectsBoundaries pbm (ps.map sz)) :
    innerPrefixTobitstr s
      = .ok { s with innerPrefixes := some { ips with bytes := (ps.map BitPrefix.bitstrEnc).flatten } } :=
  innerPrefixTobitstr_map _ _ s ips pbm ps hips hpbm hbytes (fun q hq => conv_ctrl q (hv q hq))
    (by rw [List.map_congr_left fun q hq => q.ctrlEnc_length (hv q hq)]; exact hsel)

def ofNibs (ns : List Nat) : BitPrefix := { payload := unnibs ns, r := if ns.length % 2 = 0 then 0 else 4 }

theorem unnibs_odd_last (ns : List Nat) (hodd : ns.length % 2 = 1) :
    ∃ init last, unnibs ns = init ++ [last] ∧ last.toNat % 2 ^ (8 - 4) = 0 := by
  induction ns using unnibs.induct with
  | case1 => simp at hodd
  | case2 h =>
    refine ⟨[], UInt8.ofNat (h * 16), rfl, ?_⟩
    simp only [UInt8.toNat_ofNat']
    omega
  | case3 h l rest ih =>
    obtain ⟨init, last, h1, h2⟩ := ih (by simp at hodd; omega)
    exact ⟨UInt8.ofNat (h * 16 + l) :: init, last, by simp [unnibs, h1], h2⟩

theorem ofNibs_valid (ns : List Nat) : (ofNibs ns).Valid := by
  unfold ofNibs BitPrefix.Valid
  by_cases h : ns.length % 2 = 0
  · simp [h]
  · simp only [h, if_false]
    exact ⟨by omega, fun _ => unnibs_odd_last ns (by omega)⟩

theorem bitstrOf_eq_bitstrEnc (ns : List Nat) : Slim.bitstrOf ns = (ofNibs ns).bitstrEnc := by
  unfold Slim.bitstrOf ofNibs BitPrefix.bitstrEnc maskNat
  by_cases h : ns.length % 2 = 0
  · simp [h]
  · simp only [h, if_false]
    rfl

theorem ofNibs_bitLen (ns : List Nat) : (ofNibs ns).bitLen = 4 * ns.length := by
  unfold ofNibs BitPrefix.bitLen
  by_cases h : ns.length % 2 = 0
  · simp only [h, if_true, Refine.unnibs_length]; omega
  · simp only [h, if_false, Refine.unnibs_length]
    rw [if_neg (by omega)]; omega

end Legacy

namespace Legacy

theorem leadingOnes_mask : ∀ r : Fin 8, r.val ≠ 0 →
    LegacyWrite.leadingOnes (UInt8.ofNat ((0xff <<< (8 - r.val)) % 256)) = r.val ∧
    UInt8.ofNat ((0xff <<< (8 - r.val)) % 256) ≠ 0xff := by decide +kernel

/-- `LegacyWrite.ctrlOfBitstr` (the 0.5.10 writer's rewriting of what today's builder stores) is
    `ctrlEnc`: with `convert_one`, loading what the writer wrote gives back the builder's bytes. -/
theorem ctrlOfBitstr_bitstrEnc (p : BitPrefix) (hv : p.Valid) :
    LegacyWrite.ctrlOfBitstr p.bitstrEnc = p.ctrlEnc := by
  unfold LegacyWrite.ctrlOfBitstr BitPrefix.bitstrEnc BitPrefix.ctrlEnc
  simp only [List.getLast?_append, List.getLast?_singleton, Option.some_or, List.dropLast_concat]
  by_cases h0 : p.r = 0
  · simp [h0, maskNat]
  · obtain ⟨init, last, hp, hz⟩ := hv.2 h0
    obtain ⟨hlo, hne⟩ := leadingOnes_mask ⟨p.r, hv.1⟩ h0
    have hand : last.toNat &&& (UInt8.ofNat ((0xff <<< (8 - p.r)) % 256)).toNat = last.toNat := by
      rw [UInt8.toNat_ofNat', Nat.mod_mod]; exact and_mask p.r last.toNat last.toNat_lt hz
    simp only at hlo hne
    have hm : maskNat p.r = (0xff <<< (8 - p.r)) % 256 := by simp [maskNat, h0]
    rw [hm, if_neg hne, if_neg h0, hp]
    simp only [List.getLast?_append, List.getLast?_singleton, Option.some_or, List.dropLast_concat,
      Option.getD_some, hlo, hand, Nat.one_shiftLeft]

theorem convertOne_ctrlOfBitstr (p : BitPrefix) (hv : p.Valid) :
    convertOne (LegacyWrite.ctrlOfBitstr p.bitstrEnc) = .ok p.bitstrEnc := by
  rw [ctrlOfBitstr_bitstrEnc p hv, convert_one p hv]

/-- the bit-string form of a valid prefix survives the 0.5.10 writer followed by the loader -/
theorem converts_writer (p : BitPrefix) (hv : p.Valid) :
    Converts LegacyWrite.ctrlOfBitstr id p.bitstrEnc := by
  unfold Converts
  rw [ctrlOfBitstr_bitstrEnc p hv]
  exact conv_ctrl p hv

/-- … so does whatever today's builder stores -/
theorem converts_bitstrOf (ns : List Nat) : Converts LegacyWrite.ctrlOfBitstr id (Slim.bitstrOf ns) :=
  bitstrOf_eq_bitstrEnc ns ▸ converts_writer _ (ofNibs_valid ns)

end Legacy
