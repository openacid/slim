import SlimProofs.VLen
import SlimProofs.Refine.GetNodeEq
import SlimProofs.Encode
/-
  The typed getters `GetI8/16/32/64` (`Slim.getInt`) read the same bytes as `Get`
  (`get (Slim.view s)`): with all values of one non-zero width `w`, `newVLenArray` builds the
  fixed layout with full presence, so `VLenArray.get(ith)` is the slice `[ith·w, ith·w + w)` of
  `Leaves.Bytes` — the slice `getInt` takes directly.  (Property C14.)
-/
namespace Slim
open Bits

theorem getNode_leaf_inv (s : SlimMsg) (id ith : Nat) (lp : Option Bytes)
    (h : getNode s id = .ok (.leaf ith lp)) :
    ∃ nt r, s.nodeTypeBM = some nt ∧ rank64 nt id = .ok (r, false) ∧ ith = id - r := by
  obtain ⟨nt, r, b, hnt, hr, h⟩ := (getNode_ok_iff s id _).mp h
  cases b with
  | false =>
    obtain ⟨_, _, h⟩ := h
    cases h
    exact ⟨nt, r, hnt, hr, rfl⟩
  | true =>
    -- `innerNode` returns an `.inner` record
    obtain ⟨_, _, _, _, _, _, _, _, _, _, _, _, _, h⟩ := (innerNode_ok_iff s r _).mp h
    cases h

theorem slice_fixed_width (elts : List Bytes) (w : Nat) (h : ∀ e ∈ elts, e.length = w) (i : Nat)
    (hi : i < elts.length) :
    sliceBytes elts.flatten (i * w) (i * w + w) = .ok elts[i] := by
  have hk := List.getElem?_eq_getElem hi
  have := Refine.sliceBytes_flatten elts i _ hk
  rwa [Refine.take_sum_map_length_succ elts i _ hk, ← List.map_take,
    Refine.sum_take_map_length elts w h i (Nat.le_of_lt hi), h _ (List.getElem_mem hi)] at this

/-- `leSigned` is the Go conversion `intW(binary.LittleEndian.UintW(b))` of package encode -/
theorem leSigned_eq_toS (bs : Bytes) (w : Nat) (hl : bs.length = w) (hw : 1 ≤ w) :
    leSigned bs = Encode.toS w (leVal bs) := by
  subst hl
  rw [Encode.toS_half hw]
  rfl

/-- the typed getter inverts the matching little-endian integer encoder of package encode
    (`I8`, `I16`, `I32`, `I64`: `Encode.encodeS w`), over the full range of the integer type -/
theorem leSigned_encodeS {w : Nat} (hw : 1 ≤ w) {v : Int} (hv : Encode.InS w v) :
    leSigned (Encode.encodeS w v) = v := by
  unfold Encode.encodeS
  rw [leSigned_eq_toS _ w (Encode.leBytes_length w _) hw,
    Encode.leVal_leBytes_of_lt (Encode.toU_lt w v), Encode.toS_toU hw hv]

/-- Both readers at a leaf whose ordinal lies inside the value array: `GetIw` slices `Leaves.Bytes`
    itself, `Get` goes through `VLenArray.get`; with one width they take the same element. -/
theorem getInt_leaf (s : SlimMsg) (w : Nat) (hw : 0 < w) (elts : List Bytes) (key : Bytes)
    (hleaves : s.leaves = newVLenArray elts) (hwidth : ∀ e ∈ elts, e.length = w)
    {id ith : Nat} {lp : Option Bytes} (hid : getID (view s) key = .ok (some id))
    (hnode : getNode s id = .ok (.leaf ith lp)) (hith : ith < elts.length) :
    getInt s w key = .ok (some (leSigned elts[ith])) ∧
    _root_.get (view s) key = .ok (some (some elts[ith])) := by
  obtain ⟨nt, r, hnt, hrank, hord⟩ := getNode_leaf_inv s id ith lp hnode
  obtain ⟨va, hva⟩ := newVLenArray_isSome hw hwidth hith
  obtain ⟨_, _, hbytes, _⟩ := newVLenArray_fields elts va hva
  have hlv : s.leaves = some va := by rw [hleaves, hva]
  have hslice := slice_fixed_width elts w hwidth ith hith
  have hget := vlenGet_newVLenArray elts va hva ith hith
  have hgd : elts.getD ith [] = elts[ith] := getD_eq_getElem elts [] hith
  subst hord
  unfold getInt _root_.get
  rw [hid]
  simp only [bind, Except.bind, pure, Except.pure, hnt, hrank, hlv, hbytes, hslice, getLeaf, view,
    hnode, hget, hgd, and_self]

/-- C14, core: the typed getter and `Get` on the same message.  `hleaf`: the id that `GetID`
    reports decodes as a leaf whose ordinal is inside the value array (true for every trie built
    by `NewSlimTrie`; discharged by the build refinement). -/
theorem getInt_eq_get (s : SlimMsg) (w : Nat) (hw : 0 < w) (elts : List Bytes) (key : Bytes)
    (hleaves : s.leaves = newVLenArray elts) (hwidth : ∀ e ∈ elts, e.length = w)
    (hleaf : ∀ id, getID (view s) key = .ok (some id) →
      ∃ ith lp, getNode s id = .ok (.leaf ith lp) ∧ ith < elts.length) :
    getInt s w key
      = (_root_.get (view s) key).map (fun r => r.map (fun b => leSigned (b.getD []))) := by
  match hid : getID (view s) key with
  | .error _ | .ok none => unfold getInt _root_.get; rw [hid]; rfl
  | .ok (some id) =>
    obtain ⟨ith, lp, hnode, hith⟩ := hleaf id hid
    obtain ⟨h1, h2⟩ := getInt_leaf s w hw elts key hleaves hwidth hid hnode hith
    rw [h1, h2]; rfl

end Slim
