import SlimProofs.IterLemmas
/-
  SlimProofs.IterStack — the iterator state machine of trie/slimtrie_scan.go on a well-formed
  Complete (`opt.inner ∧ opt.leaf`) record array: key reassembly and DFS stepping.

  The buffer invariant is `BufAgree buf k w`: the first `w` half-bytes of `buf` exist and are those
  of `k`; the writes (`appendLabel_spec`, `appendInnerPrefix_spec`) put `unnibs l` behind whole
  bytes of the buffer and extend it through `BufAgree.write`, except the one into the low half of
  an existing byte (`agree_low4`), and every `reslice` stays within the buffer.  The stack
  invariant is `Chain stack nxt`: the `mkElt`s of the inner nodes from the root down, cursors on
  the chain.  `enter_spec` / `label_spec` are the two moves both `buildStack_spec` (the prologue
  of `newIter`) and `descend_spec` (one `next()` down to a leaf) are made of.  Between calls the
  state is `Pos … a`: exhausted with no kept key from `a` on, or `Ready … a`: no kept key lies
  between `a` and the subtree under the top cursor, and the buffer holds the common prefix of the
  top element's subset.  Which key comes next is found at the leaf `descend` ends at (its one key
  is kept), not carried along: every move only extends the gap.  `next()` yields that key `m` and
  leaves the state at `Pos … (m + 1)` (`advance_spec`, `iterNext_ready`).  `Yields v wv s L` is the
  run of an iterator call by call; `yields_pos` gives it for `Pos … a` (the kept keys from `a` on),
  `Yields.take` reads any number of `next()` calls off it.
-/

namespace IterStack
open Subtree SearchDescent Scan IterLemmas
open LeafCount (keptIn keptIn_nil keptIn_skip keptIn_cons)

theorem unnibs_length : ∀ ns : List Nat, ns.length ≤ 2 * (unnibs ns).length
  | [] => Nat.le_refl 0
  | [_] => Nat.le_succ 1
  | _ :: _ :: rest => Nat.add_le_add_right (unnibs_length rest) 2

def BufAgree (buf : Bytes) (k : List Nat) (w : Nat) : Prop :=
  w ≤ 2 * buf.length ∧ (nibs buf).take w = k.take w

theorem BufAgree.mono {buf : Bytes} {k : List Nat} {w w' : Nat} (h : BufAgree buf k w)
    (hw : w' ≤ w) : BufAgree buf k w' :=
  ⟨Nat.le_trans hw h.1, take_eq_of_le h.2 hw⟩

theorem BufAgree.congr {buf : Bytes} {k k' : List Nat} {w : Nat} (h : BufAgree buf k w)
    (hk : k.take w = k'.take w) : BufAgree buf k' w := ⟨h.1, h.2.trans hk⟩

theorem BufAgree.le {buf : Bytes} {k : List Nat} {w : Nat} (h : BufAgree buf k w) :
    w ≤ k.length :=
  le_length_of_take_eq h.2.symm ((nibs_length buf).symm ▸ h.1)

theorem take_len_append {α : Type} (x y : List α) (w j : Nat) (hx : x.length = w) :
    (x ++ y).take (w + j) = x ++ y.take j :=
  hx ▸ List.take_length_add_append j

/-- the shape of the writes of `appendInnerPrefix` and of `appendLabel` at an even position:
    `unnibs l` from the byte that contains half-byte `w` on -/
theorem BufAgree.write {buf : Bytes} {k l : List Nat} {w : Nat} (h : BufAgree buf k w)
    (hl : ∀ x ∈ l, x < 16) (hk : k.take (w - w % 2 + l.length) = k.take (w - w % 2) ++ l) :
    BufAgree (buf.take (w / 2) ++ unnibs l) k (w - w % 2 + l.length) := by
  have hw : w - w % 2 = 2 * (w / 2) := Nat.sub_eq_of_eq_add (Nat.div_add_mod w 2).symm
  have h' := h.mono (Nat.sub_le w (w % 2))
  have hx : nibs (buf.take (w / 2)) = k.take (w - w % 2) := by
    rw [nibs_take, ← hw]
    exact h'.2
  refine ⟨?_, ?_⟩
  · rw [List.length_append, List.length_take_of_le (Nat.div_le_of_le_mul h.1), Nat.mul_add, hw]
    exact Nat.add_le_add_left (unnibs_length l) _
  · rw [nibs_append, hx, take_len_append _ _ _ _ (List.length_take_of_le h'.le),
      take_nibs_unnibs l hl, hk]

def mkElt (r : InnerRec) (fb ws c : Nat) : Elt :=
  { firstChild := r.firstChild, ithLabel := c, labels := r.labels, big := r.big
    prefixStart := fb, prefixEnd := ws
    labelEnd := ws + labelLen (r.labels.getD c 0) r.big
    width := labelLen (r.labels.getD c 0) r.big
    label := r.labels.getD c 0 - 1 }

theorem update_mkElt (r : InnerRec) (fb ws c le wd lb : Nat) (hc : c < r.labels.length) :
    ({ firstChild := r.firstChild, ithLabel := c, labels := r.labels, big := r.big,
       prefixStart := fb, prefixEnd := ws, labelEnd := le, width := wd, label := lb } : Elt).update
      = some (mkElt r fb ws c) := by
  unfold Elt.update mkElt
  simp only [List.getElem?_eq_getElem hc, List.getD_eq_getElem?_getD, Option.getD_some]
  cases hl : r.labels[c] with
  | zero => simp [labelLen]
  | succ b =>
    cases hb : r.big <;> simp [labelLen]

theorem update_none (e : Elt) (h : e.labels.length ≤ e.ithLabel) : e.update = none := by
  unfold Elt.update
  rw [List.getElem?_eq_none h]

/-- `scanStackElt.init` on a record with its inner prefix stored: the cursor on a given child
    (`buildStack`), or on the first child when none is given (`next`) -/
theorem init_spec (opt : Opt) (hin : opt.inner = true) (r : InnerRec) (ks : List Nat)
    (fb ws c : Nat) (hfb : fb ≤ ws) (hks : ws ≤ ks.length) (hpref : r.pref = prefOf opt ks fb ws)
    (hc : c < r.labels.length) (child : Option Nat)
    (hch : child = some (r.firstChild + c) ∨ child = none ∧ c = 0) :
    Elt.init r child fb = .ok (mkElt r fb ws c) := by
  have hgiven : Elt.init r child fb = Elt.init r (some (r.firstChild + c)) fb := by
    rcases hch with rfl | ⟨rfl, rfl⟩
    · rfl
    · unfold Elt.init
      simp only [Nat.add_zero, Int.sub_self]
  have hidx : ((r.firstChild + c : Nat) : Int) - r.firstChild = c := by
    rw [Int.natCast_add, Int.add_comm, Int.add_sub_cancel]
  rw [hgiven]
  unfold Elt.init
  rw [hpref]
  simp only [hidx, Int.toNat_natCast]
  rw [if_neg (Int.not_lt.mpr (Int.natCast_nonneg c))]
  rcases prefOf_complete opt hin ks fb ws hfb hks with ⟨h1, h2⟩ | ⟨h1, h3, _⟩
  · rw [h1, ← h2]
    simp only [prefLen]
    rw [update_mkElt r ws ws c 0 0 0 hc]
  · rw [h1]
    simp only [prefLen]
    rw [h3, update_mkElt r fb ws c 0 0 0 hc]

theorem reslice_ok (buf : Bytes) (l : Nat) (h : l ≤ buf.length) :
    reslice buf l = .ok (buf.take l) := by
  unfold reslice; rw [if_pos h]

theorem half_succ_of_even {w : Nat} (h : w % 2 = 0) : (w + 1) / 2 = w / 2 := by omega

theorem nib_pair_lt {a b : Nat} (ha : a < 16) (hb : b < 16) : a * 16 + b < 256 := by omega

theorem reslice_agree (buf : Bytes) (k : List Nat) (ws : Nat) (h : BufAgree buf k ws) :
    reslice buf ((ws + 1) / 2) = .ok (buf.take ((ws + 1) / 2)) ∧
    (buf.take ((ws + 1) / 2)).length = (ws + 1) / 2 ∧
    BufAgree (buf.take ((ws + 1) / 2)) k ws := by
  have hl : (ws + 1) / 2 ≤ buf.length := by have := h.1; omega
  have hws : ws ≤ 2 * ((ws + 1) / 2) := by omega
  have hl' := List.length_take_of_le hl
  refine ⟨reslice_ok _ _ hl, hl', hl'.symm ▸ hws, ?_⟩
  rw [nibs_take, List.take_take, Nat.min_eq_left hws]
  exact h.2

theorem agree_low4 {b1 : Bytes} {k : List Nat} {ws a : Nat} (hb1 : BufAgree b1 k ws)
    (hk1 : k.take (ws + 1) = k.take ws ++ [a]) (ha : a < 16) (hlen : b1.length = (ws + 1) / 2)
    (hodd : ¬ ws % 2 = 0) :
    ∃ cb, b1.getLast? = some cb ∧
      BufAgree (b1.dropLast ++ [UInt8.ofNat (cb.toNat - cb.toNat % (15 + 1) + a % (15 + 1))]) k
        (ws + 1) := by
  have hl := Nat.div_add_mod (ws + 1) 2
  rw [show (ws + 1) % 2 = 0 by rw [Nat.add_mod, Nat.mod_two_not_eq_zero.mp hodd], Nat.add_zero,
    ← hlen] at hl
  obtain ⟨ys, cb, rfl⟩ : ∃ ys cb, b1 = ys ++ [cb] := by
    cases List.eq_nil_or_concat b1 with
    | inl h => rw [h] at hl; simp at hl
    | inr h =>
      obtain ⟨ys, cb, h⟩ := h
      exact ⟨ys, cb, by rw [h, List.concat_eq_append]⟩
  rw [List.length_append, List.length_singleton] at hl
  obtain rfl : ws = 2 * ys.length + 1 := (Nat.succ.inj hl).symm
  have hx : cb.toNat - cb.toNat % (15 + 1) + a % (15 + 1) = cb.toNat / 16 * 16 + a := by
    show cb.toNat - cb.toNat % 16 + a % 16 = _
    rw [Nat.mod_eq_of_lt ha, Nat.sub_eq_of_eq_add (Nat.div_add_mod' cb.toNat 16).symm]
  rw [List.getLast?_concat, List.dropLast_concat]
  refine ⟨cb, rfl, ?_, ?_⟩
  · rw [List.length_append, List.length_singleton]
    exact Nat.le_of_eq hl.symm
  -- the half-bytes of `ys ++ [cb]` with the last one replaced by `a`
  rw [hx]
  have h1 : k.take (2 * ys.length + 1) = nibs ys ++ [cb.toNat / 16] := by
    rw [← hb1.2, nibs_append, take_len_append _ _ _ 1 (nibs_length ys)]
    rfl
  rw [nibs_append, nibs_cons_ofNat _ a (Nat.div_lt_of_lt_mul cb.toNat_lt) ha [],
    List.take_of_length_le (by
      simp only [List.length_append, nibs_length, List.length_cons, List.length_nil]
      exact Nat.le_refl _),
    hk1, h1, List.append_assoc]
  rfl

theorem appendLabel_spec (e : Elt) (big : Bool) (ws : Nat) (buf : Bytes) (k : List Nat)
    (hk16 : ∀ x ∈ k, x < 16) (hke : k.length % 2 = 0) (hbw : big = true → ws % 2 = 0)
    (hpe : e.prefixEnd = ws) (hw : e.width = labelLen (labelAt k ws big) big)
    (hl : e.label = labelAt k ws big - 1) (hbuf : BufAgree buf k ws) :
    ∃ buf', appendLabel e buf = .ok buf' ∧ BufAgree buf' k (ws + e.width) := by
  obtain ⟨hres, hb1len, hb1⟩ := reslice_agree buf k ws hbuf
  generalize buf.take ((ws + 1) / 2) = b1 at hres hb1len hb1
  unfold appendLabel
  simp only [hpe, hres, bind, Except.bind, pure, Except.pure]
  unfold labelAt at hw hl
  cases hkw : k[ws]? with
  | none =>
    -- the key ends at `ws`: label 0, nothing is appended
    rw [hkw] at hw
    have hw0 : e.width = 0 := hw
    rw [if_pos hw0, hw0]
    exact ⟨b1, rfl, hb1⟩
  | some a =>
    rw [hkw] at hw hl
    obtain ⟨hwlt, hka⟩ := List.getElem?_eq_some_iff.mp hkw
    have ha16 : a < 16 := hk16 a (hka ▸ List.getElem_mem hwlt)
    have hk1 : k.take (ws + 1) = k.take ws ++ [a] := hka ▸ List.take_succ_eq_append_getElem hwlt
    -- in front of an even position the resliced buffer is a whole number of bytes, and `l` is
    -- written into a fresh one
    have fresh : ∀ l : List Nat, (∀ x ∈ l, x < 16) → k.take (ws + l.length) = k.take ws ++ l →
        ws % 2 = 0 → BufAgree (b1 ++ unnibs l) k (ws + l.length) := by
      intro l hl16 hkl hev
      have hlen : b1.length ≤ ws / 2 := Nat.le_of_eq (hb1len.trans (half_succ_of_even hev))
      have hag := hb1.write hl16 (by rw [hev]; exact hkl)
      rwa [hev, List.take_of_length_le hlen] at hag
    cases big with
    | false =>
      have hw1 : e.width = 1 := by rw [hw]; simp [labelLen]
      have hla : e.label = a := by rw [hl]; simp
      simp only [hw1, hla, if_true, Nat.one_ne_zero, if_false]
      by_cases hodd : ws % 2 = 0
      · rw [if_neg (fun h => h hodd), Nat.mod_eq_of_lt ha16]
        exact ⟨_, rfl, fresh [a] (by simpa using ha16) hk1 hodd⟩
      · rw [if_pos hodd]
        obtain ⟨cb, hcb, hag⟩ := agree_low4 hb1 hk1 ha16 hb1len hodd
        rw [hcb]
        exact ⟨_, rfl, hag⟩
    | true =>
      have hev := hbw rfl
      have hw1 : ws + 1 < k.length :=
        add_wordSize_le (big := true) (fun _ => hke) hwlt (fun _ => hev)
      have ha1 : k.getD (ws + 1) 0 = k[ws + 1] := (List.getElem_eq_getD 0).symm
      have hb16 : k[ws + 1] < 16 := hk16 _ (List.getElem_mem hw1)
      have hw2 : e.width = 2 := by rw [hw]; simp [labelLen]
      have hla : e.label = a * 16 + k[ws + 1] := by rw [hl, ha1]; simp
      simp only [hw2, hla, Nat.reduceEqDiff, if_false]
      rw [if_neg (fun h => h hev), Nat.mod_eq_of_lt (nib_pair_lt ha16 hb16)]
      refine ⟨_, rfl, fresh [a, k[ws + 1]] (by simp [ha16, hb16]) ?_ hev⟩
      rw [show ws + [a, k[ws + 1]].length = ws + 1 + 1 from rfl,
        List.take_succ_eq_append_getElem hw1, hk1, List.append_assoc]
      rfl

theorem appendInnerPrefix_spec (opt : Opt) (hin : opt.inner = true) (r : InnerRec)
    (ks : List Nat) (fb ws c : Nat) (hfb : fb ≤ ws) (hks : ws ≤ ks.length)
    (hk16 : ∀ x ∈ ks, x < 16) (buf : Bytes) (hbuf : BufAgree buf ks fb) :
    ∃ buf', appendInnerPrefix (mkElt r fb ws c) buf (prefOf opt ks fb ws) = .ok buf' ∧
      BufAgree buf' ks ws := by
  rcases prefOf_complete opt hin ks fb ws hfb hks with ⟨h1, h2⟩ | ⟨h1, h3, _⟩
  · rw [h1, h2]
    exact ⟨buf, rfl, hbuf⟩
  · rw [h1]
    unfold appendInnerPrefix
    simp only [mkElt, reslice_ok _ _ (Nat.div_le_of_le_mul hbuf.1), bind, Except.bind, pure,
      Except.pure]
    -- the bytes before the one that contains `fb`, then the stored prefix from that byte on
    have hag := hbuf.write (l := storedPrefix ks fb ws)
      (fun x hx => hk16 x (List.mem_of_mem_take (List.mem_of_mem_drop hx))) (by
        rw [h3]
        unfold storedPrefix
        have : ks.take (fb - fb % 2) = (ks.take ws).take (fb - fb % 2) := by
          rw [List.take_take, Nat.min_eq_left (Nat.le_trans (Nat.sub_le _ _) hfb)]
        rw [this, List.take_append_drop])
    rw [h3] at hag
    exact ⟨_, rfl, hag⟩

theorem appendLeafPrefix_spec (opt : Opt) (hleaf : opt.leaf = true) (e : Elt) (key : Bytes)
    (fb : Nat) (he : e.labelEnd = fb) (buf : Bytes) (hbuf : BufAgree buf (nibs key) fb) :
    appendLeafPrefix e buf (leafPrefOf opt key fb) = .ok key := by
  unfold appendLeafPrefix
  simp only [he, reslice_ok _ _ (Nat.div_le_of_le_mul hbuf.1), bind, Except.bind, pure, Except.pure]
  have hbytes : buf.take (fb / 2) = key.take (fb / 2) := nibs_injective (by
    rw [nibs_take, nibs_take]
    exact take_eq_of_le hbuf.2 (Nat.mul_div_le fb 2))
  rw [leafPrefOf_getD opt hleaf, hbytes, List.take_append_drop]

/-- `Chain stack nxt`: the stack (head = top) lists the inner nodes from the root down, each
    element the `mkElt` of its node with the cursor on the next node of the chain; `nxt` is the
    cursor child of the top (the root `0` for the empty stack) -/
inductive Chain (keys : List Bytes) (keep : List Bool) (t : Trie1) (queue : Array Subset) :
    List Elt → Nat → Prop
  | nil : Chain keys keep t queue [] 0
  | cons {rest : List Elt} {j : Nat} {o : Subset} {r : InnerRec} {ws c : Nat} :
      Chain keys keep t queue rest j → queue[j]? = some o → t.nodes[j]? = some (.inner r) →
      InnerFacts keys keep t queue j o r ws → c < r.labels.length →
      Chain keys keep t queue (mkElt r o.fb ws c :: rest) (r.firstChild + c)

section
variable {keys : List Bytes} {keep : List Bool} {t : Trie1} {queue : Array Subset}
  {j : Nat} {o : Subset} {r : InnerRec} {ws : Nat}

theorem kid_facts (F : InnerFacts keys keep t queue j o r ws) {c : Nat} (hc : c < r.labels.length)
    {oc : Subset} (hqc : queue[r.firstChild + c]? = some oc) :
    oc.fb = ws + labelLen r.labels[c] r.big ∧
    RunOK (labelOf keys ws r.big) o.s o.e (r.labels[c], oc.s, oc.e) ∧
    labelAt (knOf keys oc.s) ws r.big = r.labels[c] ∧
    (knOf keys oc.s).take ws = (knOf keys o.s).take ws := by
  obtain ⟨c', hc', hcfb, hrun⟩ := F.run c hc
  rw [hqc] at hc'; cases hc'
  exact ⟨hcfb, hrun, hrun.lab_s, (F.pre oc.s hrun.ge (Nat.lt_of_lt_of_le hrun.lt hrun.le)).2⟩

theorem enter_spec (hinner : t.opt.inner = true) (hsub : SubOK keys keep o)
    (F : InnerFacts keys keep t queue j o r ws) {c : Nat} (hc : c < r.labels.length)
    {child : Option Nat} (hch : child = some (r.firstChild + c) ∨ child = none ∧ c = 0)
    {buf : Bytes} (hbuf : BufAgree buf (knOf keys o.s) o.fb) :
    ∃ buf', Elt.init r child o.fb = .ok (mkElt r o.fb ws c) ∧
      appendInnerPrefix (mkElt r o.fb ws c) buf r.pref = .ok buf' ∧
      BufAgree buf' (knOf keys o.s) ws := by
  have hks : ws ≤ (knOf keys o.s).length := (F.pre o.s (Nat.le_refl _) hsub.lt).1
  obtain ⟨buf', haip, hbuf'⟩ := appendInnerPrefix_spec t.opt hinner r (knOf keys o.s)
    o.fb ws c F.fb_le hks (BuildInv.knOf_lt16 keys o.s) buf hbuf
  rw [← F.pref] at haip
  exact ⟨buf', init_spec t.opt hinner r _ o.fb ws c F.fb_le hks F.pref hc child hch, haip, hbuf'⟩

theorem label_spec (F : InnerFacts keys keep t queue j o r ws)
    {c : Nat} (hc : c < r.labels.length) {oc : Subset}
    (hqc : queue[r.firstChild + c]? = some oc) {buf : Bytes}
    (hbuf : BufAgree buf (knOf keys oc.s) ws) :
    ∃ buf', appendLabel (mkElt r o.fb ws c) buf = .ok buf' ∧
      BufAgree buf' (knOf keys oc.s) oc.fb ∧ (mkElt r o.fb ws c).labelEnd = oc.fb := by
  obtain ⟨hcfb, _, hlab, _⟩ := kid_facts F hc hqc
  rw [List.getElem_eq_getD 0] at hcfb hlab
  obtain ⟨buf', hal, hbuf'⟩ := appendLabel_spec (mkElt r o.fb ws c) r.big ws buf (knOf keys oc.s)
    (BuildInv.knOf_lt16 keys oc.s) (BuildInv.knOf_even keys oc.s) (fun hb => (F.big hb).1) rfl
    (by rw [hlab]; rfl) (by rw [hlab]; rfl) hbuf
  have hle : (mkElt r o.fb ws c).labelEnd = oc.fb := hcfb.symm
  exact ⟨buf', hal, hle ▸ hbuf', hle⟩

end

theorem descend_leaf {v : View} {wv : Bool} {fuel : Nat} {last : Elt} {rest : List Elt}
    {buf buf1 buf2 : Bytes} {ith : Nat} {lp val : Option Bytes}
    (h1 : appendLabel last buf = .ok buf1)
    (h2 : v.node (last.firstChild + last.ithLabel) = .ok (.leaf ith lp))
    (h3 : appendLeafPrefix last buf1 lp = .ok buf2) (h4 : leafValue v wv ith = .ok val) :
    descend v wv (fuel + 1) (last :: rest) buf = .ok (last :: rest, buf2, val) := by
  simp only [descend, h1, h2, h3, h4, bind, Except.bind, pure, Except.pure]

theorem descend_inner {v : View} {wv : Bool} {fuel : Nat} {last e : Elt} {rest : List Elt}
    {buf buf1 buf2 : Bytes} {r : InnerRec}
    (h1 : appendLabel last buf = .ok buf1)
    (h2 : v.node (last.firstChild + last.ithLabel) = .ok (.inner r))
    (h3 : Elt.init r none last.labelEnd = .ok e)
    (h4 : appendInnerPrefix e buf1 r.pref = .ok buf2) :
    descend v wv (fuel + 1) (last :: rest) buf = descend v wv fuel (e :: last :: rest) buf2 := by
  simp only [descend, h1, h2, h3, h4, bind, Except.bind]

def ValOK (t : Trie1) (valOf : Nat → Option Bytes) : Prop :=
  ∀ (id ith : Nat) (lp : Option Bytes) (m : Nat),
    t.nodes[id]? = some (Node.leaf ith lp) → t.leafKeyIdx[ith]? = some m →
    t.view.leafBytes ith = .ok (valOf m)

theorem leafValue_of {t : Trie1} {valOf : Nat → Option Bytes} (hval : ValOK t valOf) (wv : Bool)
    {id ith : Nat} {lp : Option Bytes} {m : Nat} (hnd : t.nodes[id]? = some (.leaf ith lp))
    (hidx : t.leafKeyIdx[ith]? = some m) :
    leafValue t.view wv ith = .ok (if wv then valOf m else none) := by
  unfold leafValue
  cases wv with
  | true => exact hval id ith lp m hnd hidx
  | false => rfl

section
variable {keys : List Bytes} {keep : List Bool} {t : Trie1} {queue : Array Subset}

variable (keys keep t queue) in
/-- the stack `e :: rest` between two `next()` calls, in front of the kept keys from `a` on: the
    cursor of the top element `e` is on child `nxt`, whose subset is `oc` -/
structure ReadyAt (buf : Bytes) (a : Nat) (e : Elt) (rest : List Elt) (nxt : Nat) (oc : Subset) :
    Prop where
  chain : Chain keys keep t queue (e :: rest) nxt
  sub : queue[nxt]? = some oc
  /-- the buffer holds the keys under the cursor as far as the top element branches -/
  agree : BufAgree buf (knOf keys oc.s) e.prefixEnd
  le : a ≤ oc.s
  /-- no kept key lies between `a` and the cursor child -/
  gap : ∀ t', a ≤ t' → t' < oc.s → keptAt keep t' = false

variable (keys keep t queue) in
def Ready (stack : List Elt) (buf : Bytes) (a : Nat) : Prop :=
  ∃ e rest nxt oc, stack = e :: rest ∧ ReadyAt keys keep t queue buf a e rest nxt oc

theorem descend_spec (h : QOK keys keep t queue) (hinner : t.opt.inner = true)
    (hleaf : t.opt.leaf = true) (valOf : Nat → Option Bytes) (hval : ValOK t valOf) (wv : Bool) :
    ∀ fuel nxt, nxt < t.nodes.size → t.nodes.size < nxt + fuel →
      ∀ e rest buf a oc, ReadyAt keys keep t queue buf a e rest nxt oc →
      ∃ m stack' id om, IsMinKept keep a keys.length m ∧
        descend t.view wv fuel (e :: rest) buf
          = .ok (stack', keys.getD m [], if wv then valOf m else none) ∧
        Chain keys keep t queue stack' id ∧ queue[id]? = some om ∧ om.s = m ∧ om.e = m + 1 := by
  refine fuel_descent fun fuel nxt ih _ e rest buf a oc R => ?_
  have hch' := R.chain
  cases hch' with
  | cons _ _ _ F hc =>
    have hqc := R.sub
    obtain ⟨buf1, hal, hbuf1, hle⟩ := label_spec F hc hqc R.agree
    obtain ⟨hsubc, nd, hview, hnd, hnodec⟩ := h.view hqc
    cases nd with
    | leaf ith lp =>
      obtain ⟨h1e, hidx, hlp⟩ := hnodec
      have halp : appendLeafPrefix _ buf1 lp = .ok (keys.getD oc.s []) :=
        hlp ▸ appendLeafPrefix_spec t.opt hleaf _ _ oc.fb hle buf1 hbuf1
      exact ⟨oc.s, _, _, oc,
        ⟨R.le, Nat.lt_of_lt_of_le hsubc.lt hsubc.le, hsubc.single h1e, R.gap⟩,
        descend_leaf hal hview halp (leafValue_of hval wv hnd hidx), R.chain, hqc, rfl, h1e⟩
    | inner r' =>
      obtain ⟨ws', F'⟩ := inner_facts h hsubc hnodec.2
      obtain ⟨buf2, hinit, haip, hbuf2⟩ :=
        enter_spec hinner hsubc F' F'.ne (Or.inr ⟨rfl, rfl⟩) hbuf1
      rw [descend_inner hal hview (hle ▸ hinit) haip]
      obtain ⟨oc', hqc', _, hrun'⟩ := F'.run 0 F'.ne
      exact ih _ F'.fc (h.lt hqc') _ _ buf2 a oc'
        { chain := Chain.cons R.chain hqc hnd F' F'.ne
          sub := hqc'
          agree := hbuf2.congr (kid_facts F' F'.ne hqc').2.2.2.symm
          le := Nat.le_trans R.le hrun'.ge
          -- no kept key of the node lies before its first child
          gap := gap_append R.gap
            (gap_first (kept := keptAt keep) F'.labels F'.pw hrun') }

theorem advance_cons_some {e e' : Elt} (rest : List Elt)
    (h : ({ e with ithLabel := e.ithLabel + 1 } : Elt).update = some e') :
    advance (e :: rest) = e' :: rest := by
  simp only [advance, h]

theorem advance_cons_none {e : Elt} (rest : List Elt)
    (h : ({ e with ithLabel := e.ithLabel + 1 } : Elt).update = none) :
    advance (e :: rest) = advance rest := by
  simp only [advance, h]

theorem kept_single {o : Subset} {m : Nat} (hs : o.s = m) (he : o.e = m + 1)
    (hk : keptAt keep m = true) : IsMaxKept keep o.s o.e m := by
  rw [hs, he]
  exact ⟨Nat.le_refl _, Nat.lt_succ_self _, hk,
    fun t h1 h2 => absurd h1 (Nat.not_lt.mpr (Nat.le_of_lt_succ h2))⟩

def Pos (keys : List Bytes) (keep : List Bool) (t : Trie1) (queue : Array Subset)
    (stack : List Elt) (buf : Bytes) (a : Nat) : Prop :=
  (stack = [] ∧ ∀ t', a ≤ t' → t' < keys.length → keptAt keep t' = false) ∨
  Ready keys keep t queue stack buf a

theorem advance_spec
    (hroot : queue[0]? = some { s := 0, e := keys.length, fb := 0 }) (buf : Bytes) (m : Nat) :
    ∀ stack nxt, Chain keys keep t queue stack nxt →
      ∀ onxt, queue[nxt]? = some onxt → IsMaxKept keep onxt.s onxt.e m →
      BufAgree buf (knOf keys m) onxt.fb →
      Pos keys keep t queue (advance stack) buf (m + 1) := by
  intro stack nxt hch
  induction hch with
  | nil =>
    intro onxt hq hmax _
    rw [hroot] at hq; cases hq
    exact Or.inl ⟨rfl, hmax.2.2.2⟩
  | @cons rest j o r ws c hch hqj hnj F hc ih =>
    intro onxt hq hmax hbuf
    obtain ⟨hcfb, hrun, _, _⟩ := kid_facts F hc hq
    obtain ⟨hm1, hm2, hm3, hm4⟩ := hmax
    have hos : o.s ≤ m := Nat.le_trans hrun.ge hm1
    have hoe : m < o.e := Nat.lt_of_lt_of_le hm2 hrun.le
    have hbuf' : BufAgree buf (knOf keys m) ws := hbuf.mono (hcfb ▸ Nat.le_add_right _ _)
    by_cases hc1 : c + 1 < r.labels.length
    · have hupd : ({ mkElt r o.fb ws c with ithLabel := c + 1 } : Elt).update
          = some (mkElt r o.fb ws (c + 1)) := update_mkElt r o.fb ws (c + 1) _ _ _ hc1
      obtain ⟨oc, hqc, _, hrun'⟩ := F.run (c + 1) hc1
      have hgap := gap_adj (kept := keptAt keep) F.labels F.pw hrun hrun'
      rw [advance_cons_some _ hupd]
      exact Or.inr ⟨_, _, _, oc, rfl,
        { chain := Chain.cons hch hqj hnj F hc1
          sub := hqc
          agree := hbuf'.congr ((F.pre m hos hoe).2.trans (kid_facts F hc1 hqc).2.2.2.symm)
          le := Nat.le_trans hm2 hgap.1
          gap := gap_append hm4 hgap.2 }⟩
    · have hupd : ({ mkElt r o.fb ws c with ithLabel := c + 1 } : Elt).update = none :=
        update_none _ (Nat.le_of_not_lt hc1)
      rw [advance_cons_none _ hupd]
      have hgap := gap_last (kept := keptAt keep) F.labels F.pw
        (Nat.le_antisymm hc (Nat.le_of_not_lt hc1)) hrun
      exact ih o hqj ⟨hos, hoe, hm3, gap_append hm4 hgap⟩ (hbuf'.mono F.fb_le)

theorem iterNext_walk (v : View) (wv : Bool) (e : Elt) (rest : List Elt) (buf : Bytes) :
    iterNext v wv (.walk (e :: rest) buf) =
      (descend v wv (v.nodeCnt + 1) (e :: rest) buf >>= fun x =>
        pure (.walk (advance x.1) x.2.1, some x.2.1, x.2.2)) := rfl

theorem iterNext_ready (h : QOK keys keep t queue)
    (hroot : queue[0]? = some { s := 0, e := keys.length, fb := 0 })
    (hinner : t.opt.inner = true) (hleaf : t.opt.leaf = true)
    (valOf : Nat → Option Bytes) (hval : ValOK t valOf)
    (wv : Bool) (stack : List Elt) (buf : Bytes) (a : Nat)
    (hr : Ready keys keep t queue stack buf a) :
    ∃ m stack'', IsMinKept keep a keys.length m ∧
      iterNext t.view wv (.walk stack buf)
        = .ok (.walk stack'' (keys.getD m []), some (keys.getD m []),
            if wv then valOf m else none) ∧
      Pos keys keep t queue stack'' (keys.getD m []) (m + 1) := by
  obtain ⟨e, rest, nxt, oc, rfl, R⟩ := hr
  obtain ⟨m, stack', id, om, hmin, hd, hch', hqid, hos, hoe⟩ :=
    descend_spec h hinner hleaf valOf hval wv (t.nodes.size + 1) nxt (h.lt R.sub)
      (Nat.lt_succ_of_le (Nat.le_add_left _ _)) e rest buf a oc R
  refine ⟨m, advance stack', hmin, ?_, ?_⟩
  · rw [iterNext_walk, show t.view.nodeCnt = t.nodes.size from rfl, hd]; rfl
  · have hmax := kept_single hos hoe hmin.2.2.1
    have hlong := (h.view hqid).1.long m hmax.1 hmax.2.1
    refine advance_spec hroot _ m stack' id hch' om hqid hmax ⟨?_, rfl⟩
    show om.fb ≤ 2 * (keys.getD m []).length
    rw [← nibs_length]; exact hlong

end

/-- what `k` calls of `next()` return when the items still to come are `L` -/
def expect (k : Nat) (L : List (Option Bytes × Option Bytes)) :
    List (Option Bytes × Option Bytes) :=
  L.take k ++ List.replicate (k - L.length) (none, none)

theorem expect_cons (k : Nat) (y : Option Bytes × Option Bytes)
    (L : List (Option Bytes × Option Bytes)) : expect (k + 1) (y :: L) = y :: expect k L := by
  unfold expect
  simp only [List.take_succ_cons, List.length_cons, List.cons_append, Nat.add_sub_add_right]

theorem expect_nil (k : Nat) : expect k [] = List.replicate k (none, none) := by
  unfold expect; simp

theorem iterTake_succ {v : View} {wv : Bool} {k : Nat} {s s' : IterState}
    {key val : Option Bytes} {L : List (Option Bytes × Option Bytes)}
    (h1 : iterNext v wv s = .ok (s', key, val)) (h2 : iterTake v wv k s' = .ok L) :
    iterTake v wv (k + 1) s = .ok ((key, val) :: L) := by
  simp only [iterTake, h1, h2, bind, Except.bind, pure, Except.pure]

/-- a state that `next()` leaves unchanged without yielding (the empty stack, the consumed single
    node) reports exhaustion on every call -/
theorem iterTake_stuck {v : View} {wv : Bool} (k : Nat) {s : IterState}
    (h : iterNext v wv s = .ok (s, none, none)) :
    iterTake v wv k s = .ok (List.replicate k (none, none)) := by
  induction k with
  | zero => rfl
  | succ k ih => exact iterTake_succ h ih

inductive Yields (v : View) (wv : Bool) : IterState → List (Bytes × Option Bytes) → Prop
  | done {s : IterState} : iterNext v wv s = .ok (s, none, none) → Yields v wv s []
  | next {s s' : IterState} {key : Bytes} {val : Option Bytes} {L : List (Bytes × Option Bytes)} :
      iterNext v wv s = .ok (s', some key, val) → Yields v wv s' L →
      Yields v wv s ((key, val) :: L)

theorem Yields.take {v : View} {wv : Bool} {s : IterState} {L : List (Bytes × Option Bytes)}
    (h : Yields v wv s L) (k : Nat) :
    iterTake v wv k s = .ok (expect k (L.map fun y => (some y.1, y.2))) := by
  induction h generalizing k with
  | done h => exact expect_nil k ▸ iterTake_stuck k h
  | next h1 _ ih =>
    cases k with
    | zero => exact congrArg Except.ok (by simp [expect])
    | succ k => exact expect_cons .. ▸ iterTake_succ h1 (ih k)

def yieldOf (keys : List Bytes) (valOf : Nat → Option Bytes) (wv : Bool) (i : Nat) :
    Bytes × Option Bytes :=
  (keys.getD i [], if wv then valOf i else none)

section
variable {keys : List Bytes} {keep : List Bool} {t : Trie1} {queue : Array Subset}

theorem yields_pos (h : QOK keys keep t queue)
    (hroot : queue[0]? = some { s := 0, e := keys.length, fb := 0 })
    (hinner : t.opt.inner = true) (hleaf : t.opt.leaf = true)
    (valOf : Nat → Option Bytes) (hval : ValOK t valOf) (wv : Bool) :
    ∀ d stack buf a, keys.length - a < d → Pos keys keep t queue stack buf a →
      Yields t.view wv (.walk stack buf)
        ((keptIn keep a keys.length).map (yieldOf keys valOf wv)) := by
  -- every call moves on to a later key: induction on a bound `d` for `keys.length - a`
  intro d
  induction d with
  | zero => intro _ _ _ hd; exact absurd hd (Nat.not_lt_zero _)
  | succ d ih =>
    intro stack buf a hd hp
    rcases hp with ⟨rfl, hno⟩ | hr
    · rw [keptIn_nil hno]
      exact Yields.done rfl
    · obtain ⟨m, stack'', ⟨ham, hmn, hkm, hgap⟩, hnext, hadv⟩ :=
        iterNext_ready h hroot hinner hleaf valOf hval wv stack buf a hr
      rw [keptIn_skip ham (Nat.le_of_lt hmn) hgap, keptIn_cons hmn hkm]
      exact Yields.next hnext (ih stack'' _ (m + 1) (by omega) hadv)

end

theorem buildStack_two {v : View} {a b : Nat} {rest : List Nat} {stack : List Elt}
    {buf buf1 buf2 : Bytes} {bufIdx : Nat} {r : InnerRec} {e : Elt}
    (h1 : v.node a = .ok (.inner r)) (h2 : Elt.init r (some b) bufIdx = .ok e)
    (h3 : appendInnerPrefix e buf r.pref = .ok buf1) (h4 : appendLabel e buf1 = .ok buf2) :
    buildStack v (a :: b :: rest) stack buf bufIdx
      = buildStack v (b :: rest) (e :: stack) buf2 e.labelEnd := by
  simp only [buildStack, h1, h2, h3, h4, bind, Except.bind]

theorem buildStack_one (v : View) (a : Nat) (stack : List Elt) (buf : Bytes) (bufIdx : Nat) :
    buildStack v [a] stack buf bufIdx = .ok (stack, buf) := by
  simp only [buildStack]

section
variable {keys : List Bytes} {keep : List Bool} {t : Trie1} {queue : Array Subset}

theorem anc_head {a b : Nat} {p : List Nat} (h : Anc t a p b) :
    ∃ tl, p ++ [b] = a :: tl := by
  cases h with
  | here => exact ⟨[], rfl⟩
  | step _ _ _ => exact ⟨_, rfl⟩

theorem buildStack_spec (h : QOK keys keep t queue) (hinner : t.opt.inner = true)
    {a id : Nat} {p : List Nat} (hanc : Anc t a p id) :
    ∀ stack buf oa, Chain keys keep t queue stack a → queue[a]? = some oa →
      BufAgree buf (knOf keys oa.s) oa.fb →
      ∃ stack' buf' oid, buildStack t.view (p ++ [id]) stack buf oa.fb = .ok (stack', buf') ∧
        Chain keys keep t queue stack' id ∧ queue[id]? = some oid ∧
        BufAgree buf' (knOf keys oid.s) oid.fb ∧ stack'.length = stack.length + p.length := by
  induction hanc with
  | here a =>
    intro stack buf oa hch hqa hbuf
    exact ⟨stack, buf, oa, buildStack_one _ _ _ _ _, hch, hqa, hbuf, rfl⟩
  | @step a r k p' b hna hk hanc' ih =>
    intro stack buf oa hch hqa hbuf
    obtain ⟨tl, htl⟩ := anc_head hanc'
    obtain ⟨hsub, nd, _, hnd, hnode⟩ := h.view hqa
    cases hna.symm.trans hnd
    obtain ⟨ws, F⟩ := inner_facts h hsub hnode.2
    obtain ⟨oc, hqc, _, _⟩ := F.kid k hk
    obtain ⟨buf1, hinit, haip, hbuf1⟩ := enter_spec hinner hsub F hk (Or.inl rfl) hbuf
    obtain ⟨buf2, hal, hbuf2, hle⟩ :=
      label_spec F hk hqc (hbuf1.congr (kid_facts F hk hqc).2.2.2.symm)
    obtain ⟨stack', buf', oid, hbs, hch', hqid, hbuf', hlen⟩ :=
      ih (mkElt r oa.fb ws k :: stack) buf2 oc (Chain.cons hch hqa hna F hk) hqc hbuf2
    refine ⟨stack', buf', oid, ?_, hch', hqid, hbuf', hlen.trans (Nat.add_right_comm _ _ _)⟩
    rw [List.cons_append, htl, buildStack_two (view_node_of t a _ hna) hinit haip hal, hle, ← htl]
    exact hbs

end

theorem iterNext_single (v : View) (wv : Bool) (id ith : Nat) (lp val : Option Bytes)
    (buf : Bytes) (h1 : v.node id = .ok (.leaf ith lp)) (h2 : leafValue v wv ith = .ok val) :
    iterNext v wv (.single id buf false)
      = .ok (.single id (buf ++ lp.getD []) true, some (buf ++ lp.getD []), val) := by
  simp only [iterNext, h1, h2, bind, Except.bind, pure, Except.pure, Bool.false_eq_true, if_false]

end IterStack
