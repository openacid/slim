import SlimModel.Scan
import SlimProofs.SearchDescent
/-
  `getGEPath` (trie/slimtrie_scan.go) on a well-formed Complete (`opt.inner ∧ opt.leaf`) record
  array, for an arbitrary start string.

  The loop of `getGEPath` is the descent of `searchID` that also records the id path and, with the
  right sibling `rID`, how much of the path leads to it (`rightPathLen`): `geLoop_seen` reads one
  iteration as what it does with `Descent.observe`.  What one step of the descent means for the
  order of the keys is in SlimProofs.SearchDescent (`Around`, `SplitAt`);
  `geLoop_exact` adds the bookkeeping of the state (`RightOK`, `RAnc`, `Anc`).  `leftMostPath` is
  `leftMost` plus the nodes passed.  The result is `getGEPath_exact`, stated with the `Cut` `[a, b)`
  of the start string among the kept keys, the notion `searchID_post` uses: the path ends at the
  leaf of the first kept key from `a` on, or is empty if there is none (`GEPos`).  `GERes`, the
  form in which C04 states it, is read off it in SlimProps.C04Iter.
-/

namespace IterLemmas
open Subtree SearchDescent Scan
open Descent Agree

/-- the second half of one iteration on an inner node, from the branching position -/
def geBranch (v : View) (kn : List Nat) (fuel : Nat) (r : InnerRec) (st : GESt) (eqID i : Nat) :
    Except Err (GESt × Option Nat) :=
  let st := { st with i := i, path := eqID :: st.path }
  let (leftChild, has) := leftChildID r (labelIdxOfKey kn i r.big)
  let chID : Int := leftChild + (if has then 1 else 0)
  let rightChild : Int := chID + 1
  let rightMostChild : Int := (r.firstChild : Int) + r.labels.length - 1
  let st := if rightChild ≤ rightMostChild
            then { st with rID := some rightChild.toNat, rightPathLen := st.path.length } else st
  if !has then .ok (st, none) else
  if i = kn.length then .ok (st, some chID.toNat) else
  geLoop v kn fuel { st with i := i + wordSize r.big } chID.toNat

/-- the state behind inner node `j`: `j` joins the path, and the `k`-th child of `j`, if there
    is one, becomes the right sibling -/
def geDown (st : GESt) (r : InnerRec) (j k : Nat) : GESt :=
  if k < r.labels.length then
    { st with path := j :: st.path, rID := some (r.firstChild + k),
              rightPathLen := st.path.length + 1 }
  else { st with path := j :: st.path }

theorem geDown_rID (st : GESt) (r : InnerRec) (j k : Nat) :
    (geDown st r j k).rID = if k < r.labels.length then some (r.firstChild + k) else st.rID := by
  unfold geDown; split <;> rfl

theorem geDown_path (st : GESt) (r : InnerRec) (j k : Nat) :
    (geDown st r j k).path = j :: st.path := by
  unfold geDown; split <;> rfl

theorem geDown_lp (st : GESt) (r : InnerRec) (j k : Nat) : (geDown st r j k).lp = st.lp := by
  unfold geDown; split <;> rfl

/-- the second half of an iteration, by the rank of the query's label among the labels: the child
    of that rank is the one at or right of the label -/
theorem geBranch_eq (v : View) (kn : List Nat) (fuel : Nat) (r : InnerRec) (st : GESt)
    (j ws : Nat) :
    geBranch v kn fuel r st j ws =
      if r.labels.contains (labelIdxOfKey kn ws r.big) then
        if ws = kn.length then
          .ok ({ geDown st r j (rankLabels r.labels (labelIdxOfKey kn ws r.big) + 1) with i := ws },
            some (r.firstChild + rankLabels r.labels (labelIdxOfKey kn ws r.big)))
        else
          geLoop v kn fuel
            { geDown st r j (rankLabels r.labels (labelIdxOfKey kn ws r.big) + 1) with
              i := ws + wordSize r.big }
            (r.firstChild + rankLabels r.labels (labelIdxOfKey kn ws r.big))
      else .ok ({ geDown st r j (rankLabels r.labels (labelIdxOfKey kn ws r.big)) with i := ws },
        none) := by
  unfold geBranch leftChildID geDown
  generalize labelIdxOfKey kn ws r.big = x
  generalize rankLabels r.labels x = k
  simp only [presentBit_cast, rightID_le, rightID_toNat]
  cases r.labels.contains x
  · simp only [Bool.false_eq_true, if_false, Bool.not_false, if_true, List.length_cons,
      Nat.add_zero]
    split <;> rfl
  · simp only [if_true, Bool.not_true, Bool.false_eq_true, if_false, List.length_cons,
      Int.natCast_one, childID_toNat]
    split <;> split <;> rfl

/-- child `rk + 1`, if the label is present, else child `rk`, is the one right of the label -/
def geNext (v : View) (kn : List Nat) (fuel : Nat) (st : GESt) (j : Nat) :
    Seen → Except Err (GESt × Option Nat)
  | .err e => .error e
  | .leaf lp => .ok ({ st with lp := lp }, some j)
  | .lt => .ok ({ st with rID := some j, rightPathLen := st.path.length }, none)
  | .gt | .over _ => .ok (st, none)
  | .absent r i rk => .ok ({ geDown st r j rk with i := i }, none)
  | .last r i rk => .ok ({ geDown st r j (rk + 1) with i := i }, some (r.firstChild + rk))
  | .next r i rk =>
    geLoop v kn fuel { geDown st r j (rk + 1) with i := i + wordSize r.big } (r.firstChild + rk)

theorem geBranch_seen (v : View) (kn : List Nat) (fuel : Nat) (st : GESt) (j : Nat)
    (r : InnerRec) (i : Nat) :
    geBranch v kn fuel r st j i = geNext v kn fuel st j (branch r kn i) := by
  rw [geBranch_eq v kn fuel r st j i]
  unfold branch
  cases r.labels.contains (labelIdxOfKey kn i r.big)
  · rfl
  · simp only [if_true, Bool.not_true, Bool.false_eq_true, if_false]
    split <;> rfl

/-- The loop of `getGEPath` does not advance over a run of which only the length is recorded, and
    does not look whether the position is beyond the key: it is the common descent where runs are
    stored and the position is inside the key. -/
theorem geLoop_seen (v : View) (kn : List Nat) (fuel : Nat) (st : GESt) (j : Nat)
    (hi : st.i ≤ kn.length)
    (hpref : ∀ r n, v.node j = .ok (.inner r) → r.pref ≠ .step n) :
    geLoop v kn (fuel + 1) st j = geNext v kn fuel st j (observe v kn j st.i) := by
  rw [geLoop]
  unfold observe
  cases hn : v.node j with
  | error e => rfl
  | ok nd =>
    cases nd with
    | leaf ith lp => rfl
    | inner r =>
      have hb := fun i => geBranch_seen v kn fuel st j r i
      have hp := fun n => hpref r n hn
      simp only [bind, Except.bind, seenInner, runEnd]
      cases hpr : r.pref with
      | none =>
        simp only [if_neg (Nat.not_lt.mpr hi)]
        exact hb _
      | step n => exact absurd hpr (hp n)
      | stored p =>
        simp only
        by_cases h1 : st.i / 2 > kn.length / 2
        · simp only [if_pos h1]; rfl
        · simp only [if_neg h1]
          cases hc : cmpUpto (List.drop (st.i - st.i % 2) kn) p
          · rfl
          · simp only [if_neg (runEnd_stored_eq h1 hc)]
            exact hb _
          · rfl

/-- `p` lists the nodes from `a` down to the parent of `b` (`[]` iff `a = b`): the proper
    ancestors of `b` below (and including) `a` -/
inductive Anc (t : Trie1) : Nat → List Nat → Nat → Prop
  | here (a : Nat) : Anc t a [] a
  | step {a : Nat} {r : InnerRec} {k : Nat} {p : List Nat} {b : Nat} :
      t.nodes[a]? = some (.inner r) → k < r.labels.length → Anc t (r.firstChild + k) p b →
      Anc t a (a :: p) b

theorem Anc.trans {t : Trie1} {a b c : Nat} {p q : List Nat} (h : Anc t a p b) (h' : Anc t b q c) :
    Anc t a (p ++ q) c := by
  induction h with
  | here a => exact h'
  | step h1 h2 _ ih => exact Anc.step h1 h2 (ih h')

theorem Anc.snoc {t : Trie1} {a b : Nat} {p : List Nat} (h : Anc t a p b) {r : InnerRec} {k : Nat}
    (hb : t.nodes[b]? = some (.inner r)) (hk : k < r.labels.length) :
    Anc t a (p ++ [b]) (r.firstChild + k) :=
  h.trans (Anc.step hb hk (Anc.here _))

def RootPath (t : Trie1) (path : List Nat) (id : Nat) : Prop :=
  ∃ p, path = p ++ [id] ∧ Anc t 0 p id

section
variable {keys : List Bytes} {keep : List Bool} {t : Trie1} {queue : Array Subset}

theorem leftMostPath_leaf (v : View) (fuel j ith : Nat) (lp : Option Bytes) (acc : List Nat)
    (h : v.node j = .ok (.leaf ith lp)) : leftMostPath v (fuel + 1) j acc = .ok (j :: acc) := by
  simp only [leftMostPath, h, bind, Except.bind, pure, Except.pure]

theorem leftMostPath_inner (v : View) (fuel j : Nat) (r : InnerRec) (acc : List Nat)
    (h : v.node j = .ok (.inner r)) :
    leftMostPath v (fuel + 1) j acc = leftMostPath v fuel r.firstChild (j :: acc) := by
  simp only [leftMostPath, h, bind, Except.bind]

theorem nodes_of_view {j : Nat} {nd : Node} (h : t.view.node j = .ok nd) :
    t.nodes[j]? = some nd := by
  have h' : (match t.nodes[j]? with
    | some n => Except.ok n
    | none => Except.error (Err.panic "node id out of range")) = .ok nd := h
  cases hn : t.nodes[j]? with
  | none => rw [hn] at h'; cases h'
  | some n => rw [hn] at h'; cases h'; rfl

theorem leftMostPath_of_leftMost
    (hne : ∀ (j : Nat) (r : InnerRec), t.nodes[j]? = some (.inner r) → 0 < r.labels.length) :
    ∀ fuel j id acc, leftMost t.view fuel j = .ok id →
      ∃ q, leftMostPath t.view fuel j acc = .ok (id :: (q.reverse ++ acc)) ∧ Anc t j q id := by
  intro fuel
  induction fuel with
  | zero => intro j id acc h; cases h
  | succ fuel ih =>
    intro j id acc h
    cases hv : t.view.node j with
    | error e => simp only [leftMost, hv, bind, Except.bind] at h; cases h
    | ok nd =>
      cases nd with
      | leaf ith lp =>
        rw [leftMost_leaf _ _ _ ith lp hv] at h
        cases h
        exact ⟨[], leftMostPath_leaf _ _ _ ith lp acc hv, Anc.here _⟩
      | inner r =>
        rw [leftMost_inner _ _ _ r hv] at h
        obtain ⟨q, hq, ha⟩ := ih r.firstChild id (j :: acc) h
        have hnj := nodes_of_view hv
        refine ⟨j :: q, ?_, Anc.step (k := 0) hnj (hne j r hnj) ha⟩
        rw [leftMostPath_inner _ _ _ r acc hv, hq]
        simp

theorem inner_labels_ne (h : QOK keys keep t queue) (j : Nat) (r : InnerRec)
    (hn : t.nodes[j]? = some (.inner r)) :
    0 < r.labels.length := by
  obtain ⟨hj, hnj⟩ := Array.getElem?_eq_some_iff.mp hn
  obtain ⟨o, _, hsub, hnode⟩ := h.node j hj
  rw [hnj] at hnode
  obtain ⟨ws, F⟩ := inner_facts h hsub hnode.2
  exact F.ne

theorem leftMostPath_spec (h : QOK keys keep t queue) (j : Nat) (o : Subset) (acc : List Nat)
    (hqj : queue[j]? = some o) :
    ∃ q id m, leftMostPath t.view (t.nodes.size + 1) j acc = .ok (id :: (q.reverse ++ acc)) ∧
      Anc t j q id ∧ IsLeafOf t id m ∧ IsMinKept keep o.s o.e m := by
  obtain ⟨id, ith, lp, m, hlm, hnd, hidx, hmin⟩ :=
    (most_node h (t.nodes.size + 1) j (h.lt hqj) (Nat.lt_succ_of_le (Nat.le_add_left _ _)) o hqj).2
  obtain ⟨q, hq, ha⟩ := leftMostPath_of_leftMost (inner_labels_ne h) _ j id acc hlm
  exact ⟨q, id, m, hq, ha, ⟨ith, lp, hnd, hidx⟩, hmin⟩

end

section
variable {keys : List Bytes} {keep : List Bool} {t : Trie1} {queue : Array Subset}

/-- the recorded right sibling comes with its ancestors: `path[:rightPathLen]` -/
def RAnc (t : Trie1) (st : GESt) : Prop :=
  st.rightPathLen ≤ st.path.length ∧
  ∀ rid, st.rID = some rid → Anc t 0 (st.path.reverse.take st.rightPathLen) rid

theorem RAnc.mark {st : GESt} {x : Nat} (hanc : Anc t 0 st.path.reverse x) :
    RAnc t { st with rID := some x, rightPathLen := st.path.length } := by
  refine ⟨Nat.le_refl _, ?_⟩
  intro rid hr
  cases hr
  show Anc t 0 (st.path.reverse.take st.path.length) x
  rw [List.take_of_length_le (by simp)]
  exact hanc

theorem RAnc.down {st : GESt} (hRA : RAnc t st) {j : Nat} {r : InnerRec}
    (hanc : Anc t 0 st.path.reverse j) (hnj : t.nodes[j]? = some (.inner r)) (k : Nat) :
    RAnc t (geDown st r j k) := by
  unfold geDown
  split
  · next hk =>
    exact RAnc.mark (st := { st with path := j :: st.path }) (x := r.firstChild + k)
      (by rw [List.reverse_cons]; exact hanc.snoc hnj hk)
  · obtain ⟨h1, h2⟩ := hRA
    refine ⟨by simp only [List.length_cons]; omega, ?_⟩
    intro rid hr
    show Anc t 0 ((j :: st.path).reverse.take st.rightPathLen) rid
    rw [List.reverse_cons,
      List.take_append_of_le_length (by simp only [List.length_reverse]; exact h1)]
    exact h2 rid hr

/-- the loop ended without candidate: the kept keys split at `a` -/
def GECut (keys : List Bytes) (keep : List Bool) (t : Trie1) (queue : Array Subset)
    (kn : List Nat) (st : GESt) : Prop :=
  ∃ a, SplitAt keys keep kn a ∧ RightOK keep keys.length queue st.rID a ∧ RAnc t st

/-- the loop is at node `id` with subset `o`: the query has reached `o`, the right sibling is the
    subtree next to `o`, and the recorded path leads to `id` -/
structure GEAt (keys : List Bytes) (keep : List Bool) (t : Trie1) (queue : Array Subset)
    (kn : List Nat) (st : GESt) (id : Nat) (o : Subset) : Prop where
  sub : queue[id]? = some o
  around : Around keys keep kn o
  i : st.i = o.fb
  right : RightOK keep keys.length queue st.rID o.e
  ranc : RAnc t st
  anc : Anc t 0 st.path.reverse id

/-- the two ways out of `SearchDescent.searchLoop_all`, for the scan's descent: no candidate
    (`GECut`), or a candidate `id` with `GEAt … id om` and `om` a single key -/
theorem geLoop_exact (h : QOK keys keep t queue) (hasc : strictAsc keys = true)
    (hinner : t.opt.inner = true) (kn : List Nat) (hkn16 : ∀ x ∈ kn, x < 16)
    (hkne : kn.length % 2 = 0) :
    ∀ fuel j, j < t.nodes.size → t.nodes.size < j + fuel → ∀ o st,
      GEAt keys keep t queue kn st j o → st.lp = none →
      ∃ st' e, geLoop t.view kn fuel st j = .ok (st', e) ∧
        ((e = none ∧ GECut keys keep t queue kn st') ∨
          ∃ id om, e = some id ∧ GEAt keys keep t queue kn st' id om ∧ om.e = om.s + 1 ∧
            st'.lp = leafPrefOf t.opt (keys.getD om.s []) om.fb) := by
  refine fuel_descent fun fuel j ih _ o st G hlp => ?_
  have A := G.around
  obtain ⟨hsub, nd, hview, hnj, hnode⟩ := h.view G.sub
  cases nd with
  | leaf ith lp =>
    rw [geLoop_seen _ _ _ _ _ (G.i ▸ A.fbl) (fun r n hv => by rw [hview] at hv; cases hv), G.i,
      observe_leaf kn _ hview]
    exact ⟨_, _, rfl, Or.inr ⟨j, o, rfl,
      ⟨G.sub, A, G.i, G.right, G.ranc, G.anc⟩, hnode.1, hnode.2.2⟩⟩
  | inner r =>
    obtain ⟨ws, F⟩ := inner_facts h hsub hnode.2
    have hks : ws ≤ (knOf keys o.s).length := (F.pre o.s (Nat.le_refl _) hsub.lt).1
    -- runs are stored: none is recorded by its length alone
    have hpref : ∀ r' n, t.view.node j = .ok (.inner r') → r'.pref ≠ .step n := by
      intro r' n hv
      rw [hview] at hv; cases hv
      rw [F.pref]
      rcases prefOf_complete t.opt hinner (knOf keys o.s) o.fb ws F.fb_le hks with
        ⟨h1, _⟩ | ⟨h1, _⟩
      · rw [h1]; nofun
      · rw [h1]; nofun
    rw [geLoop_seen _ _ _ _ _ (G.i ▸ A.fbl) hpref, G.i, observe_inner hsub F hview kn A.fbl,
      runCmp_eq _ _ _ _ _ F.fb_le hks A.agree.symm (Or.inl hinner)]
    cases hc : lexCmp (kn.take ws) ((knOf keys o.s).take ws) with
    | lt =>
      exact ⟨_, _, rfl, Or.inl ⟨rfl, o.s, A.split_lt F hsub hc, RightOK.here G.sub,
        RAnc.mark G.anc⟩⟩
    | gt => exact ⟨_, _, rfl, Or.inl ⟨rfl, o.e, A.split_gt F hsub hc, G.right, G.ranc⟩⟩
    | eq =>
      have htk : kn.take ws = (knOf keys o.s).take ws := lexCmp_eq_iff.mp hc
      have hwsl : ws ≤ kn.length := le_length_of_take_eq htk hks
      simp only [if_neg (Nat.not_lt.mpr hwsl)]
      by_cases hmem : labelAt kn ws r.big ∈ r.labels
      · -- the label of the query is the `k`-th label: the loop is at child `k` next
        obtain ⟨k, hk, hkl⟩ := List.mem_iff_getElem.mp hmem
        obtain ⟨c, hqc, hcfb, hrun⟩ := F.run k hk
        have G' : ∀ i', i' = c.fb → GEAt keys keep t queue kn
            { geDown st r j (k + 1) with i := i' } (r.firstChild + k) c := fun i' hi' =>
          ⟨hqc, A.kid F (F.words hkn16 hkne) htk hkl hcfb hrun, hi',
            (geDown_rID ..).symm ▸
              right_cand F st.rID hrun.ce (isRank_succ F.pw hk) hk G.right,
            G.ranc.down G.anc hnj (k + 1),
            (geDown_path ..).symm ▸ List.reverse_cons ▸ G.anc.snoc hnj hk⟩
        rw [branch_present F kn hk hkl]
        by_cases hwl : ws = kn.length
        · -- the query ends here, and so does the one key of child `k`
          rw [if_pos hwl]
          obtain ⟨hone, hcws, hlpc⟩ := kid_end F hsub hasc hkl hwl hcfb hrun
          exact ⟨_, _, rfl, Or.inr ⟨_, c, rfl, G' ws hcws, hone,
            ((geDown_lp ..).trans hlp).trans hlpc.symm⟩⟩
        · rw [if_neg hwl]
          exact ih (r.firstChild + k) (Nat.lt_add_right k F.fc) (h.lt hqc) c _
            (G' _ (kid_next hkl (Nat.lt_of_le_of_ne hwsl hwl) hcfb)) ((geDown_lp ..).trans hlp)
      · -- the label of the query is absent: the loop ends here
        obtain ⟨a, hcut⟩ := mono_cut (labelOf keys ws r.big) o.s (labelAt kn ws r.big) o.e
          (Nat.le_of_lt hsub.lt) F.mono
        rw [branch_absent F kn hmem]
        exact ⟨_, _, rfl, Or.inl ⟨rfl, a, A.split_absent F hsub (F.words hkn16 hkne) htk hmem hcut,
          (geDown_rID ..).symm ▸
            right_cand F st.rID hcut (isRank_rank F.pw _) (rank_le _ _) G.right,
          G.ranc.down G.anc hnj _⟩⟩

end

/-- `getGEPath` behind its loop -/
def geEpi (v : View) (key : Bytes) (x : GESt × Option Nat) : Except Err GEPath :=
  match x.2 with
  | some eq =>
    if x.1.i / 2 > (nibs key).length / 2 then
      .error (.panic "slice bounds out of range: key[i>>3:]") else
    if cmpLeafPrefix v (key.drop (x.1.i / 2)) x.1.lp != .gt then
      .ok { path := (eq :: x.1.path).reverse
            eq := cmpLeafPrefix v (key.drop (x.1.i / 2)) x.1.lp == .eq }
    else getGEPath.fallback v x.1
  | none => getGEPath.fallback v x.1

theorem getGEPath_eq (v : View) (key : Bytes) (hne : v.isEmpty = false) (hs : v.scanOK = true) :
    getGEPath v key = geLoop v (nibs key) (v.nodeCnt + 1) {} 0 >>= geEpi v key := by
  unfold getGEPath
  simp only [hne, hs, Bool.false_eq_true, if_false, Bool.not_true]
  show (geLoop v (nibs key) (v.nodeCnt + 1) {} 0 >>= _) = _
  congr 1

def FirstGE (keys : List Bytes) (keep : List Bool) (start : Bytes) (m : Nat) : Prop :=
  m < keys.length ∧ keptAt keep m = true ∧ bytesLt (keys.getD m []) start = false ∧
  ∀ t', t' < m → keptAt keep t' = true → bytesLt (keys.getD t' []) start = true

def NoGE (keys : List Bytes) (keep : List Bool) (start : Bytes) : Prop :=
  ∀ t', t' < keys.length → keptAt keep t' = true → bytesLt (keys.getD t' []) start = true

def GERes (keys : List Bytes) (keep : List Bool) (t : Trie1) (start : Bytes) (p : GEPath) : Prop :=
  (∃ m id, FirstGE keys keep start m ∧ IsLeafOf t id m ∧ RootPath t p.path id ∧
      p.eq = (keys.getD m [] == start)) ∨
  (NoGE keys keep start ∧ p.path = [] ∧ p.eq = false)

/-- the result of `getGEPath` for a query that sits at `[a, b)`: the path leads from the root to the
    leaf of the first kept key `m` from `a` on, and `eq` says whether `m` is the query (`m < b`);
    the path is empty if there is no such key -/
def GEPos (keep : List Bool) (n : Nat) (t : Trie1) (a b : Nat) (p : GEPath) : Prop :=
  (∃ m id, IsMinKept keep a n m ∧ IsLeafOf t id m ∧ RootPath t p.path id ∧ p.eq = decide (m < b)) ∨
  ((∀ t', a ≤ t' → t' < n → keptAt keep t' = false) ∧ p.path = [] ∧ p.eq = false)

section
variable {keys : List Bytes} {keep : List Bool} {t : Trie1} {queue : Array Subset}

/-- the fallback of `getGEPath` is `sideR` with the path: no fact about the order of the keys -/
theorem fallback_path (h : QOK keys keep t queue) (st : GESt) {a : Nat}
    (hR : RightOK keep keys.length queue st.rID a) (hRA : RAnc t st) :
    ∃ p, getGEPath.fallback t.view st = .ok p ∧ GEPos keep keys.length t a a p := by
  unfold getGEPath.fallback
  cases hr : st.rID with
  | none =>
    rw [hr] at hR
    exact ⟨_, rfl, Or.inr ⟨hR, rfl, rfl⟩⟩
  | some rid =>
    rw [hr] at hR
    obtain ⟨o', h1, h2, h3⟩ := hR
    obtain ⟨q, id, m, hlm, hanc, hleaf, hm1, hm2, hm3, hm4⟩ :=
      leftMostPath_spec h rid o' (st.path.reverse.take st.rightPathLen).reverse h1
    simp only [bind, Except.bind, pure, Except.pure]
    rw [show t.view.nodeCnt = t.nodes.size from rfl, hlm]
    have ham := Nat.le_trans h2 hm1
    exact ⟨_, rfl, Or.inl ⟨m, id,
      ⟨ham, Nat.lt_of_lt_of_le hm2 (h.view h1).1.le, hm3, gap_append h3 hm4⟩, hleaf,
      ⟨st.path.reverse.take st.rightPathLen ++ q, by simp, (hRA.2 rid hr).trans hanc⟩,
      (decide_eq_false (Nat.not_lt.mpr ham)).symm⟩⟩

theorem geEpi_spec (h : QOK keys keep t queue) (hleaf : t.opt.leaf = true) (start : Bytes)
    (st : GESt) (e : Option Nat)
    (hfin : (e = none ∧ GECut keys keep t queue (nibs start) st) ∨
      ∃ id om, e = some id ∧ GEAt keys keep t queue (nibs start) st id om ∧
        om.e = om.s + 1 ∧ st.lp = leafPrefOf t.opt (keys.getD om.s []) om.fb) :
    ∃ p a b, geEpi t.view start (st, e) = .ok p ∧ Cut keys keep start a b ∧
      GEPos keep keys.length t a b p := by
  rcases hfin with ⟨rfl, a, hsplit, hR, hRA⟩ | ⟨id, om, rfl, H, hone, hlp⟩
  · obtain ⟨p, hp, hpos⟩ := fallback_path h st hR hRA
    exact ⟨p, a, a, hp, hsplit.cut, hpos⟩
  · obtain ⟨hleafm, hkept, hmlt⟩ := leaf_of_single h H.sub hone
    have A := H.around
    have hcmp : cmpLeafPrefix t.view (start.drop (st.i / 2)) st.lp
        = lexCmp (nibs start) (knOf keys om.s) := by
      rw [hlp, H.i]
      exact cmpLeafPrefix_exact t hleaf start _ om.fb A.agree
    unfold geEpi
    simp only [hcmp]
    rw [if_neg (by rw [H.i]; exact Nat.not_lt.mpr (Nat.div_le_div_right A.fbl))]
    -- the leaf reached is that of the first kept key from its own index on
    have hpos : ∀ b eq, eq = decide (om.s < b) → GEPos keep keys.length t om.s b
        { path := (id :: st.path).reverse, eq := eq } := fun b eq heq =>
      Or.inl ⟨om.s, id, ⟨Nat.le_refl _, hmlt, hkept, fun t h1 h2 => absurd h2 (Nat.not_lt.mpr h1)⟩,
        hleafm, ⟨st.path.reverse, by simp, H.anc⟩, heq⟩
    cases hc : lexCmp (nibs start) (knOf keys om.s) with
    | eq =>
      exact ⟨_, om.s, om.e, rfl,
        ⟨hone ▸ hmlt, fun x h1 h2 => bytesLt_iff_nibs.mpr (A.below x h1 h2),
          fun x h1 h2 h3 => bytesLt_iff_nibs.mpr (A.above x h1 h2 h3),
          Or.inr ⟨hone, hkept, (nibs_injective (lexCmp_eq_iff.mp hc)).symm⟩⟩,
        hpos _ _ (decide_eq_true (hone ▸ Nat.lt_succ_self _)).symm⟩
    | lt =>
      exact ⟨_, om.s, om.s, rfl, (A.single_lt hone hmlt hc).cut,
        hpos _ _ (decide_eq_false (Nat.lt_irrefl _)).symm⟩
    | gt =>
      obtain ⟨p, hp, hpos'⟩ := fallback_path h st H.right H.ranc
      exact ⟨p, om.e, om.e, hp, (A.single_gt hone hmlt ((lexCmp_gt_iff _ _).mp hc)).cut, hpos'⟩

end

end IterLemmas

open IterLemmas Subtree SearchDescent Scan in
/-- **`getGEPath`, Complete mode.**  For every start string, which sits at some `[a, b)` among the
    kept keys, `getGEPath` returns the id path to the leaf of the first kept key from `a` on (the
    empty path if there is none), and `eq` says whether that key is `start`. -/
theorem getGEPath_exact (keys : List Bytes) (keep : List Bool) (t : Trie1)
    (hasc : strictAsc keys = true) (hwf : WF keys keep t)
    (hinner : t.opt.inner = true) (hleaf : t.opt.leaf = true) (start : Bytes) :
    ∃ p a b, getGEPath t.view start = .ok p ∧ Cut keys keep start a b ∧
      GEPos keep keys.length t a b p := by
  obtain ⟨queue, hq, hroot⟩ := (wf_iff keys keep t).mp hwf
  have h0 : 0 < t.nodes.size := hq.lt hroot
  obtain ⟨st', e, hloop, hfin⟩ :=
    geLoop_exact hq hasc hinner (nibs start) (nibs_lt16 start) (by rw [nibs_length]; omega)
      (t.nodes.size + 1) 0 h0 (Nat.zero_add _ ▸ Nat.lt_succ_self _) _ {}
      ⟨hroot, Around.root keys keep (nibs start), rfl, fun t' h1 h2 => absurd h2 (Nat.not_lt.mpr h1),
        ⟨Nat.le_refl _, by intro rid hr; cases hr⟩, Anc.here 0⟩
      rfl
  have hscan : t.view.scanOK = true := by
    show (t.opt.inner && t.opt.leaf) = true
    rw [hinner, hleaf]; rfl
  have hcnt : t.view.nodeCnt = t.nodes.size := rfl
  rw [getGEPath_eq _ _ (view_nonempty h0) hscan, hcnt, hloop]
  exact geEpi_spec hq hleaf start st' e hfin

#print axioms getGEPath_exact
