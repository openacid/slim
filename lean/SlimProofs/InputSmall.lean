import SlimProofs.InputPrefix
import SlimProofs.InputLegacy
/-
  SlimProofs.InputSmall — the allocation / int32-range hypotheses of the serialization theorems
  (`Refine.Small t`, `BodyOK (to0510 (Slim.encodeCreator t))`), which speak about the BUILT trie,
  discharged (`small_of_input`, `bodyOK_0510_of_input`) from a decidable predicate on what the
  USER supplies:

    InputSmall keys vals :=
      514 · (number of keys) + (total key bytes) + (total value bytes) + 64 < 2^31

  What the bound allows, in plain numbers (2^31 = 2 147 483 648): every key set with
  `514·n + key bytes + value bytes ≤ 2 147 483 583`, e.g. 1 000 000 keys of 1 KiB each with 8-byte
  values (514·10^6 + 1.024·10^9 + 8·10^6 ≈ 1.55·10^9), 100 000 keys of 16 KiB (≈ 1.69·10^9), or
  4 000 000 short keys; the documented limits (keys ≤ 16 KiB, 10^5 … 10^6 keys) are well inside.
  It is not far from the implementation's own limit: its rank/select indexes are `[]int32`, and
  the label bitmap alone may take 257 bits per inner node.

  Where the constants come from (`core_of_input`):
    nodes  ≤ 2n                          (`InputCount.build_nodes_le`: the BFS loop's fuel)
    label bits ≤ 257 · nodes ≤ 514 n     (`InputCount.labelBits_le`)
    stored inner prefix bytes + leaf tail bytes ≤ key bytes + 2 · nodes   (`InputPrefix.prefix_bytes_le`)
    leaf value bytes ≤ value bytes, leaf count ≤ nodes                    (`InputCount.build_elts_le`)
    protobuf body ≤ 2^40 ≤ maxAlloc = 2^48                     (`InputCore.protoSizeSlim_encodeCreator_le`)
-/

open InputCount InputCore

def InputSmall (keys : List Bytes) (vals : Option (List Bytes)) : Prop :=
  514 * keys.length + totalLen keys + valBytes vals + 64 < 2 ^ 31

instance (keys : List Bytes) (vals : Option (List Bytes)) : Decidable (InputSmall keys vals) := by
  unfold InputSmall; infer_instance

theorem smallCore_empty (opt : Opt) : SmallCore (Trie1.empty opt) := by
  refine ⟨by simp [Trie1.empty], by simp [Trie1.empty], ?_, ?_, ?_, ?_⟩
  · have : Refine.eSizes (Trie1.empty opt) = [] := rfl
    simp [Refine.labelBits, this]
  · simp [Refine.eStoredPs, Trie1.empty, Slim.innerRecs]
  · simp [Refine.eLeafPs, Refine.eLeafLps, Trie1.empty]
  · intro es he; simp [Trie1.empty] at he

/-- the arithmetic of `core_of_input`: `n` keys of `K` bytes in all, `V` value bytes; `N` nodes,
    `L` label bits, `S` and `P` bytes of stored inner and leaf prefixes, `B` big nodes -/
theorem counters_lt {n K V N L S P B : Nat} (hi : 514 * n + K + V + 64 < 2 ^ 31) (hN : N ≤ 2 * n)
    (hL : L ≤ 257 * N) (hP : 2 * S + 2 * P ≤ 2 * K + 4 * N) (hB : B ≤ N) :
    B < 2 ^ 31 ∧ N + 63 < 2 ^ 31 ∧ L + 63 < 2 ^ 31 ∧ S + 64 < 2 ^ 31 ∧ P + 64 < 2 ^ 31 := by
  omega

theorem core_of_input (keys : List Bytes) (vals : Option (List Bytes)) (opt : Opt) (t : Trie1)
    (hb : build keys vals opt = .ok t) (hne : keys ≠ []) (hi : InputSmall keys vals) :
    SmallCore t := by
  have hs := build_shape keys vals opt t hb hne
  obtain ⟨h1, h2, h3, h4, h5⟩ := counters_lt hi (build_nodes_le keys vals opt t hb hne)
    (labelBits_le hs) (InputPrefix.prefix_bytes_le (build_wf keys vals opt t hb hne).1 hs)
    (Nat.le_trans (StatLemmas.innersBefore_all t ▸ SizeLabels.build_bigCnt_le keys vals opt t hb hne)
      (Refine.eInners_length_le t))
  refine ⟨h1, h2, h3, h4, h5, fun es he => ?_⟩
  obtain ⟨h6, h7⟩ := build_elts_le keys vals opt t hb hne es he
  exact ⟨Nat.lt_of_le_of_lt (Nat.add_le_add_right h6 63) h2, by unfold InputSmall at hi; omega⟩

theorem small_of_input (keys : List Bytes) (vals : Option (List Bytes)) (opt : Opt) (t : Trie1)
    (hb : build keys vals opt = .ok t) (hi : InputSmall keys vals) : Refine.Small t := by
  rcases BuildShape.build_nil_or hb with ⟨rfl, rfl⟩ | hne
  · exact small_of_core (fun h => absurd rfl h) (smallCore_empty opt)
  · exact small_of_core (fun _ => build_shape keys vals opt t hb hne)
      (core_of_input keys vals opt t hb hne hi)

theorem bodyOK_0510_of_input (keys : List Bytes) (vals : Option (List Bytes)) (opt : Opt)
    (t : Trie1) (hb : build keys vals opt = .ok t) (hne : keys ≠ []) (hi : InputSmall keys vals) :
    Frame.BodyOK (LegacyWrite.to0510 (Slim.encodeCreator t)) :=
  InputLegacy.bodyOK_to0510 (build_shape keys vals opt t hb hne)
    (core_of_input keys vals opt t hb hne hi)

example : InputSmall [[0x61], [0x61, 0x62], [0x62, 0xff]] (some [[1], [2], [3]]) := by decide
example : InputSmall [[0x61], [0x61, 0x62], [0x62, 0xff]] none := by decide
/-- `InputSmall` does exclude something: five million keys are too many, whatever their bytes -/
example (keys : List Bytes) (h : keys.length = 5000000) : ¬ InputSmall keys none := by
  intro hi; unfold InputSmall at hi; omega

#print axioms small_of_input
#print axioms bodyOK_0510_of_input
