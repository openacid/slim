import SlimModel.Legacy
import SlimProofs.VLen
/-
  `before000512FixLeafSize` (model: `Legacy.fixLeafSize`): a 0.5.10 / 0.5.11 stream stores only the
  bytes of its fixed-width leaves; the loader reconstructs `N`, `EltCnt`, `FixedSize` and a full
  presence bitmap from the encoder's width.

  `fixLeafSize_eq_new` (behind `C06_fix_leaf_size`): the reconstructed array is *the same message*
  `Slim.newVLenArray` (today's builder) creates for the same values — so everything proved about
  `newVLenArray` (`SlimProofs.VLen`) holds for it; in particular `Slim.vlenGet` returns the `i`-th
  value.
-/
open Bits

namespace Legacy

theorem nonEmptyIdx_const (vals : List Bytes) (w : Nat) (hw : 0 < w) (h : ∀ v ∈ vals, v.length = w) :
    Slim.nonEmptyIdx vals = List.range vals.length := by
  unfold Slim.nonEmptyIdx
  apply List.filter_eq_self.mpr
  intro i hi
  have hi' : i < vals.length := List.mem_range.mp hi
  rw [List.getD_eq_getElem?_getD, List.getElem?_map, List.getElem?_eq_getElem hi']
  simp only [Option.map_some, Option.getD_some, gt_iff_lt, decide_eq_true_eq]
  rw [h _ (List.getElem_mem hi')]; exact hw

theorem map_length_const (vals : List Bytes) (w : Nat) (h : ∀ v ∈ vals, v.length = w) :
    vals.map List.length = List.replicate vals.length w := by
  rw [List.eq_replicate_iff]
  refine ⟨List.length_map _, fun b hb => ?_⟩
  obtain ⟨v, hv, rfl⟩ := List.mem_map.mp hb
  exact h v hv

theorem allEqual_of_const (l : List Nat) (w : Nat) (h : ∀ x ∈ l, x = w) : Slim.allEqual l = true := by
  cases l with
  | nil => rfl
  | cons z zs =>
    show zs.all (· == z) = true
    rw [List.all_eq_true]
    intro x hx
    rw [h x (List.mem_cons_of_mem _ hx), h z List.mem_cons_self]
    simp

theorem newVLenArray_const (vals : List Bytes) (w : Nat) (hw : 0 < w) (hne : vals ≠ [])
    (h : ∀ v ∈ vals, v.length = w) :
    Slim.newVLenArray vals =
      some { n := vals.length, eltCnt := vals.length, fixedSize := w, bytes := vals.flatten,
             presenceBM := some (newBM (List.range vals.length) vals.length "r64") } := by
  have hlen : 0 < vals.length := List.length_pos_iff.mpr hne
  rw [Slim.newVLenArray_eq, nonEmptyIdx_const vals w hw h, map_length_const vals w h,
    List.filter_replicate_of_pos (by simpa using hw), List.sum_replicate_nat,
    allEqual_of_const _ w (fun x hx => (List.mem_replicate.mp hx).2),
    if_neg (Nat.mul_ne_zero (Nat.ne_of_gt hlen) (Nat.ne_of_gt hw)), if_pos rfl, List.length_range]
  have hl : (List.replicate vals.length w).getLast?.getD 0 = w := by
    obtain ⟨n, hn⟩ : ∃ n, vals.length = n + 1 := ⟨vals.length - 1, by omega⟩
    rw [hn, List.replicate_succ']
    simp
  rw [hl]

/-- the same layout when some of the values are empty: the presence bitmap marks the others -/
theorem _root_.Refine.newVLenArray_fixed (es : List Bytes) (w : Nat)
    (hall : ∀ v ∈ es, v.length = w ∨ v.length = 0) :
    ∀ v, Slim.newVLenArray es = some v → ∃ f, f ≤ w ∧
      v = { n := es.length, eltCnt := (Slim.nonEmptyIdx es).length, bytes := es.flatten,
            presenceBM := some (newBM (Slim.nonEmptyIdx es) es.length "r64"), fixedSize := f } := by
  intro v hv
  have hsz : ∀ x ∈ (es.map List.length).filter (· > 0), x = w := by
    intro x hx
    obtain ⟨hx1, hx2⟩ := List.mem_filter.mp hx
    obtain ⟨b, hb, rfl⟩ := List.mem_map.mp hx1
    rcases hall b hb with h | h
    · exact h
    · simp [h] at hx2
  have hfixed : ((es.map List.length).filter (· > 0)).getLast?.getD 0 ≤ w := by
    cases hg : ((es.map List.length).filter (· > 0)).getLast? with
    | none => simp
    | some x => simp [hsz x (List.mem_of_getLast? hg)]
  rw [Slim.newVLenArray_eq, allEqual_of_const _ w hsz] at hv
  split at hv
  · cases hv
  · simp only [if_true, Option.some.injEq] at hv
    exact ⟨_, hfixed, hv.symm⟩

theorem fixLeafSize_eq_new (s : SlimMsg) (vals : List Bytes) (w : Nat) (hw : 0 < w)
    (hne : vals ≠ []) (h : ∀ v ∈ vals, v.length = w)
    (hl : s.leaves = some { bytes := vals.flatten }) :
    fixLeafSize s (some w) = .ok { s with leaves := Slim.newVLenArray vals } := by
  unfold fixLeafSize
  simp only [hl, bind, Except.bind, pure, Except.pure]
  have hw0 : ¬ (w = 0) := by omega
  have hdiv : vals.flatten.length / w = vals.length := by
    rw [List.length_flatten, map_length_const vals w h, List.sum_replicate_nat,
      Nat.mul_div_cancel _ hw]
  simp only [Option.isSome_none, Bool.false_eq_true, if_false, ne_eq, not_true_eq_false, hw0, hdiv]
  rw [newVLenArray_const vals w hw hne h]

/- `C06_fix_leaf_size_bytes` (`SlimProps/C06.lean`) states the leaf-size repair for a byte array that
   is not given as the flattening of a list of values: the values are its `n` slices of width `w`. -/

theorem cut_flatten (w : Nat) : ∀ (n : Nat) (bs : Bytes), bs.length = n * w →
    ((List.range n).map fun i => (bs.drop (i * w)).take w).flatten = bs
  | 0, bs, h => by
    obtain rfl : bs = [] := List.length_eq_zero_iff.mp (by omega)
    rfl
  | n + 1, bs, h => by
    have ih := cut_flatten w n (bs.drop w) (by rw [List.length_drop, h, Nat.succ_mul]; omega)
    rw [List.range_succ_eq_map, List.map_cons, List.map_map, List.flatten_cons, Nat.zero_mul, List.drop_zero]
    simp only [Function.comp_def, List.drop_drop, Nat.succ_mul, Nat.add_comm _ w] at ih ⊢
    rw [ih, List.take_append_drop]

theorem cut_width (w n : Nat) (bs : Bytes) (h : bs.length = n * w) :
    ∀ v ∈ (List.range n).map fun i => (bs.drop (i * w)).take w, v.length = w := by
  intro v hv
  obtain ⟨i, hi, rfl⟩ := List.mem_map.mp hv
  have := Nat.mul_le_mul_right w (Nat.succ_le_of_lt (List.mem_range.mp hi))
  rw [List.length_take, List.length_drop, h]
  rw [Nat.succ_mul] at this
  omega

end Legacy
