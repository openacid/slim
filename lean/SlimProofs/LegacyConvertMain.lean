import SlimProofs.LegacyConvertLoop
import SlimProofs.LegacyArray
import SlimProofs.LegacyBuildOld
import SlimProofs.LeafCount
/-
  Stage (ii-d) (the stages: LegacyConvertOld): on the sections of any three-section stream
  (`sections3`, every variant) of strictly ascending keys with fixed-width values the loader's
  conversion succeeds (`convert_run`: its final loop state satisfies the invariant), and
  `fixup lk t'` (records with `firstChild` and leaf key indexes filled in) is the trie of the
  state today's builder has reached beside it (`fixup_eq`); hence `converted`: it satisfies
  `WF keys (replicate n true)`, `ShapeOK`, every inner record has two labels (`Converted`);
  `convert_wf` is its first half.
  `reads_of_sections` puts the accessor lemmas of SlimProofs.LegacyArray together as `Reads`.
  `stepLim_of_keys` is where the bound on the key lengths comes from: a stored step is at most the
  half-byte length of a key plus one, and has to fit the `uint16` of the steps section.
-/

namespace LegacyConvert
open LegacyWrite Legacy BuildInv BuildShape

theorem reads_of_sections (vr : Variant) (keys vals : List Bytes) (w : Nat)
    (ch st lv : Array32Msg) (h : sections3 vr keys vals = .ok (ch, st, lv))
    (hlen : vals.length = keys.length) (hw : ∀ v ∈ vals, v.length = w) :
    ∃ nodes, buildOld keys vr.leafSteps = .ok nodes ∧ Reads ch st lv w nodes.toList vals.toArray := by
  unfold sections3 at h
  cases hb : buildOld keys vr.leafSteps with
  | error e => rw [hb] at h; cases h
  | ok nodes =>
    rw [hb] at h
    cases h
    refine ⟨nodes, rfl, fun id => ?_, bmhas_ids _ _ _ _, fun id hid => getStep_stepsMsg _ _ id hid,
      fun id hid hin => getBM16Child_childrenMsg vr _ _ id hid hin (buildOld_bm_lt keys _ nodes hb),
      fun id hid k hk => getBytes_leavesMsg _ _ w id k hid hk fun n hn j hj => by
        rw [getD_toArray, Bits.getD_eq_getElem _ _ (hlen ▸ buildOld_leaf_lt keys _ nodes hb n hn j hj)]
        exact hw _ (List.getElem_mem _)⟩
    rw [childrenMsg_bitmaps]
    exact bmhas_ids _ _ _ [] id

theorem nodeOf_step_le (keys : List Bytes) (kn : Array (List Nat))
    (hkn : ∀ t, kn.getD t [] = knOf keys t) (ls : Bool) (fc : Nat) (q : Sub) :
    (nodeOf kn ls fc q).step ≤ (knOf keys q.s).length + 1 := by
  have hite : ∀ (c : Prop) [Decidable c] (x : Nat), x ≤ (knOf keys q.s).length →
      (if c then x - q.d + 1 else 0) ≤ (knOf keys q.s).length + 1 := by
    intro c _ x hx
    split
    · exact Nat.succ_le_succ (Nat.le_trans (Nat.sub_le _ _) hx)
    · exact Nat.zero_le _
  unfold nodeOf
  split
  · exact hite _ _ (by rw [hkn]; exact Nat.le_refl _)
  · exact hite _ _ (by unfold brPos; rw [hkn]; exact lcp_le_left _ _)

theorem stepLim_of_keys {keys : List Bytes} {kn : Array (List Nat)} {ls : Bool}
    {nodes : Array OldNode} {oq : Array Sub}
    (hkn : ∀ t, kn.getD t [] = knOf keys t) (O : OInv keys kn ls oq.size oq nodes)
    (hkl : ∀ k ∈ keys, 2 * k.length < 65535) :
    ∀ (o : Nat) (ho : o < nodes.size), nodes[o].step < 65536 := by
  intro o ho
  rw [(Array.getElem?_eq_some_iff.mp (O.node o (O.size ▸ ho)).1).2]
  generalize oq.getD o default = q
  have hle := nodeOf_step_le keys kn hkn ls (fcOf kn oq o) q
  have : (knOf keys q.s).length < 65535 := by
    unfold knOf
    rw [nibs_length, List.getD_eq_getElem?_getD]
    cases hk : keys[q.s]? with
    | none => exact Nat.zero_lt_succ _
    | some k => exact hkl k (List.mem_of_getElem? hk)
  omega

theorem convert_eq (ch steps lvs : Array32Msg) (w : Nat) (step0 : Nat) (c : Conv)
    (h0 : getStep steps 0 = .ok step0)
    (hl : convert.loop ch steps lvs (some w)
      (2 * 64 * (ch.bitmaps.length + lvs.bitmaps.length) + 4) 0
      { queue := #[{ oldid := 0, step := step0, leafOnly := false }] } = .ok c) :
    convert ch steps lvs (some w) =
      .ok { opt := {}, nodes := c.nodes, bigCnt := 0, leafKeyIdx := #[],
            elts := some c.leaves.toList } := by
  unfold convert
  simp only [h0, hl, bind, Except.bind, pure, Except.pure]

theorem bmhas_lt (bm : List Nat) (i : Nat) (h : bmhas bm i = true) : i < 64 * bm.length :=
  Nat.lt_of_not_le fun hge => by
    rw [bmhas_eq_getBit, Bits.getBit_of_ge hge] at h
    cases h

theorem ghost_init (keys : List Bytes) (hne : keys.length ≠ 0) :
    SizeLabels.FullInv keys {}
      { queue := #[{ s := 0, e := keys.length, fb := 0 }], isBig := false } 0 :=
  ⟨binv_init (vals := none) {} hne (fun _ h => nomatch h), shinv_init _ rfl,
    fun nd hnd => by simp at hnd⟩

theorem cinv_init {X : Ctx} (H : X.OK) (hn : X.keys.length ≠ 0) :
    CInv X 0 { queue := #[{ oldid := 0, step := (X.nodes.getD 0 default).step - 1, leafOnly := false }] }
      { queue := #[{ s := 0, e := X.keys.length, fb := 0 }], isBig := false } := by
  have h0 : 0 < X.oq.size := (Array.getElem?_eq_some_iff.mp H.O.root).1
  refine ⟨Nat.zero_le _, ?_, rfl, rfl, h0, Nat.le_refl _, ⟨?_, ?_, rfl, rfl, rfl⟩,
    ghost_init X.keys hn⟩
  · intro j q hq
    have : j = 0 := Nat.lt_one_iff.mp (Array.getElem?_eq_some_iff.mp hq).1
    subst this
    obtain rfl : q = { oldid := 0, step := (X.nodes.getD 0 default).step - 1, leafOnly := false } := by
      simpa using hq.symm
    exact ⟨h0, fun _ => rfl, fun h => by cases h⟩
  · show #[_] = (#[_] : Array QElt).map (subOf X)
    rw [List.map_toArray, List.map_cons, subOf_node X rfl, Ctx.sub_eq H.O.root]; rfl
  · show (#[] : Array Node) = (#[] : Array Node).map stripNode
    simp

/-- the records of the conversion with what it leaves out filled in: `firstChild` by the BFS law
    and the key index of every leaf -/
def fixup (lk : Array Nat) (t : Trie1) : Trie1 :=
  { t with nodes := fixNodes t.nodes, leafKeyIdx := lk }

theorem fixup_eq {X : Ctx} {c : Conv} {g : BSt} (S : Sim X c g) (hs : ShInv g) :
    fixup g.leafKeyIdx { opt := {}, nodes := c.nodes, bigCnt := 0, leafKeyIdx := #[],
                         elts := some c.leaves.toList } = trieOf {} (some X.vals) g := by
  unfold fixup trieOf
  simp only [S.nodes, fixNodes_strip g.nodes g.bigCnt hs.node, S.zero, S.leaves, Option.map_some]

theorem convert_run (vr : Variant) (keys vals : List Bytes) (w : Nat) (ch st lv : Array32Msg)
    (hne : keys ≠ []) (hasc : strictAsc keys = true) (hlen : vals.length = keys.length)
    (hw : ∀ v ∈ vals, v.length = w) (hkl : ∀ k ∈ keys, 2 * k.length < 65535)
    (hsec : sections3 vr keys vals = .ok (ch, st, lv)) :
    ∃ (X : Ctx) (c : Conv) (g : BSt), X.keys = keys ∧ X.vals = vals ∧
      convert ch st lv (some w) =
        .ok { opt := {}, nodes := c.nodes, bigCnt := 0, leafKeyIdx := #[],
              elts := some c.leaves.toList } ∧
      CInv X c.queue.size c g := by
  obtain ⟨nodes, hb, R⟩ := reads_of_sections vr keys vals w ch st lv hsec hlen hw
  obtain ⟨oq, O⟩ := buildOld_spec keys vr.leafSteps nodes hne hb
  have hlim := stepLim_of_keys (kn_getD keys) O hkl
  let X : Ctx := ⟨keys, (keys.map nibs).toArray, vr.leafSteps, nodes, oq, vals, w, ch, st, lv⟩
  have H : X.OK := ⟨kn_getD keys, hasc, O, R, hlim⟩
  have h0 : 0 < oq.size := (Array.getElem?_eq_some_iff.mp O.root).1
  have hn0 : 0 < nodes.size := by rw [O.size]; exact h0
  have hstep0 : getStep st 0 = .ok ((nodes.getD 0 default).step - 1) := by
    rw [← Array.getElem_eq_getD (h := hn0)]; exact H.R.step 0 hn0 (hlim 0 hn0)
  -- the model's fuel, 128 per bitmap word, covers the `2 * oq.size` that `loop_spec` asks for
  have hN : oq.size ≤ 64 * (ch.bitmaps.length + lv.bitmaps.length) := by
    -- the last old node is in one of the two bitmaps
    obtain ⟨hn, hnode, _⟩ := old_at H (oq.size - 1) (by show oq.size - 1 < oq.size; omega)
    generalize X.sub (oq.size - 1) = q at hnode
    have hlast : oq.size - 1 < 64 * ch.bitmaps.length ∨ oq.size - 1 < 64 * lv.bitmaps.length := by
      by_cases h1 : q.e - q.s = 1
      · have hl : X.nodes[oq.size - 1].leaf.isSome = true := by
          rw [hnode, (nodeOf_single X.kn X.ls _ q h1).2]; rfl
        exact Or.inr (bmhas_lt _ _ (by rw [H.R.leaf]; exact decide_eq_true ⟨hn, hl⟩))
      · have hl : X.nodes[oq.size - 1].inner = true := by
          rw [hnode, (nodeOf_branch X.kn X.ls _ q h1).1]
        exact Or.inl (bmhas_lt _ _ (by rw [H.R.inner]; exact decide_eq_true ⟨hn, hl⟩))
    omega
  obtain ⟨c, g, hloop, hinv⟩ := loop_spec H (mkCtx_ok keys none {})
    (2 * 64 * (ch.bitmaps.length + lv.bitmaps.length) + 4) 0 _ _ (cinv_init H (fun h => hne (List.length_eq_zero_iff.mp h)))
    (by show 2 * oq.size < _; omega)
  exact ⟨X, c, g, rfl, rfl, convert_eq ch st lv w _ c hstep0 hloop, hinv⟩

/-- what is known of the records `t'` the loader makes of a three-section stream of `keys` /
    `vals`: with `firstChild` and the leaf key indexes `lk` filled in they are a well-formed
    `ShapeOK` trie of all keys, without big nodes, every inner record with at least two labels -/
structure Converted (keys vals : List Bytes) (t' : Trie1) (lk : Array Nat) : Prop where
  opt : t'.opt = {}
  big : t'.bigCnt = 0
  elts : t'.elts = some (lk.toList.map (fun k => vals.getD k []))
  cnt : lk.size = keys.length
  wf : WF keys (List.replicate keys.length true) (fixup lk t')
  shape : ShapeOK (fixup lk t')
  two : ∀ nd ∈ (fixup lk t').nodes.toList, SizeLabels.LabelsOK nd

/-- the repaired records ARE the trie today's builder makes of the same keys with big nodes off
    and nothing dropped, so its theorems apply -/
theorem converted (vr : Variant) (keys vals : List Bytes) (w : Nat) (ch st lv : Array32Msg)
    (hne : keys ≠ []) (hasc : strictAsc keys = true) (hlen : vals.length = keys.length)
    (hw : ∀ v ∈ vals, v.length = w) (hkl : ∀ k ∈ keys, 2 * k.length < 65535)
    (hsec : sections3 vr keys vals = .ok (ch, st, lv)) :
    ∃ t' lk, convert ch st lv (some w) = .ok t' ∧ Converted keys vals t' lk := by
  obtain ⟨X, c, g, rfl, rfl, hconv, hinv⟩ :=
    convert_run vr keys vals w ch st lv hne hasc hlen hw hkl hsec
  have hsz : g.queue.size = c.queue.size := by rw [hinv.sim.queue, Array.size_map]
  have hfix := fixup_eq hinv.sim hinv.g.s
  have hwf : WF X.keys (List.replicate X.keys.length true) (trieOf {} (some X.vals) g) :=
    wf_of_binv (hsz ▸ hinv.g.b)
  have hs : ShapeOK (trieOf {} (some X.vals) g) := shape_of_inv (hsz ▸ hinv.g.b) hinv.g.s
  refine ⟨_, g.leafKeyIdx, hconv, rfl, rfl, ?_, ?_, hfix ▸ hwf, hfix ▸ hs, hfix ▸ hinv.g.two⟩
  · show some c.leaves.toList = _
    rw [hinv.sim.leaves]
  · -- the leaves are the keys, each once
    obtain ⟨queue, hq, hroot⟩ := (Subtree.wf_iff _ _ _).mp hwf
    have hl := (LeafCount.leaf_perm hq hroot hs).length_eq
    rw [← Array.length_toList, show g.leafKeyIdx = (trieOf {} (some X.vals) g).leafKeyIdx from rfl,
      hl, LeafCount.keptIn_replicate (Nat.le_refl _), List.length_range', Nat.sub_zero]

end LegacyConvert

open LegacyConvert LegacyWrite Legacy Tree in
/-- **The conversion of a three-section stream yields a well-formed trie of its keys.**
    For strictly ascending keys with one value of width `w` each (and keys short enough for the
    16-bit steps of the layout), on the sections any old writer produced the loader's conversion
    succeeds, and its records — with `firstChild` and the leaf key indexes filled in (`fixup`) —
    satisfy `WF` for these keys with nothing dropped, and `ShapeOK`; the leaf values are the
    values of the leaves' keys. -/
theorem convert_wf (vr : Variant) (keys vals : List Bytes) (w : Nat) (ch st lv : Array32Msg)
    (hne : keys ≠ []) (hasc : strictAsc keys = true) (hlen : vals.length = keys.length)
    (hw : ∀ v ∈ vals, v.length = w) (hkl : ∀ k ∈ keys, 2 * k.length < 65535)
    (hsec : sections3 vr keys vals = .ok (ch, st, lv)) :
    ∃ t' lk, convert ch st lv (some w) = .ok t' ∧ t'.opt = {} ∧ t'.bigCnt = 0 ∧
      t'.elts = some (lk.toList.map (fun k => vals.getD k [])) ∧ lk.size = keys.length ∧
      WF keys (List.replicate keys.length true) (fixup lk t') ∧ ShapeOK (fixup lk t') := by
  obtain ⟨t', lk, h, C⟩ := converted vr keys vals w ch st lv hne hasc hlen hw hkl hsec
  exact ⟨t', lk, h, C.opt, C.big, C.elts, C.cnt, C.wf, C.shape⟩

#print axioms convert_wf
