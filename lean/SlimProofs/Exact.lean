import SlimProofs.SearchDescent
/-
  `searchID` and (via the simulation of SlimProofs.Agree) `GetID` in a well-formed record array
  (`WF`) over strictly ascending keys, for a query that is ARBITRARY where both kinds of prefixes
  are stored (`opt.inner ∧ opt.leaf`), or one of the keys in any mode: `searchID_exact` is
  `SearchDescent.searchID_post` for `WF`, and `getID_exact` reads `GetID`'s answer off the `Cut`.
-/

namespace Exact

theorem lexCmp_take_eq (w : Nat) (a b : List Nat) (h : lexCmp (a.take w) (b.take w) = .eq) :
    a.take w = b.take w := lexCmp_eq_iff.mp h

end Exact

open SearchDescent Subtree in
/-- **Exact search.**  In a well-formed trie over strictly ascending keys, for a query `q` that is
    ARBITRARY where both kinds of prefixes are stored, or one of the keys (kept or not) in any
    mode: `searchID` returns normally, `[a, b)` is the `Cut` of `q` among the kept keys, and its
    three ids are the leaves of the last kept key before `a`, of the key `a` if `[a, b)` is not
    empty, and of the first kept key from `b` on (`none` iff there is no such key). -/
theorem searchID_exact (keys : List Bytes) (keep : List Bool) (t : Trie1)
    (hasc : strictAsc keys = true) (hwf : WF keys keep t) (q : Bytes)
    (hmode : (t.opt.inner = true ∧ t.opt.leaf = true) ∨ ∃ d, d < keys.length ∧ keys.getD d [] = q) :
    ∃ a b l e r, searchID t.view q = .ok (l, e, r) ∧ getID t.view q = .ok e ∧ Cut keys keep q a b ∧
      LeftRes keep t a l ∧ RightResAt keep keys.length t b r ∧
      match e with
      | none => b = a
      | some id => b = a + 1 ∧ IsLeafOf t id a := by
  obtain ⟨queue, hq, hroot⟩ := (wf_iff keys keep t).mp hwf
  obtain ⟨a, b, l, e, r, hs, hg, hlres, hrres, he, hcut⟩ := searchID_post hq hroot hasc q
  exact ⟨a, b, l, e, r, hs, hg, hcut hmode, hlres, hrres, he⟩

#print axioms searchID_exact

/-- **Exact `GetID`.**  In Complete mode `GetID` on an arbitrary query finds exactly the kept key
    equal to the query (no false positive, no false negative). -/
theorem getID_exact (keys : List Bytes) (keep : List Bool) (t : Trie1)
    (hasc : strictAsc keys = true) (hwf : WF keys keep t)
    (hinner : t.opt.inner = true) (hleaf : t.opt.leaf = true) (q : Bytes) :
    ∃ e, getID t.view q = .ok e ∧
      match e with
      | none => ∀ t', t' < keys.length → keptAt keep t' = true → keys.getD t' [] ≠ q
      | some id => ∃ m, SearchDescent.IsLeafOf t id m ∧ m < keys.length ∧ keptAt keep m = true ∧
          keys.getD m [] = q := by
  obtain ⟨a, b, l, e, r, _, hg, c, _, _, he⟩ :=
    searchID_exact keys keep t hasc hwf q (Or.inl ⟨hinner, hleaf⟩)
  refine ⟨e, hg, ?_⟩
  cases e with
  | none =>
    have hb : b = a := he
    exact fun j hj hk => c.outside hj hk ((Nat.lt_or_ge j a).imp_right fun h => hb ▸ h)
  | some id =>
    obtain ⟨hb, hlf⟩ := he
    rcases c.mid with hb' | ⟨_, hka, hkq⟩
    · exact absurd (hb.symm.trans hb') (Nat.succ_ne_self a)
    · exact ⟨a, hlf, Nat.lt_of_succ_le (hb ▸ c.le : a + 1 ≤ keys.length), hka, hkq⟩

#print axioms getID_exact
