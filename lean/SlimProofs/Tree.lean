import SlimProofs.Shape
import SlimProofs.Subtree
/-
  The record array as a breadth-first numbered tree.

  `bfs nodes j` = 1 + the number of children of the first `j` nodes: the id of the first node
  whose parent is not among them.  `ShapeOK` says `firstChild = bfs` and `bfs N = N`; together
  with "a parent lies before its children" (`TreeOK`) every node but the root has its parent
  before it (`lt_bfs`), the children of `j` are the ids `[bfs j, bfs (j+1))`, all inside the array.
-/

/-- number of children (the conversion of old tries fills in `firstChild` with it) -/
def LegacyConvert.labCnt : Node → Nat
  | .inner r => r.labels.length
  | .leaf _ _ => 0

namespace Tree

export LegacyConvert (labCnt)

def bfs (nodes : Array Node) (j : Nat) : Nat := 1 + ((nodes.toList.take j).map labCnt).sum

/-- `ShapeOK` spells `bfs` over the inner records -/
theorem bfs_eq_innersBefore (nodes : Array Node) (j : Nat) :
    1 + ((innersBefore nodes j).map (fun r => r.labels.length)).sum = bfs nodes j := by
  unfold innersBefore bfs
  congr 1
  generalize nodes.toList.take j = l
  induction l with
  | nil => rfl
  | cons nd rest ih =>
    cases nd with
    | inner r => simp [labCnt, ih]
    | leaf ith lp => simp [labCnt, ih]

theorem bfs_succ (nodes : Array Node) {j : Nat} (hj : j < nodes.size) :
    bfs nodes (j + 1) = bfs nodes j + labCnt nodes[j] := by
  unfold bfs
  rw [List.take_add_one, Array.getElem?_toList, Array.getElem?_eq_getElem hj, List.map_append,
    List.sum_append, Nat.add_assoc]
  simp

theorem bfs_mono (nodes : Array Node) {i j : Nat} (h : i ≤ j) : bfs nodes i ≤ bfs nodes j := by
  unfold bfs
  have : nodes.toList.take j = nodes.toList.take i ++ (nodes.toList.take j).drop i := by
    have := (List.take_append_drop i (nodes.toList.take j)).symm
    rwa [List.take_take, Nat.min_eq_left h] at this
  rw [this, List.map_append, List.sum_append, ← Nat.add_assoc]
  exact Nat.le_add_right _ _

/-- Every node but the root is the child of exactly one node, and the children of the nodes before
    `m` are the ids before `bfs nodes m`: if a node's cost `c` and its children's weights `q`
    come to at most its own weight plus one, the costs telescope to the root's weight. -/
theorem telescope (nodes : Array Node) (c : Node → Nat) (q : Nat → Nat)
    (h : ∀ j (hj : j < nodes.size),
      c nodes[j] + ((List.range' (bfs nodes j) (labCnt nodes[j])).map q).sum ≤ q j + 1) :
    ∀ m, m ≤ nodes.size →
      ((nodes.toList.take m).map c).sum + ((List.range (bfs nodes m)).map q).sum
        ≤ q 0 + ((List.range m).map q).sum + m := by
  intro m
  induction m with
  | zero =>
    intro _
    simp [bfs]
  | succ m ih =>
    intro hm
    have hm' : m < nodes.size := Nat.lt_of_succ_le hm
    have ih := ih (Nat.le_of_lt hm')
    have := h m hm'
    rw [List.take_add_one, Array.getElem?_toList, Array.getElem?_eq_getElem hm', List.range_succ,
      bfs_succ _ hm', List.range_eq_range' (n := _ + _), ← List.range'_append_1,
      ← List.range_eq_range']
    simp only [Option.toList_some, List.map_append, List.sum_append, List.map_cons, List.map_nil,
      List.sum_cons, List.sum_nil, Nat.add_zero, Nat.zero_add]
    omega

variable {t : Trie1}

theorem fc_eq (hs : ShapeOK t) {j : Nat} {r : InnerRec} (h : t.nodes[j]? = some (.inner r)) :
    r.firstChild = bfs t.nodes j := (hs.firstChild j r h).trans (bfs_eq_innersBefore _ _)

theorem bfs_size (hs : ShapeOK t) : bfs t.nodes t.nodes.size = t.nodes.size :=
  (bfs_eq_innersBefore _ _).symm.trans hs.total.symm

theorem bfs_le (hs : ShapeOK t) {j : Nat} (hj : j ≤ t.nodes.size) : bfs t.nodes j ≤ t.nodes.size :=
  Nat.le_trans (bfs_mono _ hj) (Nat.le_of_eq (bfs_size hs))

theorem kid_lt (hs : ShapeOK t) {j : Nat} {r : InnerRec} (h : t.nodes[j]? = some (.inner r))
    {k : Nat} (hk : k < r.labels.length) : r.firstChild + k < t.nodes.size := by
  obtain ⟨hj, hn⟩ := Array.getElem?_eq_some_iff.mp h
  have := bfs_le hs (Nat.succ_le_of_lt hj)
  rw [bfs_succ _ hj, hn, ← fc_eq hs h] at this
  exact Nat.lt_of_lt_of_le (Nat.add_lt_add_left hk _) this

theorem leavesBefore_succ (nodes : Array Node) {j : Nat} (hj : j < nodes.size) :
    leavesBefore nodes (j + 1) = leavesBefore nodes j + (if nodes[j].isInner then 0 else 1) := by
  unfold leavesBefore
  rw [List.take_add_one, List.filter_append, List.length_append, Array.getElem?_toList,
    Array.getElem?_eq_getElem hj]
  cases nodes[j] <;> rfl

theorem leavesBefore_le (nodes : Array Node) (j : Nat) :
    leavesBefore nodes j ≤ leavesBefore nodes nodes.size := by
  unfold leavesBefore
  rw [List.take_of_length_le (Nat.le_of_eq Array.length_toList)]
  exact ((List.take_sublist j _).filter _).length_le

theorem leaf_lt (hs : ShapeOK t) {j ith : Nat} {lp : Option Bytes}
    (h : t.nodes[j]? = some (.leaf ith lp)) : ith < t.leafKeyIdx.size := by
  obtain ⟨hj, hn⟩ := Array.getElem?_eq_some_iff.mp h
  have := leavesBefore_le t.nodes (j + 1)
  rw [leavesBefore_succ _ hj, hn, ← hs.leafOrd j ith lp h, ← hs.leafCnt] at this
  exact this

theorem leafBytes_ok (hs : ShapeOK t) {j ith : Nat} {lp : Option Bytes}
    (h : t.nodes[j]? = some (.leaf ith lp)) : ∃ val, t.view.leafBytes ith = .ok val := by
  simp only [Trie1.view]
  cases he : t.elts with
  | none => exact ⟨none, rfl⟩
  | some es =>
    simp only
    split
    · exact ⟨none, rfl⟩
    · rw [List.getElem?_eq_getElem (hs.elts es he ▸ leaf_lt hs h)]
      exact ⟨_, rfl⟩

end Tree

structure TreeOK (t : Trie1) : Prop where
  shape : ShapeOK t
  fc_gt : ∀ (j : Nat) (r : InnerRec), t.nodes[j]? = some (.inner r) → j < r.firstChild

namespace TreeOK

open Tree

variable {t : Trie1}

theorem of_qok {keys : List Bytes} {keep : List Bool} {queue : Array Subset}
    (hq : Subtree.QOK keys keep t queue) (hs : ShapeOK t) : TreeOK t := by
  refine ⟨hs, fun j r hj => ?_⟩
  obtain ⟨hlt, hn⟩ := Array.getElem?_eq_some_iff.mp hj
  obtain ⟨o, _, _, hnode⟩ := hq.node j hlt
  rw [hn] at hnode
  obtain ⟨_, ws, _, _, _, _, _, _, _, hgt, _⟩ := hnode
  exact hgt

/-- once no parent is left for the nodes from `j` on, none of them can be inner (its first child
    would not lie behind it), so the count stands still -/
theorem stuck (h : TreeOK t) {j : Nat} (hle : bfs t.nodes j ≤ j) :
    ∀ d, j + d ≤ t.nodes.size → bfs t.nodes (j + d) = bfs t.nodes j
  | 0, _ => rfl
  | d + 1, hd => by
    have hd' : j + d < t.nodes.size := hd
    have ih := stuck h hle d (Nat.le_of_lt hd')
    rw [← Nat.add_assoc, bfs_succ _ hd', ih]
    cases hn : t.nodes[j + d] with
    | leaf _ _ => rfl
    | inner r =>
      have hr := Array.getElem?_eq_some_iff.mpr ⟨hd', hn⟩
      have hfc := h.fc_gt (j + d) r hr
      rw [fc_eq h.shape hr, ih] at hfc
      exact absurd hfc (Nat.not_lt.mpr (Nat.le_trans hle (Nat.le_add_right j d)))

/-- every node has its parent before it -/
theorem lt_bfs (h : TreeOK t) {j : Nat} (hj : j < t.nodes.size) : j < bfs t.nodes j := by
  apply Nat.lt_of_not_le
  intro hle
  have := stuck h hle (t.nodes.size - j) (Nat.le_of_eq (Nat.add_sub_of_le (Nat.le_of_lt hj)))
  rw [Nat.add_sub_of_le (Nat.le_of_lt hj), bfs_size h.shape] at this
  exact absurd hj (Nat.not_lt.mpr (this ▸ hle))

end TreeOK
