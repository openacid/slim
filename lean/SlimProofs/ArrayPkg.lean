import SlimModel.ArrayPkg
import SlimProofs.Encode
import SlimProofs.Refine.ListAux
/-
  SlimProofs.ArrayPkg — helper lemmas for property C16 (package array).

  A compacted array stands for a sparse map: `lookup idx elts i` is the element paired with
  position `i`, if listed, and `rankBelow idx m` the number of listed positions below `m`.
  `cnt`, `popcount` and (on ascending lists) `rankBelow` are those of `SlimProofs.BitsLemmas`
  (`cnt_eq`, `popcount_eq_bits`, `rankBelow_eq_cnt`), and on valid input so are the int32 models of
  `bitmap.Of` and `bitmap.IndexRank64` (`bitmapOf_eq_ofIdx`, `indexRank64From_cast`): the lemmas of
  `Bits.ofIdx`, `Bits.indexRank64` are used from there on.  The accessors are in `ArrayPkgGet`.
-/
namespace ArrayPkg
open Encode

theorem wrap32_id {x : Int} (h0 : -2147483648 ≤ x) (h1 : x < 2147483648) : wrap32 x = x := by
  unfold wrap32; omega

theorem wrap32_nat {n : Nat} (h : n < 2147483648) : wrap32 (n : Int) = (n : Int) :=
  wrap32_id (by omega) (by omega)

/-- `idx >> 6` and `idx & 63` of a non-negative subscript. -/
theorem div64_natCast (i : Nat) : (i : Int) / 64 = ((i / 64 : Nat) : Int) := (Int.natCast_ediv i 64).symm

theorem mod64_toNat (i : Nat) : ((i : Int) % 64).toNat = i % 64 :=
  (congrArg Int.toNat (Int.natCast_emod i 64).symm).trans (Int.toNat_natCast _)

def lookup {α : Type} : List Nat → List α → Nat → Option α
  | i :: is, e :: es, x => if i = x then some e else lookup is es x
  | _, _, _ => none

def rankBelow (idx : List Nat) (m : Nat) : Nat := (idx.filter (· < m)).length

abbrev StrictAsc (idx : List Nat) : Prop := List.Pairwise (· < ·) idx

theorem lookup_map {α β : Type} (f : α → β) (idx : List Nat) (elts : List α) (x : Nat) :
    lookup idx (elts.map f) x = (lookup idx elts x).map f := by
  induction idx generalizing elts with
  | nil => simp [lookup]
  | cons i is ih =>
    cases elts with
    | nil => simp [lookup]
    | cons e es =>
      simp only [List.map_cons, lookup]
      split
      · rfl
      · exact ih es

theorem lookup_none_of_not_mem {α : Type} (idx : List Nat) (elts : List α) (x : Nat)
    (h : x ∉ idx) : lookup idx elts x = none := by
  induction idx generalizing elts with
  | nil => simp [lookup]
  | cons i is ih =>
    cases elts with
    | nil => simp [lookup]
    | cons e es =>
      simp only [List.mem_cons, not_or] at h
      simp only [lookup]
      rw [if_neg (fun hh => h.1 hh.symm)]
      exact ih es h.2

theorem rankBelow_cons (a : Nat) (idx : List Nat) (m : Nat) :
    rankBelow (a :: idx) m = (if a < m then 1 else 0) + rankBelow idx m := by
  unfold rankBelow
  by_cases h : a < m <;> simp [h]; omega

theorem rankBelow_eq_zero_of_forall_ge (idx : List Nat) (m : Nat) (h : ∀ x ∈ idx, m ≤ x) :
    rankBelow idx m = 0 := by
  unfold rankBelow
  simp only [List.length_eq_zero_iff, List.filter_eq_nil_iff, decide_eq_true_eq]
  intro x hx; have := h x hx; omega

theorem lookup_eq_getElem {α : Type} (idx : List Nat) (elts : List α) (x : Nat)
    (hasc : StrictAsc idx) (hlen : idx.length = elts.length) (hx : x ∈ idx) :
    ∃ h : rankBelow idx x < elts.length, lookup idx elts x = some elts[rankBelow idx x] := by
  induction idx generalizing elts with
  | nil => simp at hx
  | cons i is ih =>
    cases elts with
    | nil => simp at hlen
    | cons e es =>
      have hasc := List.pairwise_cons.mp hasc
      simp only [List.length_cons, Nat.add_right_cancel_iff] at hlen
      by_cases hix : i = x
      · subst hix
        have hz : rankBelow is i = 0 :=
          rankBelow_eq_zero_of_forall_ge is i (fun y hy => Nat.le_of_lt (hasc.1 y hy))
        refine ⟨by rw [rankBelow_cons, hz]; simp, ?_⟩
        simp [lookup, rankBelow_cons, hz]
      · have hx' : x ∈ is := (List.mem_cons.mp hx).resolve_left fun h => hix h.symm
        have hlt : i < x := hasc.1 x hx'
        obtain ⟨hb, hl⟩ := ih es hasc.2 hlen hx'
        refine ⟨by rw [rankBelow_cons, if_pos hlt]; simp; omega, ?_⟩
        simp only [lookup, if_neg hix, hl, rankBelow_cons, if_pos hlt]
        congr 1
        simp [Nat.add_comm 1]

theorem rankBelow_mono (idx : List Nat) {m n : Nat} (h : m ≤ n) : rankBelow idx m ≤ rankBelow idx n := by
  unfold rankBelow
  rw [← List.countP_eq_length_filter, ← List.countP_eq_length_filter]
  exact List.countP_mono_left fun x _ hx => decide_eq_true (Nat.lt_of_lt_of_le (of_decide_eq_true hx) h)

theorem rankBelow_eq_length (idx : List Nat) (m : Nat) (h : ∀ x ∈ idx, x < m) :
    rankBelow idx m = idx.length := by
  unfold rankBelow
  rw [List.filter_eq_self.mpr]
  intro x hx; simp [h x hx]

theorem rankBelow_eq_cnt {idx : List Nat} (hasc : StrictAsc idx) (m : Nat) :
    rankBelow idx m = Bits.cnt (fun j => decide (j ∈ idx)) m :=
  (Bits.cnt_mem_asc hasc m).symm

theorem length_le_of_strictAsc {idx : List Nat} (hasc : StrictAsc idx) (N : Nat)
    (hhi : ∀ x ∈ idx, x < N) : idx.length ≤ N := by
  rw [← rankBelow_eq_length idx N hhi, rankBelow_eq_cnt hasc]
  exact Bits.cnt_le _ _

def cnt (p : Nat → Bool) : Nat → Nat
  | 0 => 0
  | n + 1 => cnt p n + (if p n then 1 else 0)

theorem cnt_eq (p : Nat → Bool) (n : Nat) : cnt p n = Bits.cnt p n := by
  induction n with
  | zero => exact (Bits.cnt_zero p).symm
  | succ n ih => rw [cnt, ih, Bits.cnt_succ]

theorem popcountAux_eq_cnt (f n : Nat) : popcountAux f n = Bits.cnt n.testBit f := by
  induction f generalizing n with
  | zero => exact (Bits.cnt_zero _).symm
  | succ f ih =>
    have h0 : Bits.cnt n.testBit (0 + 1) = n % 2 := by
      rw [Bits.cnt_succ, Bits.cnt_zero, Nat.testBit_zero]
      rcases Nat.mod_two_eq_zero_or_one n with h | h <;> simp [h]
    rw [popcountAux, Nat.add_comm f 1, Bits.cnt_add, h0, ih]
    congr 2
    funext j
    rw [Nat.add_comm 1 j, Nat.testBit_succ]

theorem popcount_eq_cnt (w : Nat) : popcount w = cnt (fun b => w.testBit b) 64 := by
  rw [cnt_eq]; exact popcountAux_eq_cnt 64 w

theorem popcount_eq_bits (w : Nat) : popcount w = Bits.popcount w :=
  (popcountAux_eq_cnt 64 w).trans (Bits.popcount_eq_cnt w).symm

theorem ascCheck_iff (l : List Int) : ascCheck l = true ↔ l.Pairwise (· < ·) := by
  induction l with
  | nil => simp [ascCheck]
  | cons a rest ih =>
    cases rest with
    | nil => simp [ascCheck]
    | cons b rest =>
      simp only [ascCheck]
      rw [List.pairwise_cons]
      by_cases hab : a ≥ b
      · simp only [hab, if_true]
        constructor
        · intro h; cases h
        · intro h
          have := h.1 b (List.mem_cons_self ..)
          omega
      · simp only [hab, if_false]
        rw [ih]
        constructor
        · intro h
          refine ⟨?_, h⟩
          intro x hx
          rcases List.mem_cons.mp hx with rfl | hx
          · omega
          · have := (List.pairwise_cons.mp h).1 x hx
            omega
        · exact fun h => h.2

theorem ascCheck_ofNat (idx : List Nat) :
    ascCheck (idx.map Int.ofNat) = true ↔ StrictAsc idx := by
  rw [ascCheck_iff, List.pairwise_map]
  constructor <;> intro h <;> refine h.imp ?_ <;> intro a b hab
  · exact Int.ofNat_lt.mp hab
  · exact Int.ofNat_lt.mpr hab

/-- Number of bitmap words `bitmap.Of` allocates. -/
def nWordsOf (idx : List Nat) : Nat :=
  match idx.getLast? with
  | some l => (l + 64) / 64
  | none => 0

theorem le_getLast_of_strictAsc (idx : List Nat) (hasc : StrictAsc idx) (l : Nat)
    (hl : idx.getLast? = some l) : ∀ x ∈ idx, x ≤ l := by
  intro x hx
  have := Bits.lt_lastSucc (hasc.imp Nat.le_of_lt) x hx
  rw [Bits.lastSucc, hl] at this
  exact Nat.le_of_lt_succ this

/-- The words that `bitmap.Of` builds for `idx`: word `k` has exactly the bits of the listed
    positions in `[64k, 64k+64)`. -/
def IsBitmapOf (idx : List Nat) (W : List Nat) : Prop :=
  W.length = nWordsOf idx ∧
  ∀ k b, k < W.length → (W.getD k 0).testBit b = decide (b < 64 ∧ 64 * k + b ∈ idx)

/-- one step of `bitmap.Of`'s loop, in the int32 model and in `Bits.ofIdx` -/
theorem setBit_natCast (acc : Array Nat) (x : Nat) : setBit acc (x : Int) = Bits.setBitStep acc x := by
  apply Array.ext_getElem?
  intro j
  have h1 : ((x : Int) / 64).toNat = x / 64 := by rw [div64_natCast, Int.toNat_natCast]
  simp only [setBit, Bits.setBitStep, h1, mod64_toNat, Array.getElem?_setIfInBounds,
    Array.getElem?_modify, Nat.one_shiftLeft, Array.getD_eq_getD_getElem?]
  split
  · next h =>
    subst h
    cases hx : acc[x / 64]? with
    | none => rw [if_neg (fun hlt => by rw [Array.getElem?_eq_getElem hlt] at hx; cases hx)]; rfl
    | some v => rw [if_pos (Array.getElem?_eq_some_iff.mp hx).1]; rfl
  · rfl

theorem foldl_setBit_natCast (idx : List Nat) (acc : Array Nat) :
    (idx.map Int.ofNat).foldl setBit acc = idx.foldl Bits.setBitStep acc := by
  induction idx generalizing acc with
  | nil => rfl
  | cons x idx ih =>
    rw [List.map_cons, List.foldl_cons, List.foldl_cons, ← ih, Int.ofNat_eq_natCast, setBit_natCast]

theorem nWordsOf_eq (idx : List Nat) : nWordsOf idx = (max 0 (Bits.lastSucc idx) + 63) / 64 := by
  unfold nWordsOf Bits.lastSucc
  cases idx.getLast? <;> simp <;> omega

theorem isBitmapOf_ofIdx (idx : List Nat) : IsBitmapOf idx (Bits.ofIdx idx 0) := by
  refine ⟨by rw [Bits.ofIdx_length', nWordsOf_eq], fun k b hk => ?_⟩
  by_cases hb : b < 64
  · have := Bits.getBit_ofIdx idx 0 (64 * k + b) (by omega)
    rw [Bits.getBit_mul_add _ _ _ hb] at this
    rw [this, decide_eq_decide]
    exact ⟨fun h => ⟨hb, h⟩, fun h => h.2⟩
  · -- the words are below 2^64
    have hw : (Bits.ofIdx idx 0).getD k 0 < 2 ^ 64 := by
      rw [Bits.getD_eq_getElem _ _ hk]; exact Bits.ofIdx_lt idx 0 _ (List.getElem_mem hk)
    rw [Nat.testBit_lt_two_pow
      (Nat.lt_of_lt_of_le hw (Nat.pow_le_pow_right (by decide) (Nat.le_of_not_lt hb)))]
    simp [hb]

/-- `bitmap.Of` in int32 arithmetic builds the words of `Bits.ofIdx` when nothing wraps: the word
    count `(last + 1 + 63) >> 6` is computed without overflow and every subscript is inside. -/
theorem bitmapOf_eq_ofIdx (idx : List Nat) (hasc : StrictAsc idx)
    (hrange : ∀ x ∈ idx, x + 65 ≤ 2 ^ 31) :
    bitmapOf (idx.map Int.ofNat) = .ok (Bits.ofIdx idx 0) := by
  unfold bitmapOf
  simp only [List.getLast?_map, Bits.ofIdx_eq, foldl_setBit_natCast]
  cases hl : idx.getLast? with
  | none =>
    have : idx = [] := List.getLast?_eq_none_iff.mp hl
    subst this
    simp [wrap32, Bits.lastSucc]
  | some l =>
    have hmem : l ∈ idx := List.mem_of_getLast? hl
    have hlr := hrange l hmem
    have hle := le_getLast_of_strictAsc idx hasc l hl
    simp only [Option.map_some, Int.ofNat_eq_natCast]
    have hw1 : wrap32 ((l : Int) + 1) = (l : Int) + 1 := wrap32_nat (n := l + 1) (Nat.lt_of_lt_of_le (Nat.add_lt_add_left (by decide) l) hlr)
    have hpos : (0 : Int) < (l : Int) + 1 := Int.lt_add_one_iff.mpr (Int.natCast_nonneg l)
    simp only [hw1, hpos, if_true]
    have hw2 : wrap32 ((l : Int) + 1 + 63) = (l : Int) + 64 := wrap32_nat (n := l + 64) (Nat.lt_of_lt_of_le (Nat.add_lt_add_left (by decide) l) hlr)
    have hnw : ((l : Int) + 64) / 64 = (((l + 64) / 64 : Nat) : Int) := (Int.natCast_ediv (l + 64) 64).symm
    rw [hw2, hnw]
    have hneg : ¬ (((l + 64) / 64 : Nat) : Int) < 0 := Int.not_lt.mpr (Int.natCast_nonneg _)
    rw [if_neg hneg]
    have hall : (List.map Int.ofNat idx).all
        (fun i => decide (0 ≤ i / 64 ∧ i / 64 < (((l + 64) / 64 : Nat) : Int))) = true := by
      simp only [List.all_map, List.all_eq_true, Function.comp, decide_eq_true_eq]
      intro x hx
      have := hle x hx
      simp only [Int.ofNat_eq_natCast]
      omega
    rw [if_pos hall, Int.toNat_natCast]
    have : Bits.lastSucc idx = l + 1 := by unfold Bits.lastSucc; rw [hl]
    rw [this, Nat.zero_max]

/-- the int32 accumulator of `bitmap.IndexRank64` does not wrap while the count of ones fits -/
theorem indexRank64From_cast (ws : List Nat) (n : Nat)
    (hb : n + (ws.map Bits.popcount).sum < 2147483648) :
    indexRank64From (n : Int) ws = (Bits.indexRank64.go false ws n).map Int.ofNat := by
  induction ws generalizing n with
  | nil => rfl
  | cons w ws ih =>
    rw [List.map_cons, List.sum_cons, ← Nat.add_assoc] at hb
    rw [indexRank64From, Bits.indexRank64.go, List.map_cons, popcount_eq_bits, ← Int.natCast_add,
      wrap32_nat (n := n + Bits.popcount w) (Nat.lt_of_le_of_lt (Nat.le_add_right _ _) hb), ih _ hb]
    rfl

theorem zeroEmpty_getElem? (ws : List Nat) (os : List Int) (hlen : ws.length = os.length) (k : Nat) :
    (zeroEmpty ws os)[k]? = (os[k]?).map (fun o => if ws.getD k 0 = 0 then 0 else o) := by
  induction ws generalizing os k with
  | nil =>
    cases os with
    | nil => rfl
    | cons o os => cases hlen
  | cons w ws ih =>
    cases os with
    | nil => cases hlen
    | cons o os =>
      cases k with
      | zero => rfl
      | succ k => exact ih os (Nat.succ.inj hlen) k

theorem IsBitmapOf.testBit {idx W : List Nat} (hW : IsBitmapOf idx W) (i : Nat)
    (hi : i < 64 * W.length) : (W.getD (i / 64) 0).testBit (i % 64) = decide (i ∈ idx) := by
  rw [hW.2 (i / 64) (i % 64) (Nat.div_lt_of_lt_mul hi), Nat.div_add_mod]
  simp [Nat.mod_lt i (show 0 < 64 by decide)]

theorem IsBitmapOf.rankBelow {idx W : List Nat} (hW : IsBitmapOf idx W) (hasc : StrictAsc idx)
    (m : Nat) (hm : m ≤ 64 * W.length) : rankBelow idx m = Bits.cnt (Bits.getBit W) m := by
  rw [rankBelow_eq_cnt hasc]
  exact Bits.cnt_congr fun j hj => (hW.testBit j (Nat.lt_of_lt_of_le hj hm)).symm

/-- The offsets `InitIndex` stores: for a non-empty word, the number of listed positions in front
    of the word; `0` for an empty word. -/
theorem offsets_getElem? {idx W : List Nat} (hW : IsBitmapOf idx W) (hasc : StrictAsc idx)
    (hcnt : idx.length < 2 ^ 31) (k : Nat) (hk : k < W.length) :
    (zeroEmpty W (indexRank64 W))[k]? =
      some (if W.getD k 0 = 0 then 0 else ((rankBelow idx (64 * k) : Nat) : Int)) := by
  -- all ones of `W` are listed positions, fewer than 2^31
  have hb : 0 + (W.map Bits.popcount).sum < 2147483648 := by
    rw [Nat.zero_add, Bits.sum_popcount, ← hW.rankBelow hasc _ (Nat.le_refl _)]
    exact Nat.lt_of_le_of_lt (List.length_filter_le _ _) hcnt
  have hcast : indexRank64 W = (Bits.indexRank64 W false).map Int.ofNat := indexRank64From_cast W 0 hb
  rw [zeroEmpty_getElem? W _ (by rw [hcast, List.length_map, Bits.indexRank64_length]; rfl), hcast,
    List.getElem?_map, Bits.indexRank64_getElem?, if_pos (Or.inl hk),
    ← hW.rankBelow hasc _ (Nat.mul_le_mul_left 64 (Nat.le_of_lt hk))]
  rfl

theorem flatten_chunks (chunks : List Bytes) (w : Nat) (hw : ∀ c ∈ chunks, c.length = w) :
    chunks.flatten.length = chunks.length * w ∧
    ∀ p (hp : p < chunks.length), (chunks.flatten.drop (p * w)).take w = chunks[p] := by
  refine ⟨by rw [List.length_flatten, Refine.sum_map_const _ _ w hw], fun p hp => ?_⟩
  have := (Refine.flatMap_fixed_slice id w chunks hw p hp).2
  rwa [List.flatMap_id] at this

end ArrayPkg
