import SlimProofs.Subtree
import SlimProofs.Runs
import SlimProofs.Agree
/-
  SlimProofs.SearchDescent — the descent of `searchID` in a well-formed record array (`WF`), for
  every query in every mode.

  `observe_inner`, `branch_present`, `branch_absent`: what an iteration sees (`Descent.observe`) at
  an inner node of a well-formed array, entered at the position of its subset — by any query, so
  the loops of `GetID` (SlimProofs.Monotone) and `getGEPath` (SlimProofs.IterLemmas) use them too.

  `LeftOK` / `RightOK` give the meaning of the candidates `lID` / `rID` along the path: the subtree
  that holds the nearest kept key on that side.  One branching step moves them to the two cuts
  around the query's label (`left_cand`, `right_cand`): the ends of its run if the label is
  present, the one cut of the labels if it is absent.  They speak of key indexes only.

  What one step of a descent means for the order of the keys is stated without any loop state:
  `Around` says that the query has reached a subset, `SplitAt` that the kept keys split into those
  below the query and those above it, and there is one lemma for each way a step can go
  (`Around.split_lt`, `split_gt`, `split_absent`, `Around.kid` with `kid_end` / `kid_next` for
  where the child starts, and at a single key `Around.single_lt`, `single_gt`).  The loop of
  `getGEPath` runs on the same lemmas.

  `searchLoop_all` is the one loop invariant, `At`: the bookkeeping for every query, and in its
  field `around` the order of the keys where the query can be compared (`Comparable`: runs stored,
  or the query is a key).  `searchID_post` reads its outcome once, behind the leaf comparison and the two final
  descents (`searchID_of_cands`, `sideL`, `sideR`): an interval `[a, b)` of key indexes with the
  leaves next to it (`LeftRes`, `RightResAt`, `IsLeafOf`), the `Cut` of the query where it is
  arbitrary with both kinds of prefixes stored, or a key — and `GetID`'s answer, which is the
  exact match: `GetID` runs the same loop (`Agree.getIDLoop_eq`, `getID_of_loop`), ends inside the
  key at a tail that is not empty, and there the two epilogues agree (`Agree.epi_agree`).
  `searchID_kept`, SlimProofs.RangeDropped, SlimProofs.Exact and SlimProofs.LookupTotal are its
  corollaries, for both lookups; `Agree.noOverrun_of_WF` reads the loop invariant alone (no
  ascent of the keys).
-/

namespace SearchDescent
open Subtree Agree
open Descent

/-! ### one iteration in a well-formed array -/

/-- what `setPrefix` has recorded for a run from `fb` to `ws` when inner prefixes are stored -/
theorem prefOf_complete (opt : Opt) (hin : opt.inner = true) (ks : List Nat) (fb ws : Nat)
    (hfb : fb ≤ ws) (hks : ws ≤ ks.length) :
    (prefOf opt ks fb ws = Pref.none ∧ ws = fb) ∨
    (prefOf opt ks fb ws = Pref.stored (storedPrefix ks fb ws) ∧
      fb - fb % 2 + (storedPrefix ks fb ws).length = ws ∧ fb < ws) := by
  by_cases h0 : ws - fb = 0
  · exact Or.inl ⟨by unfold prefOf; rw [if_pos h0],
      Nat.le_antisymm (Nat.le_of_sub_eq_zero h0) hfb⟩
  · exact Or.inr ⟨by unfold prefOf; rw [if_neg h0, if_pos hin], storedPrefix_end hfb hks,
      Nat.lt_of_sub_ne_zero h0⟩

/-- comparing the query with a stored prefix, from the byte that contains `fb`, compares the first
    `ws` half-bytes when the two agree before `fb` -/
theorem cmpUpto_storedPrefix (ks kn : List Nat) (fb ws : Nat)
    (hlen : fb - fb % 2 + (storedPrefix ks fb ws).length = ws)
    (hag : kn.take fb = ks.take fb) :
    cmpUpto (kn.drop (fb - fb % 2)) (storedPrefix ks fb ws) = lexCmp (kn.take ws) (ks.take ws) := by
  have := take_eq_of_le hag (Nat.sub_le fb (fb % 2))
  unfold cmpUpto
  rw [Nat.eq_sub_of_add_eq' hlen, ← List.drop_take]
  unfold storedPrefix
  symm
  apply lexCmp_drop
  rw [List.take_take, List.take_take, Nat.min_eq_left (Nat.le.intro hlen)]
  exact this

/-- how the run recorded by `prefOf` compares with a query entered at `fb`: compared only where
    runs are stored -/
def runCmp (opt : Opt) (ks kn : List Nat) (fb ws : Nat) : Ordering :=
  if opt.inner = true ∧ fb < ws then cmpUpto (kn.drop (fb - fb % 2)) (storedPrefix ks fb ws)
  else .eq

theorem runEnd_prefOf (opt : Opt) (ks kn : List Nat) (fb ws : Nat) (hfb : fb ≤ ws)
    (hlen : fb ≤ kn.length) (hks : ws ≤ ks.length) :
    runEnd (prefOf opt ks fb ws) kn fb = .ok (runCmp opt ks kn fb ws, ws) := by
  unfold prefOf runCmp
  by_cases h0 : ws - fb = 0
  · -- no run: `ws = fb`
    obtain rfl : ws = fb := Nat.le_antisymm (Nat.le_of_sub_eq_zero h0) hfb
    rw [if_pos h0, if_neg fun h => Nat.lt_irrefl _ h.2]; rfl
  · rw [if_neg h0]
    have hlt : fb < ws := Nat.lt_of_sub_ne_zero h0
    split
    · -- the run is stored
      next hin =>
      rw [if_pos ⟨hin, hlt⟩]
      simp only [runEnd]
      rw [if_neg (Nat.not_lt.mpr (Nat.div_le_div_right hlen)), storedPrefix_end hfb hks]
    · -- only the length of the run is recorded
      next hin =>
      rw [if_neg fun h => hin h.1]
      simp only [runEnd, Nat.add_sub_cancel' hfb]

/-- for a query that agrees with the keys before `fb` — and up to `ws`, where runs are not
    stored — the comparison is that of the first `ws` half-bytes -/
theorem runCmp_eq (opt : Opt) (ks kn : List Nat) (fb ws : Nat) (hfb : fb ≤ ws)
    (hks : ws ≤ ks.length) (hag : kn.take fb = ks.take fb)
    (hmode : opt.inner = true ∨ kn.take ws = ks.take ws) :
    runCmp opt ks kn fb ws = lexCmp (kn.take ws) (ks.take ws) := by
  unfold runCmp
  split
  · exact cmpUpto_storedPrefix ks kn fb ws (storedPrefix_end hfb hks) hag
  · next hn =>
    by_cases hlt : fb < ws
    · rw [hmode.resolve_left fun hin => hn ⟨hin, hlt⟩, lexCmp_self]
    · obtain rfl : ws = fb := Nat.le_antisymm (Nat.le_of_not_lt hlt) hfb
      rw [hag, lexCmp_self]

section seen
variable {keys : List Bytes} {keep : List Bool} {t : Trie1} {queue : Array Subset}
  {j : Nat} {o : Subset} {r : InnerRec} {ws : Nat}

/-- an inner node of a well-formed array, entered at the position of its subset by ANY query: the
    run ends at the branching position `ws` -/
theorem observe_inner (hsub : SubOK keys keep o) (F : InnerFacts keys keep t queue j o r ws)
    (hview : t.view.node j = .ok (.inner r)) (kn : List Nat) (hlen : o.fb ≤ kn.length) :
    observe t.view kn j o.fb =
      match runCmp t.opt (knOf keys o.s) kn o.fb ws with
      | .lt => .lt
      | .gt => .gt
      | .eq => if ws > kn.length then .over ws else branch r kn ws := by
  unfold observe
  rw [hview]
  simp only [seenInner]
  rw [F.pref, runEnd_prefOf t.opt _ kn o.fb ws F.fb_le hlen (F.pre o.s (Nat.le_refl _) hsub.lt).1]
  cases runCmp t.opt (knOf keys o.s) kn o.fb ws <;> rfl

theorem branch_present (F : InnerFacts keys keep t queue j o r ws) (kn : List Nat) {k : Nat}
    (hk : k < r.labels.length) (hkl : r.labels[k] = labelAt kn ws r.big) :
    branch r kn ws = if ws = kn.length then .last r ws k else .next r ws k := by
  unfold branch
  rw [labelIdxOfKey_eq_labelAt kn ws r.big fun hb => (F.big hb).1, ← hkl,
    rankLabels_getElem _ F.pw k hk, List.contains_iff_mem.mpr (List.getElem_mem hk)]
  rfl

theorem branch_absent (F : InnerFacts keys keep t queue j o r ws) (kn : List Nat)
    (hmem : labelAt kn ws r.big ∉ r.labels) :
    branch r kn ws = .absent r ws (rankLabels r.labels (labelAt kn ws r.big)) := by
  unfold branch
  rw [labelIdxOfKey_eq_labelAt kn ws r.big fun hb => (F.big hb).1]
  cases hc : r.labels.contains (labelAt kn ws r.big)
  · rfl
  · exact absurd (List.contains_iff_mem.mp hc) hmem

end seen

/-! ### the bookkeeping of the left and right candidates -/

/-- `lID` designates the subtree that holds the nearest kept key below `s`
    (`none`: there is no kept key below `s`) -/
def LeftOK (keep : List Bool) (queue : Array Subset) (lID : Option Nat) (s : Nat) : Prop :=
  match lID with
  | none => ∀ t, t < s → keptAt keep t = false
  | some j' => ∃ o', queue[j']? = some o' ∧ o'.e ≤ s ∧
      ∀ t, o'.e ≤ t → t < s → keptAt keep t = false

/-- `rID` designates the subtree that holds the nearest kept key at or above `e`
    (`none`: there is no kept key in `[e, n)`) -/
def RightOK (keep : List Bool) (n : Nat) (queue : Array Subset) (rID : Option Nat) (e : Nat) :
    Prop :=
  match rID with
  | none => ∀ t, e ≤ t → t < n → keptAt keep t = false
  | some j' => ∃ o', queue[j']? = some o' ∧ e ≤ o'.s ∧
      ∀ t, e ≤ t → t < o'.s → keptAt keep t = false

theorem LeftOK.extend {keep : List Bool} {queue : Array Subset} {lID : Option Nat} {s a : Nat}
    (hl : LeftOK keep queue lID s) (hsa : s ≤ a)
    (hgap : ∀ t, s ≤ t → t < a → keptAt keep t = false) : LeftOK keep queue lID a := by
  cases lID with
  | none => exact fun t h => gap_append (fun t _ => hl t) hgap t (Nat.zero_le t) h
  | some j' =>
    obtain ⟨o', h1, h2, h3⟩ := hl
    exact ⟨o', h1, Nat.le_trans h2 hsa, gap_append h3 hgap⟩

theorem RightOK.extend {keep : List Bool} {n : Nat} {queue : Array Subset} {rID : Option Nat}
    {e a : Nat} (hr : RightOK keep n queue rID e) (hae : a ≤ e)
    (hgap : ∀ t, a ≤ t → t < e → keptAt keep t = false) : RightOK keep n queue rID a := by
  cases rID with
  | none => exact gap_append hgap hr
  | some j' =>
    obtain ⟨o', h1, h2, h3⟩ := hr
    exact ⟨o', h1, Nat.le_trans hae h2, gap_append hgap h3⟩

theorem LeftOK.here {keep : List Bool} {queue : Array Subset} {id : Nat} {o : Subset}
    (h : queue[id]? = some o) : LeftOK keep queue (some id) o.e :=
  ⟨o, h, Nat.le_refl _, fun _ h1 h2 => absurd h2 (Nat.not_lt.mpr h1)⟩

theorem RightOK.here {keep : List Bool} {n : Nat} {queue : Array Subset} {id : Nat} {o : Subset}
    (h : queue[id]? = some o) : RightOK keep n queue (some id) o.s :=
  ⟨o, h, Nat.le_refl _, fun _ h1 h2 => absurd h2 (Nat.not_lt.mpr h1)⟩

section cand
variable {keys : List Bytes} {keep : List Bool} {t : Trie1} {queue : Array Subset}
  {j : Nat} {o : Subset} {r : InnerRec} {ws : Nat}

/-- the left candidate at a cut below which lie the keys of the first `rk` labels: the child of
    label `rk - 1`, or the candidate so far if there is none -/
theorem left_cand (F : InnerFacts keys keep t queue j o r ws) (lID : Option Nat) {x a rk : Nat}
    (hcut : IsCut (labelOf keys ws r.big) o.s o.e x a) (hrank : IsRank r.labels x rk)
    (hrk : rk ≤ r.labels.length) (hl : LeftOK keep queue lID o.s) :
    LeftOK keep queue (if 1 ≤ rk then some (r.firstChild + rk - 1) else lID) a := by
  cases rk with
  | zero =>
    rw [if_neg (Nat.not_succ_le_zero 0)]
    exact hl.extend hcut.1 (cut_left_none (kept := keptAt keep) F.labels hcut hrank)
  | succ k =>
    rw [if_pos (Nat.le_add_left 1 k)]
    obtain ⟨c, hc, _, hrun⟩ := F.run k hrk
    exact ⟨c, hc, hrun.ce.le hcut ((hrank k hrk).mpr (Nat.lt_succ_self k)),
      cut_gap (kept := keptAt keep) F.labels hrun.ce hcut (isRank_succ F.pw hrk) hrank⟩

/-- the right candidate at such a cut: the child of label `rk`, or the candidate so far -/
theorem right_cand (F : InnerFacts keys keep t queue j o r ws) (rID : Option Nat) {x a rk : Nat}
    (hcut : IsCut (labelOf keys ws r.big) o.s o.e x a) (hrank : IsRank r.labels x rk)
    (hrk : rk ≤ r.labels.length) (hr : RightOK keep keys.length queue rID o.e) :
    RightOK keep keys.length queue
      (if rk < r.labels.length then some (r.firstChild + rk) else rID) a := by
  by_cases h : rk < r.labels.length
  · rw [if_pos h]
    obtain ⟨c, hc, _, hrun⟩ := F.run rk h
    exact ⟨c, hc,
      hcut.le hrun.cs (Nat.le_of_not_lt fun hlt => Nat.lt_irrefl rk ((hrank rk h).mp hlt)),
      cut_gap (kept := keptAt keep) F.labels hcut hrun.cs hrank (isRank_getElem F.pw h)⟩
  · rw [if_neg h]
    have hrkL : rk = r.labels.length := Nat.le_antisymm hrk (Nat.le_of_not_lt h)
    subst hrkL
    exact hr.extend hcut.2.1 (cut_right_none (kept := keptAt keep) F.labels hcut hrank)

end cand

/-! ### one step of the descent, in terms of the order of the keys -/

/-- node `id` is the leaf of key `m` -/
def IsLeafOf (t : Trie1) (id m : Nat) : Prop :=
  ∃ ith lp, t.nodes[id]? = some (.leaf ith lp) ∧ t.leafKeyIdx[ith]? = some m

def KLt (keys : List Bytes) (kn : List Nat) (t : Nat) : Prop := lexCmp (knOf keys t) kn = .lt
def KGt (keys : List Bytes) (kn : List Nat) (t : Nat) : Prop := lexCmp kn (knOf keys t) = .lt

/-- the query `kn` has reached subset `o`: it agrees with the keys of `o` before `o.fb`, the kept
    keys left of `o` are below it and those right of `o` above it, and a key equal to it lies
    in `o` -/
structure Around (keys : List Bytes) (keep : List Bool) (kn : List Nat) (o : Subset) : Prop where
  fbl : o.fb ≤ kn.length
  agree : (knOf keys o.s).take o.fb = kn.take o.fb
  below : ∀ t', t' < o.s → keptAt keep t' = true → KLt keys kn t'
  above : ∀ t', o.e ≤ t' → t' < keys.length → keptAt keep t' = true → KGt keys kn t'
  holds : ∀ d, d < keys.length → knOf keys d = kn → o.s ≤ d ∧ d < o.e

/-- the kept keys split at `a` into those below the query and those above it -/
def SplitAt (keys : List Bytes) (keep : List Bool) (kn : List Nat) (a : Nat) : Prop :=
  a ≤ keys.length ∧ (∀ t', t' < a → keptAt keep t' = true → KLt keys kn t') ∧
    ∀ t', a ≤ t' → t' < keys.length → keptAt keep t' = true → KGt keys kn t'

theorem Around.root (keys : List Bytes) (keep : List Bool) (kn : List Nat) :
    Around keys keep kn { s := 0, e := keys.length, fb := 0 } :=
  ⟨Nat.zero_le _, rfl, fun _ h => absurd h (Nat.not_lt_zero _),
    fun _ h1 h2 => absurd h2 (Nat.not_lt.mpr h1), fun _ hd _ => ⟨Nat.zero_le _, hd⟩⟩

section step
variable {keys : List Bytes} {keep : List Bool} {t : Trie1} {queue : Array Subset}
  {j : Nat} {o : Subset} {r : InnerRec} {ws : Nat} {kn : List Nat}

/-- the query is below the common prefix of the subset: below all its keys -/
theorem Around.split_lt (A : Around keys keep kn o) (F : InnerFacts keys keep t queue j o r ws)
    (hsub : SubOK keys keep o)
    (hc : lexCmp (kn.take ws) ((knOf keys o.s).take ws) = .lt) : SplitAt keys keep kn o.s := by
  refine ⟨Nat.le_trans (Nat.le_of_lt hsub.lt) hsub.le, A.below, ?_⟩
  intro t' h3 h4 h5
  by_cases h6 : t' < o.e
  · apply lexCmp_take_lt ws
    rw [(F.pre t' h3 h6).2]; exact hc
  · exact A.above t' (Nat.le_of_not_lt h6) h4 h5

/-- the query is above the common prefix of the subset: above all its keys -/
theorem Around.split_gt (A : Around keys keep kn o) (F : InnerFacts keys keep t queue j o r ws)
    (hsub : SubOK keys keep o)
    (hc : lexCmp (kn.take ws) ((knOf keys o.s).take ws) = .gt) : SplitAt keys keep kn o.e := by
  refine ⟨hsub.le, ?_, A.above⟩
  intro t' h3 h5
  by_cases h6 : t' < o.s
  · exact A.below t' h6 h5
  · apply lexCmp_take_gt ws kn
    rw [(F.pre t' (Nat.le_of_not_lt h6) h3).2]; exact hc

/-- the query can branch at an inner node of a well-formed array -/
theorem _root_.Subtree.InnerFacts.words (F : InnerFacts keys keep t queue j o r ws)
    (hkn16 : ∀ x ∈ kn, x < 16) (hkne : kn.length % 2 = 0) : Words r.big ws kn :=
  ⟨hkn16, fun hb => ⟨hkne, (F.big hb).1⟩⟩

theorem klt_of_label (F : InnerFacts keys keep t queue j o r ws) (hkn : Words r.big ws kn)
    (htk : kn.take ws = (knOf keys o.s).take ws) (t' : Nat) (h1 : o.s ≤ t') (h2 : t' < o.e)
    (hl : labelOf keys ws r.big t' < labelAt kn ws r.big) : KLt keys kn t' :=
  lt_of_label_lt (.knOf keys t' fun hb => (hkn.even hb).2) hkn
    ((F.pre t' h1 h2).2.trans htk.symm) hl

theorem kgt_of_label (F : InnerFacts keys keep t queue j o r ws) (hkn : Words r.big ws kn)
    (htk : kn.take ws = (knOf keys o.s).take ws) (t' : Nat) (h1 : o.s ≤ t') (h2 : t' < o.e)
    (hl : labelAt kn ws r.big < labelOf keys ws r.big t') : KGt keys kn t' :=
  lt_of_label_lt hkn (.knOf keys t' fun hb => (hkn.even hb).2)
    (htk.trans (F.pre t' h1 h2).2.symm) hl

/-- the query agrees with the common prefix but its label is absent: the kept keys split at the
    cut of the labels -/
theorem Around.split_absent (A : Around keys keep kn o)
    (F : InnerFacts keys keep t queue j o r ws) (hsub : SubOK keys keep o)
    (hkn : Words r.big ws kn) (htk : kn.take ws = (knOf keys o.s).take ws)
    (hmem : labelAt kn ws r.big ∉ r.labels) {a : Nat}
    (hcut : IsCut (labelOf keys ws r.big) o.s o.e (labelAt kn ws r.big) a) :
    SplitAt keys keep kn a := by
  obtain ⟨h1, h2, h3, h4⟩ := hcut
  refine ⟨Nat.le_trans h2 hsub.le, ?_, ?_⟩
  · intro t' h5 h6
    by_cases h7 : t' < o.s
    · exact A.below t' h7 h6
    · exact klt_of_label F hkn htk t' (Nat.le_of_not_lt h7) (Nat.lt_of_lt_of_le h5 h2)
        (h3 t' (Nat.le_of_not_lt h7) h5)
  · intro t' h5 h6 h7
    by_cases h8 : t' < o.e
    · have h9 : o.s ≤ t' := Nat.le_trans h1 h5
      -- the label of a kept key is a label of the node, so it is not the query's
      have hne : labelAt kn ws r.big ≠ labelOf keys ws r.big t' := fun he =>
        hmem (he ▸ F.labels t' h9 h8 h7)
      exact kgt_of_label F hkn htk t' h9 h8 (Nat.lt_of_le_of_ne (h4 t' h5 h8) hne)
    · exact A.above t' (Nat.le_of_not_lt h8) h6 h7

/-- the query agrees with the common prefix and its label is the `k`-th label: it has reached
    the `k`-th child, in front of which the keys of the subset carry smaller labels and behind it
    greater ones -/
theorem Around.kid (A : Around keys keep kn o) (F : InnerFacts keys keep t queue j o r ws)
    (hkn : Words r.big ws kn)
    (htk : kn.take ws = (knOf keys o.s).take ws) {k : Nat} {hk : k < r.labels.length}
    (hkl : r.labels[k] = labelAt kn ws r.big) {c : Subset}
    (hcfb : c.fb = ws + labelLen r.labels[k] r.big)
    (hrun : RunOK (labelOf keys ws r.big) o.s o.e (r.labels[k], c.s, c.e)) :
    Around keys keep kn c := by
  have hbw : r.big = true → ws % 2 = 0 := fun hb => (F.big hb).1
  have hkne : r.big = true → kn.length % 2 = 0 := fun hb => (hkn.even hb).1
  have hcs := hrun.ge
  have hcso : c.s < o.e := Nat.lt_of_lt_of_le hrun.lt hrun.le
  have hwsl : ws ≤ kn.length :=
    le_length_of_take_eq htk (F.pre o.s (Nat.le_refl _) (Nat.lt_of_le_of_lt hcs hcso)).1
  rw [hkl] at hcfb
  refine ⟨?_, ?_, ?_, ?_, ?_⟩
  · rw [hcfb]
    exact label_long hkne hbw hwsl
  · rw [hcfb]
    exact (take_label_eq hkn (.knOf keys c.s hbw) (htk.trans (F.pre c.s hcs hcso).2.symm)
      (hkl.symm.trans hrun.lab_s.symm)).symm
  · intro t' h3 h5
    by_cases h6 : t' < o.s
    · exact A.below t' h6 h5
    · exact klt_of_label F hkn htk t' (Nat.le_of_not_lt h6) (Nat.lt_trans h3 hcso)
        (hkl ▸ hrun.cs.2.2.1 t' (Nat.le_of_not_lt h6) h3)
  · intro t' h3 h4 h5
    by_cases h6 : t' < o.e
    · exact kgt_of_label F hkn htk t'
        (Nat.le_trans hcs (Nat.le_trans (Nat.le_of_lt hrun.lt) h3)) h6
        (hkl ▸ Nat.lt_of_succ_le (hrun.ce.2.2.2 t' h3 h6))
    · exact A.above t' (Nat.le_of_not_lt h6) h4 h5
  · intro d hd hdk
    obtain ⟨hd1, hd2⟩ := A.holds d hd hdk
    apply (hrun.iff d hd1 hd2).mpr
    rw [hkl, ← hdk]; rfl

/-- the query ends at the branching position and its label (0) is the `k`-th: among strictly
    ascending keys at most one ends there, so child `k` is that key, with no tail left -/
theorem kid_end (F : InnerFacts keys keep t queue j o r ws) (hsub : SubOK keys keep o)
    (hasc : strictAsc keys = true) {k : Nat} {hk : k < r.labels.length}
    (hkl : r.labels[k] = labelAt kn ws r.big) (hwl : ws = kn.length) {c : Subset}
    (hcfb : c.fb = ws + labelLen r.labels[k] r.big)
    (hrun : RunOK (labelOf keys ws r.big) o.s o.e (r.labels[k], c.s, c.e)) :
    c.e = c.s + 1 ∧ ws = c.fb ∧ leafPrefOf t.opt (keys.getD c.s []) c.fb = none := by
  have hl0 : r.labels[k] = 0 := hkl.trans (labelAt_eq_zero_iff.mpr (Nat.le_of_eq hwl.symm))
  have hcws : ws = c.fb := by rw [hcfb, hl0]; rfl
  have hone : c.e ≤ c.s + 1 :=
    label0_single hasc hsub.le (fun t' h1 h2 => (F.pre t' h1 h2).2) hrun.ge hrun.le
      (fun t' h1 h2 =>
        ((hrun.iff t' (Nat.le_trans hrun.ge h1) (Nat.lt_of_lt_of_le h2 hrun.le)).mp
          ⟨h1, h2⟩).trans hl0)
  have hlen : (knOf keys c.s).length ≤ ws := labelAt_eq_zero_iff.mp (hrun.lab_s.trans hl0)
  exact ⟨Nat.le_antisymm hone hrun.lt, hcws, leafPrefOf_end _ _ _ (hcws ▸
    Nat.le_antisymm (F.pre c.s hrun.ge (Nat.lt_of_lt_of_le hrun.lt hrun.le)).1 hlen)⟩

/-- the query goes on behind the branching position: child `k` starts one word further -/
theorem kid_next {k : Nat} {hk : k < r.labels.length} (hkl : r.labels[k] = labelAt kn ws r.big)
    (hlt : ws < kn.length) {c : Subset} (hcfb : c.fb = ws + labelLen r.labels[k] r.big) :
    ws + wordSize r.big = c.fb := by
  rw [hcfb, labelLen_of_ne_zero r.big (hkl ▸ labelAt_ne_zero hlt)]

/-- a subset of one key belongs to the leaf of that key, which is kept -/
theorem leaf_of_single (h : QOK keys keep t queue) {id : Nat} {om : Subset}
    (hq : queue[id]? = some om)
    (hone : om.e = om.s + 1) :
    IsLeafOf t id om.s ∧ keptAt keep om.s = true ∧ om.s < keys.length := by
  obtain ⟨hsub, nd, _, hnd, hnode⟩ := h.view hq
  cases nd with
  | leaf ith lp =>
    exact ⟨⟨ith, lp, hnd, hnode.2.1⟩, hsub.single hone, Nat.lt_of_lt_of_le hsub.lt hsub.le⟩
  | inner r =>
    -- an inner node has at least two keys
    exact absurd (Nat.le_trans hnode.1 (Nat.le_of_eq hone)) (Nat.not_succ_le_self _)

theorem Around.single_lt (A : Around keys keep kn o) (hone : o.e = o.s + 1)
    (hlt : o.s < keys.length) (hc : KGt keys kn o.s) : SplitAt keys keep kn o.s := by
  refine ⟨Nat.le_of_lt hlt, A.below, ?_⟩
  intro t' h1 h2 h3
  rcases Nat.eq_or_lt_of_le h1 with h4 | h4
  · rw [← h4]; exact hc
  · exact A.above t' (by rw [hone]; exact h4) h2 h3

theorem Around.single_gt (A : Around keys keep kn o) (hone : o.e = o.s + 1)
    (hlt : o.s < keys.length) (hc : KLt keys kn o.s) : SplitAt keys keep kn o.e := by
  refine ⟨by rw [hone]; exact hlt, ?_, A.above⟩
  intro t' h1 h2
  rw [hone] at h1
  rcases Nat.eq_or_lt_of_le (Nat.le_of_lt_succ h1) with h3 | h3
  · rw [h3]; exact hc
  · exact A.below t' h3 h2

end step

/-! ### the loop invariant -/

/-- the query can be compared with the keys along its descent: the runs are stored, or it is one
    of the keys (and so matches every run on its way) -/
def Comparable (keys : List Bytes) (t : Trie1) (kn : List Nat) : Prop :=
  t.opt.inner = true ∨ ∃ d, d < keys.length ∧ knOf keys d = kn

/-- the loop is at node `id` with subset `o`.  For every query the position is that of `o`,
    inside the query, and the candidates are the subtrees next to `o` (`LeftOK` / `RightOK` speak
    of key indexes only, so this much needs nothing of the query); where the query can be
    compared, it has reached `o` -/
structure At (keys : List Bytes) (keep : List Bool) (t : Trie1) (queue : Array Subset)
    (kn : List Nat) (st : SearchSt) (id : Nat) (o : Subset) : Prop where
  sub : queue[id]? = some o
  i : st.i = o.fb
  fbl : o.fb ≤ kn.length
  left : LeftOK keep queue st.lID o.s
  right : RightOK keep keys.length queue st.rID o.e
  around : Comparable keys t kn → Around keys keep kn o

/-- The loop of `searchID` from node `j` with subset `o`, for ANY query in any mode, returns in one
    of two ways.
    * No candidate: `eqID = none`, and `lID` / `rID` are right (`LeftOK` / `RightOK`) for one index
      `a`, at which the kept keys split where the query can be compared (`Comparable`).
    * Candidate: `eqID = some id` and the state is `At … id om` (so a query that can be compared
      has reached `om`: `At.around`), where `id` is the leaf the loop stopped at or, when the query
      ends at the branch of an inner node (the `i = l` shortcut, label 0), the child behind that
      label; if the keys ascend strictly `om` is a single key and `lp` its leaf prefix. -/
theorem searchLoop_all {keys : List Bytes} {keep : List Bool} {t : Trie1}
    {queue : Array Subset} (h : QOK keys keep t queue)
    (kn : List Nat) (hkn16 : ∀ x ∈ kn, x < 16) (hkne : kn.length % 2 = 0) :
    ∀ fuel j, j < t.nodes.size → t.nodes.size < j + fuel → ∀ o st,
      At keys keep t queue kn st j o → st.lp = none →
      ∃ st', searchLoop t.view kn fuel st j = .ok st' ∧
        ((st'.eqID = none ∧ ∃ a, LeftOK keep queue st'.lID a ∧
            RightOK keep keys.length queue st'.rID a ∧
            (Comparable keys t kn → SplitAt keys keep kn a)) ∨
          ∃ id om, st'.eqID = some id ∧ At keys keep t queue kn st' id om ∧
            (strictAsc keys = true → om.e = om.s + 1 ∧
              st'.lp = leafPrefOf t.opt (keys.getD om.s []) om.fb)) := by
  refine fuel_descent fun fuel j ih _ o st G hlp => ?_
  obtain ⟨hsub, nd, hview, _, hnode⟩ := h.view G.sub
  rw [searchLoop_seen, G.i]
  cases nd with
  | leaf ith lp =>
    rw [observe_leaf kn _ hview]
    exact ⟨_, rfl, Or.inr ⟨j, o, rfl, ⟨G.sub, G.i, G.fbl, G.left, G.right, G.around⟩,
      fun _ => ⟨hnode.1, hnode.2.2⟩⟩⟩
  | inner r =>
    obtain ⟨ws, F⟩ := inner_facts h hsub hnode.2
    have hks : ws ≤ (knOf keys o.s).length := (F.pre o.s (Nat.le_refl _) hsub.lt).1
    rw [observe_inner hsub F hview kn G.fbl]
    -- where the query can be compared, the comparison is that of the first `ws` half-bytes: a
    -- query that is a key of the subset matches the run up to `ws`
    have hcmp : Comparable keys t kn →
        runCmp t.opt (knOf keys o.s) kn o.fb ws = lexCmp (kn.take ws) ((knOf keys o.s).take ws) :=
      fun hc => have A := G.around hc
        runCmp_eq _ _ _ _ _ F.fb_le hks A.agree.symm (hc.imp id fun ⟨d, hd, hdk⟩ =>
          hdk ▸ (F.pre d (A.holds d hd hdk).1 (A.holds d hd hdk).2).2)
    cases hc : runCmp t.opt (knOf keys o.s) kn o.fb ws with
    | lt =>
      exact ⟨_, rfl, Or.inl ⟨rfl, o.s, G.left, RightOK.here G.sub,
        fun hq => (G.around hq).split_lt F hsub ((hcmp hq).symm.trans hc)⟩⟩
    | gt =>
      exact ⟨_, rfl, Or.inl ⟨rfl, o.e, LeftOK.here G.sub, G.right,
        fun hq => (G.around hq).split_gt F hsub ((hcmp hq).symm.trans hc)⟩⟩
    | eq =>
      have htk : Comparable keys t kn → kn.take ws = (knOf keys o.s).take ws :=
        fun hq => lexCmp_eq_iff.mp ((hcmp hq).symm.trans hc)
      simp only
      by_cases hwsl : ws > kn.length
      · -- the recorded run leads beyond the query: the node becomes the right candidate; a query
        -- that matches the run is at least as long
        rw [if_pos hwsl]
        exact ⟨_, rfl, Or.inl ⟨rfl, o.s, G.left, RightOK.here G.sub, fun hq =>
          absurd (le_length_of_take_eq (htk hq) hks) (Nat.not_le.mpr hwsl)⟩⟩
      rw [if_neg hwsl]
      have hwsl := Nat.le_of_not_lt hwsl
      by_cases hmem : labelAt kn ws r.big ∈ r.labels
      · -- the label of the query is the `k`-th label: the loop is at child `k` next
        obtain ⟨k, hk, hkl⟩ := List.mem_iff_getElem.mp hmem
        obtain ⟨c, hqc, hcfb, hrun⟩ := F.run k hk
        have hcl : c.fb ≤ kn.length := by
          rw [hcfb, hkl]
          exact label_long (fun _ => hkne) (fun hb => (F.big hb).1) hwsl
        have G' : ∀ i' e, i' = c.fb → At keys keep t queue kn
            { srDown st r ws k 1 with i := i', eqID := e } (r.firstChild + k) c := fun i' e hi' =>
          ⟨hqc, hi', hcl,
            left_cand F st.lID hrun.cs (isRank_getElem F.pw hk) (Nat.le_of_lt hk) G.left,
            right_cand F st.rID hrun.ce (isRank_succ F.pw hk) hk G.right,
            fun hq => (G.around hq).kid F (F.words hkn16 hkne) (htk hq) hkl hcfb hrun⟩
        rw [branch_present F kn hk hkl]
        by_cases hwl : ws = kn.length
        · -- the query ends here: label 0, behind which child `k` starts at `ws`; among strictly
          -- ascending keys it is one key
          rw [if_pos hwl]
          have hcws : ws = c.fb := by
            rw [hcfb, hkl.trans (labelAt_eq_zero_iff.mpr (Nat.le_of_eq hwl.symm))]; rfl
          exact ⟨_, rfl, Or.inr ⟨_, c, rfl, G' ws _ hcws, fun hasc =>
            have ⟨hone, _, hlpc⟩ := kid_end F hsub hasc hkl hwl hcfb hrun
            ⟨hone, hlp.trans hlpc.symm⟩⟩⟩
        · rw [if_neg hwl]
          exact ih (r.firstChild + k) (Nat.lt_add_right k F.fc) (h.lt hqc)
            c _ (G' _ _ (kid_next hkl (Nat.lt_of_le_of_ne hwsl hwl) hcfb)) hlp
      · -- the label of the query is absent: the loop ends at the cut of the labels
        obtain ⟨a, hcut⟩ := mono_cut (labelOf keys ws r.big) o.s (labelAt kn ws r.big) o.e
          (Nat.le_of_lt hsub.lt) F.mono
        rw [branch_absent F kn hmem]
        have hrank := isRank_rank F.pw (labelAt kn ws r.big)
        exact ⟨_, rfl, Or.inl ⟨rfl, a,
          left_cand F st.lID hcut hrank (rank_le _ _) G.left,
          right_cand F st.rID hcut hrank (rank_le _ _) G.right,
          fun hq => (G.around hq).split_absent F hsub (F.words hkn16 hkne) (htk hq) hmem hcut⟩⟩

/-! ### the tail of `searchID` -/

/-- the final descent on the left candidate -/
def sideL (v : View) (lID : Option Nat) : Except Err (Option Nat) :=
  match lID with
  | none => pure none
  | some id => do pure (some (← rightMost v (v.nodeCnt + 1) id))

/-- the final descent on the right candidate -/
def sideR (v : View) (rID : Option Nat) : Except Err (Option Nat) :=
  match rID with
  | none => pure none
  | some id => do pure (some (← leftMost v (v.nodeCnt + 1) id))

theorem srTail_eq (v : View) (st : SearchSt) :
    srTail v st =
      sideL v st.lID >>= fun l => sideR v st.rID >>= fun r => pure (l, st.eqID, r) := by
  unfold srTail sideL sideR
  -- the same two descents on both sides, with the binds nested differently
  cases st.lID <;> cases st.rID <;> simp only [bind_assoc, pure_bind]

theorem searchID_of_loop (t : Trie1) (hpos : 0 < t.nodes.size) (q : Bytes) (st : SearchSt)
    (l r : Option Nat)
    (hloop : searchLoop t.view (nibs q) (t.view.nodeCnt + 1) {} 0 = .ok st)
    (hl : sideL t.view (srEpi t.view q st).lID = .ok l)
    (hr : sideR t.view (srEpi t.view q st).rID = .ok r) :
    searchID t.view q = .ok (l, (srEpi t.view q st).eqID, r) := by
  rw [searchID_eq, view_nonempty hpos, hloop]
  show srTail _ _ = _
  rw [srTail_eq, hl, hr]
  rfl

/-- the left component of `searchID` on key `m`: the leaf of the greatest kept key below `m` -/
def LeftRes (keep : List Bool) (t : Trie1) (m : Nat) (l : Option Nat) : Prop :=
  match l with
  | none => ∀ t', t' < m → keptAt keep t' = false
  | some id => ∃ ml, IsLeafOf t id ml ∧ IsMaxKept keep 0 m ml

/-- the right component of `searchID` on key `m`: the leaf of the smallest kept key above `m` -/
def RightRes (keep : List Bool) (n : Nat) (t : Trie1) (m : Nat) (r : Option Nat) : Prop :=
  match r with
  | none => ∀ t', m < t' → t' < n → keptAt keep t' = false
  | some id => ∃ mr, IsLeafOf t id mr ∧ IsMinKept keep (m + 1) n mr

theorem sideL_spec {keys : List Bytes} {keep : List Bool} {t : Trie1} {queue : Array Subset}
    (h : QOK keys keep t queue) (lID : Option Nat) (m : Nat) (hL : LeftOK keep queue lID m) :
    ∃ l, sideL t.view lID = .ok l ∧ LeftRes keep t m l := by
  cases lID with
  | none => exact ⟨none, rfl, hL⟩
  | some j' =>
    obtain ⟨o', h1, h2, h3⟩ := hL
    obtain ⟨id, ith, lp, ml, hrm, hnd, hidx, hm1, hm2, hm3, hm4⟩ :=
      (most_node h (t.nodes.size + 1) j' (h.lt h1) (Nat.lt_succ_of_le (Nat.le_add_left _ _)) o' h1).1
    exact ⟨some id, congrArg (· >>= fun x => pure (some x)) hrm, ml, ⟨ith, lp, hnd, hidx⟩,
      Nat.zero_le _, Nat.lt_of_lt_of_le hm2 h2, hm3, gap_append hm4 h3⟩

/-- the right component, for a position `b`: the leaf of the smallest kept key from `b` on -/
def RightResAt (keep : List Bool) (n : Nat) (t : Trie1) (b : Nat) (r : Option Nat) : Prop :=
  match r with
  | none => ∀ t', b ≤ t' → t' < n → keptAt keep t' = false
  | some id => ∃ mr, IsLeafOf t id mr ∧ IsMinKept keep b n mr

theorem RightResAt.succ {keep : List Bool} {n : Nat} {t : Trie1} {m : Nat} {r : Option Nat}
    (h : RightResAt keep n t (m + 1) r) : RightRes keep n t m r := by
  cases r <;> exact h

theorem sideR_spec {keys : List Bytes} {keep : List Bool} {t : Trie1} {queue : Array Subset}
    (h : QOK keys keep t queue) (rID : Option Nat) (b : Nat)
    (hR : RightOK keep keys.length queue rID b) :
    ∃ r, sideR t.view rID = .ok r ∧ RightResAt keep keys.length t b r := by
  cases rID with
  | none => exact ⟨none, rfl, hR⟩
  | some j' =>
    obtain ⟨o', h1, h2, h3⟩ := hR
    have hle := (h.view h1).1.le
    obtain ⟨id, ith, lp, mr, hrm, hnd, hidx, hm1, hm2, hm3, hm4⟩ :=
      (most_node h (t.nodes.size + 1) j' (h.lt h1) (Nat.lt_succ_of_le (Nat.le_add_left _ _)) o' h1).2
    exact ⟨some id, congrArg (· >>= fun x => pure (some x)) hrm, mr, ⟨ith, lp, hnd, hidx⟩,
      Nat.le_trans h2 hm1, Nat.lt_of_lt_of_le hm2 hle, hm3, gap_append h3 hm4⟩

/-- without exact-match candidate there is no leaf comparison -/
theorem srEpi_none (v : View) (key : Bytes) (st : SearchSt) (h : st.eqID = none) :
    srEpi v key st = st := by
  unfold srEpi; rw [h]

/-- `searchID` from the state behind its loop and leaf comparison, whose candidates are right
    for the positions `a` and `b` -/
theorem searchID_of_cands {keys : List Bytes} {keep : List Bool} {t : Trie1}
    {queue : Array Subset} (h : QOK keys keep t queue) (hpos : 0 < t.nodes.size) (q : Bytes)
    (st : SearchSt) (hloop : searchLoop t.view (nibs q) (t.view.nodeCnt + 1) {} 0 = .ok st)
    {a b : Nat} (hL : LeftOK keep queue (srEpi t.view q st).lID a)
    (hR : RightOK keep keys.length queue (srEpi t.view q st).rID b) :
    ∃ l r, searchID t.view q = .ok (l, (srEpi t.view q st).eqID, r) ∧
      LeftRes keep t a l ∧ RightResAt keep keys.length t b r := by
  obtain ⟨l, hl, hlres⟩ := sideL_spec h _ a hL
  obtain ⟨r, hr, hrres⟩ := sideR_spec h _ b hR
  exact ⟨l, r, searchID_of_loop t hpos q st l r hloop hl hr, hlres, hrres⟩

/-- a stored leaf tail is the key from the byte that contains half-byte `i` on (`none` stands for
    the empty tail) -/
theorem leafPrefOf_getD (opt : Opt) (hleaf : opt.leaf = true) (key : Bytes) (i : Nat) :
    (leafPrefOf opt key i).getD [] = key.drop (i / 2) := by
  unfold leafPrefOf
  rw [hleaf]
  cases key.drop (i / 2) <;> rfl

theorem cmpLeafPrefix_self (t : Trie1) (key : Bytes) (i : Nat) :
    cmpLeafPrefix t.view (key.drop (i / 2)) (leafPrefOf t.opt key i) = .eq :=
  (cmpLeafPrefix_eq_iff _ _ _).mpr fun hleaf => (leafPrefOf_getD t.opt hleaf key i).symm

theorem cmpBytes_tails (q key : Bytes) (i : Nat)
    (hag : (nibs q).take i = (nibs key).take i) :
    cmpBytes (q.drop (i / 2)) (key.drop (i / 2)) = lexCmp (nibs q) (nibs key) := by
  unfold cmpBytes
  rw [← lexCmp_nibs, nibs_drop, nibs_drop]
  symm
  apply lexCmp_drop
  exact take_eq_of_le hag (Nat.mul_div_le i 2)

/-- with leaf tails stored, `cmpLeafPrefix` against the tail recorded for `key` at half-byte `i`
    compares the whole keys, given that they agree before `i` -/
theorem cmpLeafPrefix_exact (t : Trie1) (hleaf : t.opt.leaf = true) (q key : Bytes) (i : Nat)
    (hag : (nibs key).take i = (nibs q).take i) :
    cmpLeafPrefix t.view (q.drop (i / 2)) (leafPrefOf t.opt key i) = lexCmp (nibs q) (nibs key) := by
  unfold cmpLeafPrefix
  show (if t.opt.leaf = true then _ else _) = _
  rw [if_pos hleaf, leafPrefOf_getD t.opt hleaf]
  exact cmpBytes_tails q key i hag.symm

/-! ### the epilogue of `GetID` -/

theorem idEpi_ok (v : View) (key : Bytes) (r : Reached) (h : r.i ≤ (nibs key).length) :
    ∃ a, idEpi v key r = .ok a := by
  -- the only panic is a tail that starts behind the key
  have hdiv : ¬ r.i / 2 > (nibs key).length / 2 := Nat.not_lt.mpr (Nat.div_le_div_right h)
  unfold idEpi
  cases v.leafPrefixesOn with
  | false => exact ⟨_, rfl⟩
  | true =>
    by_cases hi : r.i = (nibs key).length
    · exact ⟨_, by rw [if_pos rfl, if_pos hi]⟩
    · cases r.lp with
      | none => exact ⟨_, by rw [if_pos rfl, if_neg hi]⟩
      | some lp => exact ⟨_, by rw [if_pos rfl, if_neg hi]; exact if_neg hdiv⟩

theorem idEpi_id (v : View) (key : Bytes) (r : Reached) (id : Nat)
    (h : idEpi v key r = .ok (some id)) : id = r.id := by
  cases hon : v.leafPrefixesOn with
  | false => rw [idEpi_off hon] at h; cases h; rfl
  | true =>
    have := idEpi_on hon h
    split at this
    · cases this; rfl
    · cases this

end SearchDescent

/-- `q` sits at `[a, b)` among the kept keys: the kept keys before `a` are below it, those from
    `b` on above it, and `[a, b)` is empty or the one kept key equal to `q` -/
structure Cut (keys : List Bytes) (keep : List Bool) (q : Bytes) (a b : Nat) : Prop where
  le : b ≤ keys.length
  below : ∀ x, x < a → keptAt keep x = true → bytesLt (keys.getD x []) q = true
  above : ∀ x, b ≤ x → x < keys.length → keptAt keep x = true → bytesLt q (keys.getD x []) = true
  mid : b = a ∨ (b = a + 1 ∧ keptAt keep a = true ∧ keys.getD a [] = q)

namespace Cut

variable {keys : List Bytes} {keep : List Bool} {q : Bytes} {a b : Nat}

theorem a_le (c : Cut keys keep q a b) : a ≤ b := by
  rcases c.mid with h | ⟨h, _⟩
  · exact Nat.le_of_eq h.symm
  · exact h ▸ Nat.le_succ a

theorem inside (c : Cut keys keep q a b) {j : Nat} (h1 : a ≤ j) (h2 : j < b) :
    keys.getD j [] = q := by
  rcases c.mid with hb | ⟨hb, _, hq⟩
  · exact absurd (hb ▸ h2) (Nat.not_lt.mpr h1)
  · rw [Nat.le_antisymm (Nat.le_of_lt_succ (hb ▸ h2 : j < a + 1)) h1]; exact hq

theorem outside (c : Cut keys keep q a b) {j : Nat} (hj : j < keys.length)
    (hk : keptAt keep j = true) (h : j < a ∨ b ≤ j) : keys.getD j [] ≠ q := by
  intro hq
  rcases h with h | h
  · have := c.below j h hk
    rw [hq, bytesLt_irrefl] at this; cases this
  · have := c.above j h hj hk
    rw [hq, bytesLt_irrefl] at this; cases this

end Cut

namespace SearchDescent
open Subtree Agree Descent

theorem SplitAt.cut {keys : List Bytes} {keep : List Bool} {q : Bytes} {a : Nat}
    (h : SplitAt keys keep (nibs q) a) : Cut keys keep q a a :=
  ⟨h.1, fun x h1 h2 => bytesLt_iff_nibs.mpr (h.2.1 x h1 h2),
    fun x h1 h2 h3 => bytesLt_iff_nibs.mpr (h.2.2 x h1 h2 h3), Or.inl rfl⟩

/-- **`searchID` on ANY query in ANY mode.**  It returns; its neighbours are the leaves of the
    nearest kept keys before an index `a` and from an index `b` on, and `[a, b)` is empty (no exact
    match) or the one key whose leaf is the exact match.  For a query that is arbitrary where both
    kinds of prefixes are stored, or one of the keys in any mode, `[a, b)` is its `Cut`. -/
theorem searchID_post {keys : List Bytes} {keep : List Bool} {t : Trie1} {queue : Array Subset}
    (h : QOK keys keep t queue) (hroot : queue[0]? = some { s := 0, e := keys.length, fb := 0 })
    (hasc : strictAsc keys = true) (q : Bytes) :
    ∃ a b l e r, searchID t.view q = .ok (l, e, r) ∧ getID t.view q = .ok e ∧
      LeftRes keep t a l ∧ RightResAt keep keys.length t b r ∧
      (match e with
        | none => b = a
        | some id => b = a + 1 ∧ IsLeafOf t id a) ∧
      ((t.opt.inner = true ∧ t.opt.leaf = true) ∨ (∃ d, d < keys.length ∧ keys.getD d [] = q) →
        Cut keys keep q a b) := by
  obtain ⟨st', hloop, hfin⟩ := searchLoop_all h (nibs q) (nibs_lt16 q)
    (by rw [nibs_length]; exact Nat.mul_mod_right 2 _) (t.nodes.size + 1) 0 (h.lt hroot)
    (Nat.zero_add _ ▸ Nat.lt_succ_self _) _ {}
    ⟨hroot, rfl, Nat.zero_le _, fun _ h => absurd h (Nat.not_lt_zero _),
      fun _ h1 h2 => absurd h2 (Nat.not_lt.mpr h1), fun _ => Around.root keys keep _⟩ rfl
  have hcmpb : (t.opt.inner = true ∧ t.opt.leaf = true) ∨ (∃ d, d < keys.length ∧ keys.getD d [] = q) →
      Comparable keys t (nibs q) :=
    fun hm => hm.imp And.left fun ⟨d, hd, hk⟩ => ⟨d, hd, congrArg nibs hk⟩
  -- `GetID` ends in the same state, inside the key and at a stored tail that is not empty: its
  -- epilogue answers what the leaf comparison leaves
  have hg : getID t.view q = .ok (srEpi t.view q st').eqID := by
    rw [getID_of_loop t.view (view_nonempty (h.lt hroot)) q st' hloop]
    rcases hfin with ⟨heq, _⟩ | ⟨id, om, heq, H, hol⟩
    · rw [srEpi_none t.view q st' heq, heq]
    · rw [heq]
      have hile : st'.i ≤ (nibs q).length := H.i ▸ H.fbl
      obtain ⟨a, ha⟩ := idEpi_ok t.view q ⟨id, st'.i, st'.lp⟩ hile
      show idEpi t.view q ⟨id, st'.i, st'.lp⟩ = _
      rw [ha, epi_agree t.view q st' id a heq ha
        fun _ => ⟨hile, (hol hasc).2 ▸ leafPrefOf_ne _ _ _⟩]
  -- the state behind the leaf comparison
  have key : ∃ a b, LeftOK keep queue (srEpi t.view q st').lID a ∧
      RightOK keep keys.length queue (srEpi t.view q st').rID b ∧
      (match (srEpi t.view q st').eqID with
        | none => b = a
        | some id => b = a + 1 ∧ IsLeafOf t id a) ∧
      ((t.opt.inner = true ∧ t.opt.leaf = true) ∨ (∃ d, d < keys.length ∧ keys.getD d [] = q) →
        Cut keys keep q a b) := by
    rcases hfin with ⟨heq, a, hL, hR, hS⟩ | ⟨id, om, heq, H, hol⟩
    · rw [srEpi_none t.view q st' heq, heq]
      exact ⟨a, a, hL, hR, rfl, fun hm => (hS (hcmpb hm)).cut⟩
    · obtain ⟨hone, hlp⟩ := hol hasc
      obtain ⟨hleafm, hkept, hmlt⟩ := leaf_of_single h H.sub hone
      have hile : st'.i ≤ (nibs q).length := H.i ▸ H.fbl
      -- the comparison is that of the whole keys: with leaf tails stored because it compares the
      -- tails, for one of the keys because the leaf reached is its own
      have hcl : (t.opt.inner = true ∧ t.opt.leaf = true) ∨
          (∃ d, d < keys.length ∧ keys.getD d [] = q) → Around keys keep (nibs q) om →
          cmpLeafPrefix t.view (q.drop (st'.i / 2)) st'.lp = lexCmp (nibs q) (knOf keys om.s) := by
        intro hm A
        rw [hlp, H.i]
        rcases hm with ⟨_, hleaf⟩ | ⟨d, hd, hk⟩
        · exact cmpLeafPrefix_exact t hleaf q _ om.fb A.agree
        · obtain ⟨h1, h2⟩ := A.holds d hd (congrArg nibs hk)
          obtain rfl : d = om.s :=
            Nat.le_antisymm (Nat.le_of_lt_succ (hone ▸ h2 : d < om.s + 1)) h1
          rw [← hk, cmpLeafPrefix_self]
          exact (lexCmp_self _).symm
      have hA := fun hm => H.around (hcmpb hm)
      have hepi : srEpi t.view q st' =
          match cmpLeafPrefix t.view (q.drop (st'.i / 2)) st'.lp with
          | .lt => { st' with rID := some id, eqID := none }
          | .gt => { st' with lID := some id, eqID := none }
          | .eq => st' := by
        unfold srEpi; rw [heq]; simp only [hile, if_true]
        cases cmpLeafPrefix t.view (q.drop (st'.i / 2)) st'.lp <;> rfl
      rw [hepi]
      cases hc : cmpLeafPrefix t.view (q.drop (st'.i / 2)) st'.lp with
      | eq =>
        refine ⟨om.s, om.e, H.left, H.right, ?_, fun hm => ?_⟩
        · show match st'.eqID with
            | none => om.e = om.s
            | some id => om.e = om.s + 1 ∧ IsLeafOf t id om.s
          rw [heq]
          exact ⟨hone, hleafm⟩
        · have A := hA hm
          exact ⟨hone ▸ hmlt, fun x h1 h2 => bytesLt_iff_nibs.mpr (A.below x h1 h2),
            fun x h1 h2 h3 => bytesLt_iff_nibs.mpr (A.above x h1 h2 h3),
            Or.inr ⟨hone, hkept,
              (nibs_injective (lexCmp_eq_iff.mp ((hcl hm A).symm.trans hc))).symm⟩⟩
      | lt =>
        exact ⟨om.s, om.s, H.left, RightOK.here H.sub, rfl, fun hm =>
          have A := hA hm
          (A.single_lt hone hmlt ((hcl hm A).symm.trans hc)).cut⟩
      | gt =>
        exact ⟨om.e, om.e, LeftOK.here H.sub, H.right, rfl, fun hm =>
          have A := hA hm
          (A.single_gt hone hmlt ((lexCmp_gt_iff _ _).mp ((hcl hm A).symm.trans hc))).cut⟩
  obtain ⟨a, b, hL, hR, hmid, hcut⟩ := key
  obtain ⟨l, r, hs, hlres, hrres⟩ := searchID_of_cands h (h.lt hroot) q st' hloop hL hR
  exact ⟨a, b, l, _, r, hs, hg, hlres, hrres, hmid, hcut⟩

end SearchDescent

open SearchDescent Subtree in
/-- **Search descent.**  In a well-formed trie over strictly ascending keys, `searchID` on a kept
    key `m` returns the leaf of `m` as the exact match, on the left the leaf of the greatest kept
    key below `m` (`none` iff there is none) and on the right the leaf of the smallest kept key
    above `m` (`none` iff there is none). -/
theorem searchID_kept (keys : List Bytes) (keep : List Bool) (t : Trie1)
    (hasc : strictAsc keys = true) (hwf : WF keys keep t)
    (m : Nat) (hm : m < keys.length) (hk : keptAt keep m = true) :
    ∃ l id r, searchID t.view (keys.getD m []) = .ok (l, some id, r) ∧
      IsLeafOf t id m ∧ LeftRes keep t m l ∧ RightRes keep keys.length t m r := by
  obtain ⟨queue, hq, hroot⟩ := (wf_iff keys keep t).mp hwf
  obtain ⟨a, b, l, e, r, hs, _, hlres, hrres, he, hcut⟩ := searchID_post hq hroot hasc (keys.getD m [])
  have c := hcut (Or.inr ⟨m, hm, rfl⟩)
  -- a kept key is neither below nor above itself: it lies in `[a, b)`
  have ham : a ≤ m := Nat.le_of_not_lt fun hlt => by
    have := c.below m hlt hk
    rw [bytesLt_irrefl] at this; cases this
  have hmb : m < b := Nat.lt_of_not_le fun hle => by
    have := c.above m hle hm hk
    rw [bytesLt_irrefl] at this; cases this
  rcases c.mid with hba | ⟨hba, _, _⟩
  · exact absurd (hba ▸ hmb) (Nat.not_lt.mpr ham)
  · obtain rfl : a = m := Nat.le_antisymm ham (Nat.le_of_lt_succ (hba ▸ hmb : m < a + 1))
    cases e with
    | none => exact absurd (hba.symm.trans he) (Nat.succ_ne_self a)
    | some id => exact ⟨l, id, r, hs, he.2, hlres, (hba ▸ hrres).succ⟩

#print axioms searchID_kept

namespace Agree
open Subtree SearchDescent

/-- `GetID` returns for any query key, and — over strictly ascending keys — only ids of leaves -/
theorem getID_total_wf {keys : List Bytes} {keep : List Bool} {t : Trie1} {queue : Array Subset}
    (h : QOK keys keep t queue)
    (hroot : queue[0]? = some { s := 0, e := keys.length, fb := 0 })
    (hasc : strictAsc keys = true) (key : Bytes) :
    ∃ a, getID t.view key = .ok a ∧
      ∀ id, a = some id → ∃ ith lp, t.nodes[id]? = some (.leaf ith lp) := by
  obtain ⟨a, b, l, e, r, _, hg, _, _, he, _⟩ := searchID_post h hroot hasc key
  refine ⟨e, hg, ?_⟩
  rintro id rfl
  obtain ⟨_, ith, lp, hnd, _⟩ := he
  exact ⟨ith, lp, hnd⟩

/-- the loop of `GetID` ends where the loop of `searchID` does (`searchLoop_all`): inside the key -/
theorem noOverrun_of_WF (keys : List Bytes) (keep : List Bool) (t : Trie1)
    (hwf : WF keys keep t) (key : Bytes) : NoOverrun t.view key := by
  obtain ⟨queue, h, hroot⟩ := (wf_iff keys keep t).mp hwf
  obtain ⟨st', hloop, hfin⟩ := searchLoop_all h (nibs key) (nibs_lt16 key)
    (by rw [nibs_length]; exact Nat.mul_mod_right 2 _) (t.nodes.size + 1) 0 (h.lt hroot)
    (Nat.zero_add _ ▸ Nat.lt_succ_self _) _ {}
    ⟨hroot, rfl, Nat.zero_le _, fun _ h => absurd h (Nat.not_lt_zero _),
      fun _ h1 h2 => absurd h2 (Nat.not_lt.mpr h1), fun _ => Around.root keys keep _⟩ rfl
  intro r hr
  have hr' : reached st' = some r := Except.ok.inj ((getIDLoop_of_loop hloop).symm.trans hr)
  unfold reached at hr'
  rcases hfin with ⟨hn, _⟩ | ⟨id, om, heq, H, _⟩
  · rw [hn] at hr'; cases hr'
  · rw [heq] at hr'; cases hr'
    exact H.i ▸ H.fbl

end Agree
