import SlimProofs.BuildInv
import SlimProofs.Shape
import SlimProofs.Tree
import SlimProofs.Refine.Enc
/-
  Every successful `build` produces a record array of the right shape (`build_shape`), by a
  second, key-independent loop invariant `ShInv` over `buildLoop` (BFS numbering, leaf ordinals,
  big-node prefix, the 16-bit step guard); the label / prefix facts come from the first invariant
  (`BuildInv.BInv`).  `build_tree` puts `build_wf` and `build_shape` together for the theorems that
  start from a built trie.
-/

namespace BuildShape

open BuildInv
open Refine (innerOf innersBefore_eq)

theorem innersBefore_push_le (nodes : Array Node) (x : Node) {j : Nat} (hj : j ≤ nodes.size) :
    innersBefore (nodes.push x) j = innersBefore nodes j := by
  rw [innersBefore_eq, innersBefore_eq, Array.toList_push,
    List.take_append_of_le_length (by simpa using hj)]

theorem leavesBefore_push_le (nodes : Array Node) (x : Node) {j : Nat} (hj : j ≤ nodes.size) :
    leavesBefore (nodes.push x) j = leavesBefore nodes j := by
  unfold leavesBefore
  rw [Array.toList_push, List.take_append_of_le_length (by simpa using hj)]

theorem take_push_all (nodes : Array Node) (x : Node) :
    (nodes.push x).toList.take (nodes.push x).size = nodes.toList.take nodes.size ++ [x] := by
  rw [Array.toList_push, List.take_of_length_le (by simp), List.take_of_length_le (by simp)]

theorem innersBefore_push_inner (nodes : Array Node) (r : InnerRec) :
    innersBefore (nodes.push (.inner r)) (nodes.push (.inner r)).size =
      innersBefore nodes nodes.size ++ [r] := by
  rw [innersBefore_eq, innersBefore_eq, take_push_all, List.filterMap_append]
  rfl

theorem innersBefore_push_leaf (nodes : Array Node) (ith : Nat) (lp : Option Bytes) :
    innersBefore (nodes.push (.leaf ith lp)) (nodes.push (.leaf ith lp)).size =
      innersBefore nodes nodes.size := by
  rw [innersBefore_eq, innersBefore_eq, take_push_all, List.filterMap_append]
  simp [innerOf]

theorem leavesBefore_push_size (nodes : Array Node) (nd : Node) :
    leavesBefore (nodes.push nd) (nodes.size + 1)
      = leavesBefore nodes nodes.size + (if nd.isInner then 0 else 1) := by
  unfold leavesBefore
  rw [← Array.size_push nd, take_push_all, List.filter_append, List.length_append]
  cases h : nd.isInner <;> simp [h]

theorem innersBefore_length_mono (nodes : Array Node) {j j' : Nat} (h : j ≤ j') :
    (innersBefore nodes j).length ≤ (innersBefore nodes j').length := by
  rw [innersBefore_eq, innersBefore_eq]
  have : nodes.toList.take j' = nodes.toList.take j ++ (nodes.toList.take j').drop j := by
    have := (List.take_append_drop j (nodes.toList.take j')).symm
    rwa [List.take_take, Nat.min_eq_left h] at this
  rw [this, List.filterMap_append, List.length_append]
  omega

theorem innersBefore_lt (nodes : Array Node) {j : Nat} {r : InnerRec}
    (h : nodes[j]? = some (.inner r)) :
    (innersBefore nodes j).length < (innersBefore nodes nodes.size).length := by
  have hj : j < nodes.size := (Array.getElem?_eq_some_iff.mp h).1
  have h1 := innersBefore_length_mono nodes (j := j + 1) (j' := nodes.size) (by omega)
  have h2 : innersBefore nodes (j + 1) = innersBefore nodes j ++ [r] := by
    rw [innersBefore_eq, innersBefore_eq, List.take_add_one, List.filterMap_append,
      Array.getElem?_toList, h]
    rfl
  rw [h2, List.length_append] at h1
  simp only [List.length_cons, List.length_nil] at h1
  omega

theorem getElem?_push_cases {α : Type} {xs : Array α} {x y : α} {j : Nat}
    (h : (xs.push x)[j]? = some y) :
    (j < xs.size ∧ xs[j]? = some y) ∨ (j = xs.size ∧ y = x) := by
  rw [Array.getElem?_push] at h
  split at h
  · next hj => right; exact ⟨hj, by cases h; rfl⟩
  · left
    exact ⟨(Array.getElem?_eq_some_iff.mp h).1, h⟩

/-- what the invariant says of a node that has the inner records `ib` and `lb` leaves before it:
    the BFS law, the big-node prefix and the 16-bit step guard; the leaf ordinal -/
def NodeSh (bigCnt : Nat) (ib : List InnerRec) (lb : Nat) : Node → Prop
  | .inner r => r.firstChild = 1 + (ib.map (fun r => r.labels.length)).sum ∧
      (r.big = true ↔ ib.length < bigCnt) ∧ ∀ n, r.pref = .step n → n < 65536
  | .leaf ith _ => ith = lb

structure ShInv (st : BSt) : Prop where
  qsize : st.queue.size =
    1 + ((innersBefore st.nodes st.nodes.size).map (fun r => r.labels.length)).sum
  lk : st.leafKeyIdx.size = leavesBefore st.nodes st.nodes.size
  node : ∀ (j : Nat) (nd : Node), st.nodes[j]? = some nd →
    NodeSh st.bigCnt (innersBefore st.nodes j) (leavesBefore st.nodes j) nd
  /-- `isBig` only ever switches off, so the 8-bit nodes are a prefix of the inner nodes (`NodeSh`
      says which: the first `bigCnt`); there are never more of them than inner nodes … -/
  big2 : st.bigCnt ≤ (innersBefore st.nodes st.nodes.size).length
  /-- … and as long as `isBig` holds, every inner node is one -/
  big3 : st.isBig = true → st.bigCnt = (innersBefore st.nodes st.nodes.size).length

theorem shinv_init (q : Array Subset) (hq : q.size = 1) {b : Bool} :
    ShInv { queue := q, isBig := b } := by
  refine ⟨by simpa [innersBefore] using hq, by simp [leavesBefore], ?_, by simp, ?_⟩
  all_goals intros; simp_all [innersBefore]

theorem nodeSh_push {nodes : Array Node} {x : Node} {bc : Nat}
    (hold : ∀ (j : Nat) (nd : Node), nodes[j]? = some nd →
      NodeSh bc (innersBefore nodes j) (leavesBefore nodes j) nd)
    (hnew : NodeSh bc (innersBefore nodes nodes.size) (leavesBefore nodes nodes.size) x) :
    ∀ (j : Nat) (nd : Node), (nodes.push x)[j]? = some nd →
      NodeSh bc (innersBefore (nodes.push x) j) (leavesBefore (nodes.push x) j) nd := by
  intro j nd h
  rcases getElem?_push_cases h with ⟨hj, h'⟩ | ⟨hj, rfl⟩
  · rw [innersBefore_push_le _ _ (Nat.le_of_lt hj), leavesBefore_push_le _ _ (Nat.le_of_lt hj)]
    exact hold j nd h'
  · rw [innersBefore_push_le _ _ (Nat.le_of_eq hj), leavesBefore_push_le _ _ (Nat.le_of_eq hj), hj]
    exact hnew

/-- while all inner nodes are big, one more big node leaves the earlier ones inside the prefix -/
theorem nodeSh_bump {bc lb : Nat} {ib : List InnerRec} {nd : Node} (h : NodeSh bc ib lb nd)
    (hlt : ∀ r, nd = .inner r → ib.length < bc) : NodeSh (bc + 1) ib lb nd := by
  cases nd with
  | leaf ith lp => exact h
  | inner r =>
    have := hlt r rfl
    exact ⟨h.1, ⟨fun _ => Nat.lt_succ_of_lt this, fun _ => h.2.1.mpr this⟩, h.2.2⟩

theorem prefOf_step {opt : Opt} {k : List Nat} {fb ws n : Nat}
    (h : prefOf opt k fb ws = .step n) : opt.inner = false ∧ n = ws - fb := by
  unfold prefOf at h
  split at h
  · cases h
  · split at h
    · cases h
    · next hin => cases h; exact ⟨Bool.eq_false_iff.mpr hin, rfl⟩

theorem buildStep_sh {c : BCtx} {st st' : BSt} {o : Subset} (hinv : ShInv st)
    (hstep : buildStep c st o = .ok st') : ShInv st' := by
  by_cases hleaf : o.e - o.s = 1
  · rw [buildStep_leaf_eq c st o hleaf] at hstep
    cases hstep
    refine ⟨?_, ?_, nodeSh_push hinv.node hinv.lk, ?_, ?_⟩
    · dsimp only; rw [innersBefore_push_leaf]; exact hinv.qsize
    · dsimp only; rw [Array.size_push, Array.size_push, leavesBefore_push_size, hinv.lk]; rfl
    · dsimp only; rw [innersBefore_push_leaf]; exact hinv.big2
    · dsimp only; rw [innersBefore_push_leaf]; exact hinv.big3
  · obtain ⟨goBig, ws, hgo, _, _, hguard, rfl⟩ := buildStep_inner_ok hleaf hstep
    have hm := hinv.big2
    have hall : goBig = true → st.bigCnt = (innersBefore st.nodes st.nodes.size).length :=
      fun hb => hinv.big3 (Bool.and_eq_true_iff.mp (hgo ▸ hb)).1
    refine ⟨?_, ?_, nodeSh_push ?_ ⟨hinv.qsize, ?_, ?_⟩, ?_, ?_⟩
    · dsimp only
      rw [innersBefore_push_inner, List.map_append, List.sum_append, Array.size_append,
        List.size_toArray (as := List.map (kidOf ws goBig) _), List.length_map, childRuns_length, hinv.qsize, Nat.add_assoc]
      simp only [List.map_cons, List.map_nil, List.sum_cons, List.sum_nil, Nat.add_zero]
    · dsimp only; rw [Array.size_push, leavesBefore_push_size]; exact hinv.lk
    · cases goBig with
      | false => exact hinv.node
      | true =>
        intro j nd h
        exact nodeSh_bump (hinv.node j nd h) (fun r hr => hall rfl ▸ innersBefore_lt st.nodes (hr ▸ h))
    · -- the new node is big iff all inner nodes so far are
      cases goBig with
      | false => exact ⟨Bool.noConfusion, fun h => absurd h (Nat.not_lt.mpr hm)⟩
      | true => exact ⟨fun _ => hall rfl ▸ Nat.lt_succ_self _, fun _ => rfl⟩
    · intro n hp
      obtain ⟨hin, rfl⟩ := prefOf_step hp
      exact Nat.lt_succ_of_le (hguard hin)
    · dsimp only
      rw [innersBefore_push_inner, List.length_append]
      split
      · exact Nat.succ_le_succ hm
      · exact Nat.le_succ_of_le hm
    · intro hb
      dsimp only at hb ⊢
      subst hb
      rw [innersBefore_push_inner, List.length_append, if_pos rfl]
      exact congrArg (· + 1) (hall rfl)

theorem buildLoop_sh {c : BCtx} (fuel i : Nat) (st st' : BSt) (hinv : ShInv st)
    (h : buildLoop c fuel i st = .ok st') : ShInv st' :=
  have ⟨_, _, _, hP⟩ := buildLoop_induct (fun _ st => ShInv st)
    (fun _ _ _ hinv _ hs => buildStep_sh hinv hs) fuel i st st' hinv h
  hP

theorem labelAt_lt_bound {k : List Nat} (hk : ∀ x ∈ k, x < 16) (ws : Nat) (big : Bool) :
    labelAt k ws big < labelBound big := by
  unfold labelAt labelBound
  have h1 := getD_lt16 hk (ws + 1)
  cases h : k[ws]? with
  | none => cases big <;> exact Nat.zero_lt_succ _
  | some a =>
    have := hk a (List.mem_of_getElem? h)
    cases big
    · exact Nat.add_lt_add_left this 1
    · simp only [if_true]; omega

theorem prefOf_ok {opt : Opt} {k : List Nat} {fb ws : Nat} (hk : ∀ x ∈ k, x < 16)
    (hfb : fb ≤ ws) (hws : ws ≤ k.length)
    (hstep : ∀ n, prefOf opt k fb ws = .step n → n < 65536) :
    PrefOK opt (prefOf opt k fb ws) := by
  unfold prefOf at hstep ⊢
  split
  · trivial
  · next h0 =>
    rw [if_neg h0] at hstep
    split
    · next hin =>
      refine ⟨hin, ?_, ?_⟩
      · -- an empty stored prefix would end at or before `fb`
        refine Nat.pos_of_ne_zero (fun hl => h0 ?_)
        rw [← storedPrefix_end hfb hws, hl]
        exact Nat.sub_eq_zero_of_le (Nat.sub_le _ _)
      · intro x hx
        exact hk x (List.mem_of_mem_take (List.mem_of_mem_drop hx))
    · next hin =>
      rw [if_neg hin] at hstep
      exact ⟨by simpa using hin, Nat.pos_of_ne_zero h0, hstep _ rfl⟩

open BuildInv in
theorem shape_of_inv {keys : List Bytes} {keep : List Bool} {opt : Opt} {vals : Option (List Bytes)}
    {st : BSt} (hb : BInv keys keep opt st st.queue.size) (hs : ShInv st) :
    ShapeOK (trieOf opt vals st) := by
  have hsz : st.nodes.size = st.queue.size := hb.size
  -- node j of the final array, as the loop invariant sees it
  have hnode : ∀ (j : Nat) (nd : Node), st.nodes[j]? = some nd →
      ∃ o, SubOK keys keep o ∧ NodeOK keys keep opt st.queue st.leafKeyIdx j o nd := by
    intro j nd h
    obtain ⟨o, nd', h1, h2, h3⟩ := hb.node j (hsz ▸ (Array.getElem?_eq_some_iff.mp h).1)
    exact ⟨o, (hb.sub j o h1).1, Option.some.inj (h2.symm.trans h) ▸ h3⟩
  refine ⟨?_, fun j r h => (hs.node j _ h).1, ?_, fun j ith lp h => hs.node j _ h, ?_,
    fun j r h => (hs.node j _ h).2.1, ?_, ?_, hs.lk, ?_⟩
  · show 0 < st.nodes.size
    rw [hsz]
    exact (Array.getElem?_eq_some_iff.mp hb.root).1
  · show st.nodes.size = _
    rw [hsz]; exact hs.qsize
  · intro j r h
    obtain ⟨o, hsub, _, ws, _, _, _, _, hmem, hpw, _⟩ := hnode j _ h
    refine ⟨?_, hpw, ?_⟩
    · obtain ⟨t, h1, h2, h3⟩ := hsub.kept
      intro hnil
      have := (hmem _).mpr ⟨t, h1, h2, h3, rfl⟩
      rw [hnil] at this
      cases this
    · intro l hl
      obtain ⟨t, _, _, _, h4⟩ := (hmem l).mp hl
      rw [← h4]
      exact labelAt_lt_bound (knOf_lt16 keys t) ws r.big
  · intro j r h
    obtain ⟨o, hsub, _, ws, hfb, hpre, _, hpref, _⟩ := hnode j _ h
    show PrefOK opt r.pref
    rw [hpref]
    apply prefOf_ok (knOf_lt16 keys o.s) hfb (hpre o.s (Nat.le_refl _) hsub.lt).1
    intro n hp
    rw [← hpref] at hp
    exact (hs.node j _ h).2.2 n hp
  · intro j ith b h
    obtain ⟨o, _, _, _, h3⟩ := hnode j _ h
    show opt.leaf = true ∧ b ≠ []
    unfold leafPrefOf at h3
    simp only at h3
    split at h3
    · next hc =>
      cases h3
      simp only [Bool.and_eq_true, Bool.not_eq_true', List.isEmpty_eq_false_iff] at hc
      exact hc
    · cases h3
  · intro es hes
    simp only [trieOf] at hes
    cases vals with
    | none => cases hes
    | some vs =>
      simp only [Option.map_some, Option.some.injEq] at hes
      rw [← hes]
      simp [trieOf]

end BuildShape

open BuildShape BuildInv

theorem build_shape (keys : List Bytes) (vals : Option (List Bytes)) (opt : Opt) (t : Trie1)
    (hb : build keys vals opt = .ok t) (hne : keys ≠ []) : ShapeOK t := by
  obtain ⟨hasc, hv, st, hst, rfl⟩ := build_ok_elim hb hne
  exact shape_of_inv (build_binv hne hasc hv hst) (buildLoop_sh _ _ _ _ (shinv_init _ rfl) hst)

theorem build_tree (keys : List Bytes) (vals : Option (List Bytes)) (opt : Opt) (t : Trie1)
    (hb : build keys vals opt = .ok t) (hne : keys ≠ []) :
    ∃ queue, Subtree.QOK keys (keepMask keys.length vals opt.dedup) t queue ∧
      queue[0]? = some { s := 0, e := keys.length, fb := 0 } ∧ strictAsc keys = true ∧ TreeOK t := by
  obtain ⟨queue, hq, hroot⟩ := (Subtree.wf_iff _ _ t).mp (build_wf keys vals opt t hb hne).1
  exact ⟨queue, hq, hroot, (build_ok_elim hb hne).1, .of_qok hq (build_shape keys vals opt t hb hne)⟩

#print axioms build_shape
