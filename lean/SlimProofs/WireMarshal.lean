import SlimProofs.WireSlim
import SlimProofs.WireArray
import SlimProofs.WireFrame
import SlimProofs.WireVersion
import SlimModel.Marshal
/-
  SlimProofs.WireMarshal — the six accepted versions and their branches (`version_table`),
  `Unmarshal ∘ Marshal` at byte level, rejection of incompatible versions before the body is looked
  at, and rejection of every strict prefix of a frame with a compatible version.
-/
open Frame Version

namespace Wire

/-- The six versions `Unmarshal` accepts and the branch each takes: three sections; one frame with
    the 0.5.12 conversions; one frame as it is.  A finite fact, evaluated with the specs and the version strings parsed once. -/
theorem version_table :
    (∀ v ∈ ["1.0.0", "0.5.8", "0.5.9"], VersionOK v ∧ isCompatible v = true ∧ isCurrentLayout v = false) ∧
    (∀ v ∈ ["0.5.10", "0.5.11"],
      VersionOK v ∧ isCompatible v = true ∧ isCurrentLayout v = true ∧ before000512 v = true) ∧
    (VersionOK slimtrieVersion ∧ isCompatible slimtrieVersion = true ∧ isCurrentLayout slimtrieVersion = true ∧
      before000512 slimtrieVersion = false) := by
  simp only [List.forall_mem_cons, isCompatible_eq, isCurrentLayout, before000512, slimtrieVersion,
    check_parsed parseSpecs_currentLayout, check_parsed parseSpecs_before000512, parsed]
  decide +kernel

theorem version_legacy (v : String) (h : v = "1.0.0" ∨ v = "0.5.8" ∨ v = "0.5.9") :
    VersionOK v ∧ isCompatible v = true ∧ isCurrentLayout v = false :=
  version_table.1 v (by simpa using h)

theorem readMsg_frame {α : Type} (dec : Bytes → Except Err α) (v : String) (hv : VersionOK v) (body : Bytes)
    (hb : BodyOK body) (rest : Bytes) :
    readMsg dec (frame v body ++ rest) =
      match dec body with
      | .error e => .error e
      | .ok m => .ok (m, rest) := by
  unfold readMsg
  rw [readFrame_frame v hv body hb rest]
  rfl

theorem readMsg_take' {α : Type} (dec : Bytes → Except Err α) {bs : Bytes} {v : String} {body rest : Bytes}
    (hr : readFrame bs = .ok (v, body, rest)) (cut : Nat) :
    readMsg dec (bs.take cut) =
      if cut < 32 + body.length then .error .truncated else
      match dec body with
      | .error e => .error e
      | .ok m => .ok (m, rest.take (cut - (32 + body.length))) := by
  unfold readMsg
  rw [readFrame_take hr cut]
  by_cases hc : cut < 32 + body.length
  · simp only [hc, if_true]
  · simp only [hc, if_false]
    cases dec body <;> rfl

theorem readMsg_take {α : Type} (dec : Bytes → Except Err α) (v : String) (hv : VersionOK v) (body : Bytes)
    (hb : BodyOK body) (rest : Bytes) (cut : Nat) :
    readMsg dec ((frame v body ++ rest).take cut) =
      if cut < (frame v body).length then .error .truncated else
      match dec body with
      | .error e => .error e
      | .ok m => .ok (m, rest.take (cut - (frame v body).length)) := by
  rw [frame_length]
  exact readMsg_take' dec (readFrame_frame v hv body hb rest) cut

/-- One frame with a version of the one-frame layouts: `Unmarshal` decodes its body and takes the
    branch the version says. -/
theorem unmarshal_frame_slim (v : String) (hv : VersionOK v) (hc : isCompatible v = true)
    (hl : isCurrentLayout v = true) (body : Bytes) (hb : BodyOK body) (rest : Bytes) :
    unmarshalDispatch (frame v body ++ rest) =
      match decodeSlim body with
      | .error e => .error e
      | .ok m => if before000512 v then .ok (.v0510 v m) else .ok (.current m) := by
  have hh := readHeader_frame v hv body hb rest
  have hm := readMsg_frame decodeSlim v hv body hb rest
  unfold unmarshalDispatch
  rw [hh]
  simp only [hc, hl]
  rw [hm]
  cases decodeSlim body <;> rfl

/-- Loading what `Marshal` wrote gives back the message, as the current layout. -/
theorem unmarshal_marshal (m : SlimMsg) (hwf : m.WF) (hnf : m.NF) (hb : BodyOK (encodeSlim m)) :
    unmarshalDispatch (marshalSlim m) = .ok (.current m) := by
  obtain ⟨hv, hc, hl, h12⟩ := version_table.2.2
  have h := unmarshal_frame_slim slimtrieVersion hv hc hl (encodeSlim m) hb []
  rw [List.append_nil, decodeSlim_encode m hwf hnf (bodyOK_length_lt hb)] at h
  rw [marshalSlim, h]
  simp [h12]

/-- An incompatible version in the header is rejected as such: nothing behind the header is looked at. -/
theorem unmarshalDispatch_incompatible {buf : Bytes} {h : Header} {r : Bytes}
    (hh : readHeader buf = .ok (h, r)) (hc : isCompatible h.version = false) :
    unmarshalDispatch buf = .error .incompatible := by
  unfold unmarshalDispatch
  rw [hh]
  exact if_pos hc

/-- whatever follows the 32 header bytes: no size field and no body byte is looked at -/
theorem unmarshal_incompatible (buf : Bytes) (hlen : 32 ≤ buf.length)
    (hv : isCompatible (verStr (buf.take 16)) = false) :
    unmarshalDispatch buf = .error .incompatible :=
  unmarshalDispatch_incompatible (if_neg (Nat.not_lt.mpr hlen)) hv

theorem unmarshal_incompatible_header (v : String) (hv : VersionOK v) (hc : isCompatible v = false)
    (n : Nat) (hn : n < 2 ^ 64) (tail : Bytes) :
    unmarshalDispatch (header v n ++ tail) = .error .incompatible :=
  unmarshalDispatch_incompatible (readHeader_header v hv n hn tail) hc

/-- Every strict prefix of one frame with a compatible version (all layouts start with one) is
    rejected as truncated, whatever the body is and whatever follows. -/
theorem unmarshal_take_frame (v : String) (hv : VersionOK v) (hc : isCompatible v = true) (body : Bytes)
    (hb : BodyOK body) (rest : Bytes) (cut : Nat) (hcut : cut < (frame v body).length) :
    unmarshalDispatch ((frame v body ++ rest).take cut) = .error .truncated := by
  have hh := readHeader_take (readHeader_frame v hv body hb rest) cut
  unfold unmarshalDispatch
  rw [hh]
  by_cases h32 : cut < 32
  · rw [if_pos h32]
  · rw [if_neg h32]
    simp only [hc]
    rw [readMsg_take decodeSlim v hv body hb rest cut, readMsg_take decodeArray32 v hv body hb rest cut,
      if_pos hcut, if_pos hcut]
    simp

end Wire
