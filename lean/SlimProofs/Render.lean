import SlimModel.Stat
import SlimProofs.Subtree
import SlimProofs.Tree
/-
  SlimProofs.Render — `String()` (`Slim.render`, SlimModel/Stat.lean) on a record array whose nodes
  form a breadth-first numbered tree.

  * `Slim.renderIds`       the ids of the nodes in line order (a pure mirror of `render`)
  * `Render.render_ok`     on a BFS-numbered tree (`TreeOK`, SlimProofs/Tree.lean) `render` succeeds
                           with enough fuel, and line k ends with the text of node `renderIds[k]`
                           (`Slim.LineOf`: some indentation / branch prefix followed by
                           `Slim.nodeText`); `Render.toStringSlim_ok` is the same for `String()`
  * `Render.renderIds_eq`  with fuel above `N - m` the listing obeys the preorder equation
                           `renderIds f m = m :: (the listings, at the same fuel, of the children
                           bfs m … bfs (m+1) - 1)`; nothing else is used of the fuel
  * `Render.renderIds_perm` `renderIds` from the root is a permutation of `0 … N-1`: every node is
                           rendered exactly once.  The induction is `Render.forest_perm`: the
                           subtrees of the nodes `m … bfs m - 1` (those from `m` on whose parent is
                           before `m`) contain exactly the nodes `m … N-1`
  * `Render.leaf_order`    in a well-formed record array (`Subtree.QOK`) the leaves below node j,
                           in line order, are the kept keys of subset j in ascending order
-/

namespace Slim

/-- ids of the subtree of `id`, in the order `render` emits their lines -/
def renderIds (v : View) : Nat → Nat → List Nat
  | 0, _ => []
  | fuel + 1, id =>
    match v.node id with
    | .ok (.inner r) =>
      id :: ((List.range' 0 r.labels.length).map
        (fun k => renderIds v fuel (r.firstChild + k))).flatten
    | .ok (.leaf _ _) => [id]
    | .error _ => []

def stepOf (p : Pref) : Nat :=
  match p with
  | .none => 0
  | .step n => 4 * n
  | .stored p => 4 * p.length

/-- the text of the line of node `id` behind its indentation and branch label -/
def nodeText (v : View) (fmtVal : Option Bytes → String) (id : Nat) : String :=
  match v.node id with
  | .ok (.leaf ith _) =>
    "#" ++ pad3 id ++ "=" ++ fmtVal (match v.leafBytes ith with | .ok val => val | .error _ => none)
  | .ok (.inner r) =>
    "#" ++ pad3 id ++ (if stepOf r.pref > 0 then "+" ++ toString (stepOf r.pref) else "")
      ++ (if r.labels.length > 1 then "*" ++ toString r.labels.length else "")
  | .error _ => ""

/-- `line` ends with `nodeText id`; nothing is said about the prefix in front of it -/
def LineOf (v : View) (fmtVal : Option Bytes → String) (line : String) (id : Nat) : Prop :=
  ∃ pre : String, line = pre ++ nodeText v fmtVal id

def branchStr (inb : Option String) : String :=
  match inb with
  | some l => "-" ++ l ++ "->"
  | none => ""

theorem render_succ (v : View) (fmtVal : Option Bytes → String) (fuel : Nat) (inb : Option String)
    (id : Nat) :
    render v fmtVal (fuel + 1) inb id = (do
      match ← v.node id with
      | .leaf ith _ =>
        let val ← v.leafBytes ith
        return [(branchStr inb ++ "#" ++ pad3 id) ++ "=" ++ fmtVal val]
      | .inner r =>
        let ks ← render.kids v fmtVal fuel r
          (String.ofList (List.replicate (branchStr inb ++ "#" ++ pad3 id).length ' ')) r.labels 0
        return ((branchStr inb ++ "#" ++ pad3 id)
          ++ (if stepOf r.pref > 0 then "+" ++ toString (stepOf r.pref) else "")
          ++ (if r.labels.length > 1 then "*" ++ toString r.labels.length else "")) :: ks) := by
  cases inb <;> rw [render] <;> rfl

/-- two lists related elementwise (`List.Forall₂` of Mathlib; core Lean has none) -/
inductive Forall2 {α β : Type} (R : α → β → Prop) : List α → List β → Prop
  | nil : Forall2 R [] []
  | cons {a b l m} : R a b → Forall2 R l m → Forall2 R (a :: l) (b :: m)

theorem Forall2.length_eq {α β : Type} {R : α → β → Prop} {l : List α} {m : List β}
    (h : Forall2 R l m) : l.length = m.length := by
  induction h with
  | nil => rfl
  | cons _ _ ih => simp [ih]

theorem Forall2.getElem {α β : Type} {R : α → β → Prop} {l : List α} {m : List β}
    (h : Forall2 R l m) (k : Nat) (hl : k < l.length) (hm : k < m.length) : R l[k] m[k] := by
  induction h generalizing k with
  | nil => simp at hl
  | cons hx _ ih =>
    cases k with
    | zero => exact hx
    | succ k => exact ih k (by simpa using hl) (by simpa using hm)

theorem renderIds_leaf {v : View} {id ith : Nat} {lp : Option Bytes}
    (h : v.node id = .ok (.leaf ith lp)) (fuel : Nat) : renderIds v (fuel + 1) id = [id] := by
  rw [renderIds, h]

theorem renderIds_inner {v : View} {id : Nat} {r : InnerRec} (h : v.node id = .ok (.inner r))
    (fuel : Nat) :
    renderIds v (fuel + 1) id = id :: ((List.range' 0 r.labels.length).map
      (fun k => renderIds v fuel (r.firstChild + k))).flatten := by
  rw [renderIds, h]

variable {v : View}

theorem lineOf_indent {fmtVal : Option Bytes → String} (indent : String)
    {lines : List String} {ids : List Nat} (h : Forall2 (LineOf v fmtVal) lines ids) :
    Forall2 (LineOf v fmtVal) (lines.map (fun x => indent ++ x)) ids := by
  induction h with
  | nil => exact Forall2.nil
  | cons hx _ ih =>
    obtain ⟨pre, rfl⟩ := hx
    exact Forall2.cons ⟨indent ++ pre, by rw [String.append_assoc]⟩ ih

theorem forall₂_append {α β : Type} {R : α → β → Prop} {l₁ l₂ : List α} {m₁ m₂ : List β}
    (h₁ : Forall2 R l₁ m₁) (h₂ : Forall2 R l₂ m₂) :
    Forall2 R (l₁ ++ l₂) (m₁ ++ m₂) := by
  induction h₁ with
  | nil => exact h₂
  | cons hx _ ih => exact Forall2.cons hx ih

theorem render_leaf {id ith : Nat} {lp val : Option Bytes}
    (hnd : v.node id = .ok (.leaf ith lp)) (hval : v.leafBytes ith = .ok val)
    (fmtVal : Option Bytes → String) (fuel : Nat) (inb : Option String) :
    render v fmtVal (fuel + 1) inb id = .ok [branchStr inb ++ nodeText v fmtVal id] := by
  rw [render_succ, hnd]
  dsimp only [bind, Except.bind]
  rw [hval]
  simp only [nodeText, hnd, hval, String.append_assoc]
  rfl

theorem render_inner {id : Nat} {r : InnerRec} (hnd : v.node id = .ok (.inner r))
    (fmtVal : Option Bytes → String) (fuel : Nat) (inb : Option String) {ks : List String}
    (hks : render.kids v fmtVal fuel r
      (String.ofList (List.replicate (branchStr inb ++ "#" ++ pad3 id).length ' ')) r.labels 0
        = .ok ks) :
    render v fmtVal (fuel + 1) inb id = .ok ((branchStr inb ++ nodeText v fmtVal id) :: ks) := by
  rw [render_succ, hnd]
  dsimp only [bind, Except.bind]
  rw [hks]
  simp only [nodeText, hnd, String.append_assoc]
  rfl

theorem kids_ok {fmtVal : Option Bytes → String} {fuel : Nat} {r : InnerRec}
    (hkid : ∀ k inb, k < r.labels.length →
      ∃ lines, render v fmtVal fuel inb (r.firstChild + k) = .ok lines ∧
        Forall2 (LineOf v fmtVal) lines (renderIds v fuel (r.firstChild + k)))
    (indent : String) :
    ∀ (ls : List Nat) (a : Nat), a + ls.length ≤ r.labels.length →
      ∃ out, render.kids v fmtVal fuel r indent ls a = .ok out ∧
        Forall2 (LineOf v fmtVal) out
          ((List.range' a ls.length).map
            (fun k => renderIds v fuel (r.firstChild + k))).flatten := by
  intro ls
  induction ls with
  | nil => intro a _; exact ⟨[], by rw [render.kids], Forall2.nil⟩
  | cons l ls ihl =>
    intro a ha
    obtain ⟨sub, hsub, hsubl⟩ := hkid a (some (labelStr l r.big))
      (Nat.lt_of_lt_of_le (Nat.lt_add_of_pos_right (Nat.succ_pos _)) ha)
    obtain ⟨rest, hrest, hrestl⟩ := ihl (a + 1)
      (Nat.le_trans (Nat.le_of_eq (Nat.add_right_comm a 1 _)) ha)
    refine ⟨sub.map (fun x => indent ++ x) ++ rest, ?_,
      forall₂_append (lineOf_indent indent hsubl) hrestl⟩
    rw [render.kids, hsub, hrest]
    rfl

theorem range'_shift (s n : Nat) : List.range' s n = (List.range' 0 n).map (fun k => s + k) := by
  have := (List.map_add_range' (a := s) 0 n 1).symm
  simpa using this

end Slim

namespace Render

open Slim Subtree LeafCount Tree

variable {t : Trie1}

/-- `render` succeeds with enough fuel; its lines are the lines of `renderIds`, in order -/
theorem render_ok (h : TreeOK t) (fmtVal : Option Bytes → String) :
    ∀ fuel id, id < t.nodes.size → t.nodes.size < id + fuel → ∀ inb,
      ∃ lines, render t.view fmtVal fuel inb id = .ok lines ∧
        Forall2 (LineOf t.view fmtVal) lines (renderIds t.view fuel id) := by
  refine fuel_descent fun fuel id ih hid inb => ?_
  have hn := Array.getElem?_eq_getElem hid
  have hnd := view_node t id hid
  generalize t.nodes[id] = nd at hn hnd
  cases nd with
  | leaf ith lp =>
    obtain ⟨val, hval⟩ := leafBytes_ok h.shape hn
    rw [render_leaf hnd hval, renderIds_leaf hnd]
    exact ⟨_, rfl, Forall2.cons ⟨branchStr inb, rfl⟩ Forall2.nil⟩
  | inner r =>
    obtain ⟨ks, hks, hksl⟩ := kids_ok (fun k inb hk =>
        ih (r.firstChild + k) (Nat.lt_add_right k (h.fc_gt id r hn)) (kid_lt h.shape hn hk) inb)
      (String.ofList (List.replicate (branchStr inb ++ "#" ++ pad3 id).length ' '))
      r.labels 0 (Nat.le_of_eq (Nat.zero_add _))
    rw [render_inner hnd fmtVal fuel inb hks, renderIds_inner hnd]
    exact ⟨_, rfl, Forall2.cons ⟨branchStr inb, rfl⟩ hksl⟩

/-- `String()` succeeds on a non-empty record array -/
theorem toStringSlim_ok (h : TreeOK t) (fmtVal : Option Bytes → String) :
    ∃ lines, toStringSlim t.view fmtVal = .ok ("\n".intercalate lines) ∧
      Forall2 (LineOf t.view fmtVal) lines (renderIds t.view (t.nodes.size + 1) 0) := by
  obtain ⟨lines, h1, h2⟩ := render_ok h fmtVal (t.nodes.size + 1) 0 h.shape.nonempty
    (Nat.zero_add _ ▸ Nat.lt_succ_self _) none
  have h1 : render t.view fmtVal (t.view.nodeCnt + 1) none 0 = .ok lines := h1
  refine ⟨lines, ?_, h2⟩
  unfold toStringSlim
  simp only [view_nonempty h.shape.nonempty, Bool.false_eq_true, if_false, bind, Except.bind, pure,
    Except.pure, h1]

/-- one unfolding of `renderIds`, the children being the ids `[bfs m, bfs (m+1))` -/
theorem renderIds_unfold (hs : ShapeOK t) {m : Nat} (hm : m < t.nodes.size) (f : Nat) :
    renderIds t.view (f + 1) m = m :: ((List.range' (bfs t.nodes m)
      (bfs t.nodes (m + 1) - bfs t.nodes m)).map (renderIds t.view f)).flatten := by
  have hview := view_node t m hm
  rw [bfs_succ _ hm, Nat.add_sub_cancel_left]
  cases hn : t.nodes[m] with
  | leaf ith lp => rw [hn] at hview; rw [renderIds_leaf hview]; rfl
  | inner r =>
    rw [hn] at hview
    rw [renderIds_inner hview, ← fc_eq hs (nodes_getElem? t m hm _ hn), range'_shift r.firstChild,
      List.map_map]
    rfl

/-- with fuel above the height bound `N - m` the listing obeys the preorder equation at one and
    the same fuel: by `renderIds_unfold` both sides below unfold to the same list, so the
    equation for the children turns their fuel `f` into `f + 1` -/
theorem renderIds_eq (h : TreeOK t) : ∀ f m, m < t.nodes.size → t.nodes.size < m + f →
    renderIds t.view f m = m :: ((List.range' (bfs t.nodes m)
      (bfs t.nodes (m + 1) - bfs t.nodes m)).map (renderIds t.view f)).flatten := by
  refine fuel_descent fun f m ih hm => ?_
  rw [renderIds_unfold h.shape hm]
  congr 2
  apply List.map_congr_left
  intro x hx
  obtain ⟨hx1, hx2⟩ := List.mem_range'_1.mp hx
  rw [Nat.add_sub_cancel' (bfs_mono _ (Nat.le_succ m))] at hx2
  have hxN : x < t.nodes.size := Nat.lt_of_lt_of_le hx2 (bfs_le h.shape (Nat.succ_le_of_lt hm))
  rw [renderIds_unfold h.shape hxN]
  exact ih x (Nat.lt_of_lt_of_le (h.lt_bfs hm) hx1) hxN

/-- the subtrees of the nodes `m … bfs m - 1` (the nodes from `m` on whose parent is before `m`)
    together contain exactly the nodes `m … N-1`, each once -/
theorem forest_perm (h : TreeOK t) {f : Nat} (hf : t.nodes.size < f) :
    ∀ d m, m + d = t.nodes.size →
      (((List.range' m (bfs t.nodes m - m)).map (renderIds t.view f)).flatten).Perm (List.range' m d)
  | 0, m, hm => by
    have hm' : m = t.nodes.size := hm
    subst hm'
    rw [bfs_size h.shape, Nat.sub_self]
    exact List.Perm.refl _
  | d + 1, m, hm => by
    have hmN : m < t.nodes.size := hm ▸ Nat.lt_add_of_pos_right (Nat.succ_pos d)
    have hlt := h.lt_bfs hmN
    -- node `m` leaves the forest, its children `[bfs m, bfs (m+1))` enter it at the end
    have ih := forest_perm h hf d (m + 1) ((Nat.add_right_comm m 1 d).trans hm)
    rw [range'_split (Nat.succ_le_of_lt hlt) (bfs_mono _ (Nat.le_succ m)), List.map_append,
      List.flatten_append] at ih
    rw [← Nat.succ_pred_eq_of_pos (Nat.sub_pos_of_lt hlt), List.range'_succ, List.map_cons,
      List.flatten_cons, renderIds_eq h f m hmN (Nat.lt_of_lt_of_le hf (Nat.le_add_left _ _)),
      List.range'_succ, List.cons_append]
    exact List.Perm.cons m (List.perm_append_comm.trans ih)

/-- **every node is rendered exactly once**: the ids in line order are a permutation of all ids -/
theorem renderIds_perm (h : TreeOK t) :
    (renderIds t.view (t.nodes.size + 1) 0).Perm (List.range t.nodes.size) := by
  have := forest_perm h (Nat.lt_succ_self _) t.nodes.size 0 (Nat.zero_add _)
  simpa [List.range_eq_range', bfs] using this

/-! ### the leaves below a node, in line order, are the kept keys of its subset -/

theorem range'_zero_succ (n : Nat) : List.range' 0 (n + 1) = List.range' 0 n ++ [n] := by
  rw [← List.range'_append_1, Nat.zero_add]
  rfl

/-- the kept keys of `[s,e)` are those of the children (`g k` for child `k`), concatenated in
    label order -/
theorem runs_kept {keep : List Bool} {lab : Nat → Nat} {labels : List Nat} {s e : Nat}
    (hlabels : ∀ t, s ≤ t → t < e → keptAt keep t = true → lab t ∈ labels)
    (hpw : labels.Pairwise (· < ·))
    (hne : 0 < labels.length) (g : Nat → List Nat)
    (hg : ∀ k (hk : k < labels.length), ∃ c : Subset,
      RunOK lab s e (labels[k], c.s, c.e) ∧ g k = keptIn keep c.s c.e) :
    keptIn keep s e = ((List.range' 0 labels.length).map g).flatten := by
  -- up to the end of child `m`
  have hpre : ∀ m (hm : m < labels.length), ∃ c : Subset,
      RunOK lab s e (labels[m], c.s, c.e) ∧
      keptIn keep s c.e = ((List.range' 0 (m + 1)).map g).flatten := by
    intro m
    induction m with
    | zero =>
      intro hm
      obtain ⟨c, hc, hgc⟩ := hg 0 hm
      refine ⟨c, hc, ?_⟩
      rw [keptIn_skip hc.ge (Nat.le_of_lt hc.lt) (gap_first hlabels hpw hc), ← hgc]
      exact (List.append_nil _).symm
    | succ m ih =>
      intro hm
      obtain ⟨c, hc, hpc⟩ := ih (Nat.lt_of_succ_lt hm)
      obtain ⟨c', hc', hgc'⟩ := hg (m + 1) hm
      obtain ⟨hord, hgap⟩ := gap_adj hlabels hpw hc hc'
      have hlt' := Nat.le_of_lt hc'.lt
      refine ⟨c', hc', ?_⟩
      rw [range'_zero_succ, List.map_append, List.flatten_append, ← hpc,
        keptIn_split keep (Nat.le_trans hc.ge (Nat.le_of_lt hc.lt)) (Nat.le_trans hord hlt'),
        keptIn_skip hord hlt' hgap, ← hgc']
      exact congrArg _ (List.append_nil _).symm
  obtain ⟨c, hc, hpc⟩ := hpre (labels.length - 1) (Nat.sub_lt hne Nat.one_pos)
  rw [keptIn_split keep (Nat.le_trans hc.ge (Nat.le_of_lt hc.lt)) hc.le,
    keptIn_nil (gap_last hlabels hpw (Nat.sub_add_cancel hne) hc), List.append_nil, hpc,
    Nat.sub_add_cancel hne]

def leafKey (t : Trie1) (id : Nat) : Option Nat :=
  match t.nodes[id]? with
  | some (.leaf ith _) => t.leafKeyIdx[ith]?
  | _ => none

theorem leafKey_leaf {t : Trie1} {id ith : Nat} {lp : Option Bytes}
    (h : t.nodes[id]? = some (.leaf ith lp)) : leafKey t id = t.leafKeyIdx[ith]? := by
  unfold leafKey; rw [h]

theorem leafKey_inner {t : Trie1} {id : Nat} {r : InnerRec}
    (h : t.nodes[id]? = some (.inner r)) : leafKey t id = none := by
  unfold leafKey; rw [h]

theorem leaf_order {keys : List Bytes} {keep : List Bool} {t : Trie1} {queue : Array Subset}
    (h : QOK keys keep t queue) :
    ∀ n j o fuel, t.nodes.size - j ≤ n → n < fuel → queue[j]? = some o →
      (renderIds t.view fuel j).filterMap (leafKey t) = keptIn keep o.s o.e := by
  suffices H : ∀ fuel j, j < t.nodes.size → t.nodes.size < j + fuel → ∀ o, queue[j]? = some o →
      (renderIds t.view fuel j).filterMap (leafKey t) = keptIn keep o.s o.e from
    fun n j o fuel h1 h2 hqj => H fuel j (h.lt hqj)
      (Nat.lt_of_le_of_lt (Nat.sub_le_iff_le_add'.mp h1) (Nat.add_lt_add_left h2 j)) o hqj
  refine fuel_descent fun fuel j ih _ o hqj => ?_
  obtain ⟨hsub, nd, hview, hnd, hnode⟩ := h.view hqj
  cases nd with
  | leaf ith lp =>
    obtain ⟨h1e, hidx, _⟩ := hnode
    rw [renderIds_leaf hview, keptIn_single h1e (hsub.single h1e), List.filterMap_cons_some
      ((leafKey_leaf hnd).trans hidx), List.filterMap_nil]
  | inner r =>
    obtain ⟨ws, F⟩ := inner_facts h hsub hnode.2
    rw [renderIds_inner hview, List.filterMap_cons_none (leafKey_inner hnd),
      List.filterMap_flatten, List.map_map]
    refine (runs_kept F.labels F.pw F.ne _ (fun k hk => ?_)).symm
    obtain ⟨c, hc, _, hrun⟩ := F.run k hk
    exact ⟨c, hrun, ih (r.firstChild + k) (Nat.lt_add_right k F.fc) (h.lt hc) c hc⟩

end Render
