import SlimProofs.BuildTotal
import SlimProofs.SizePrefix
import SlimProofs.SizeLabels
/-
  SlimProofs.SizeRootStep — C17: a sufficient condition on the keys for "the root carries a
  step": at least two keys, all starting with the same byte.  (No key is dropped, so the root has
  two labels, `SizeLabels.build_labelsOK`, each the label of a key at the branching position, `WF`;
  keys with the same first byte carry equal labels before position 2 — a 257-bit root branches at
  an even position, so there at 0 — hence the root branches at position ≥ 2.)
-/

namespace SizeRootStep

open BuildInv BuildShape BuildTotal

/-- keys with the same first byte carry the same label before position 2 -/
theorem label_common_byte (b : UInt8) (x y : Bytes) {ws : Nat} (big : Bool) (hws : ws < 2)
    (hbig : big = true → ws % 2 = 0) :
    labelAt (nibs (b :: x)) ws big = labelAt (nibs (b :: y)) ws big := by
  match ws, hws with
  | 0, _ => cases big <;> rfl
  | 1, _ =>
    cases big with
    | false => rfl
    | true => exact absurd (hbig rfl) (by decide)

theorem root_step_of_common_byte (keys : List Bytes) (t : Trie1)
    (hb : build keys none {} = .ok t) (h2 : 2 ≤ keys.length) (b : UInt8)
    (hcommon : ∀ k ∈ keys, ∃ rest, k = b :: rest) :
    ∃ r n, t.nodes[0]? = some (.inner r) ∧ r.pref = .step n ∧ 2 ≤ n := by
  have hne : keys ≠ [] := List.ne_nil_of_length_pos (Nat.lt_of_lt_of_le (by decide) h2)
  obtain ⟨queue, hsz, hroot, hnode⟩ := (build_wf keys none {} t hb hne).1
  have h0 : 0 < t.nodes.size := hsz ▸ (Array.getElem?_eq_some_iff.mp hroot).1
  obtain ⟨o, ho, _, hnd⟩ := hnode 0 h0
  obtain rfl := Option.some.inj (hroot.symm.trans ho)
  have hlab := SizeLabels.build_labelsOK keys {} t hb hne t.nodes[0] (Array.getElem_mem_toList h0)
  have hopt := (build_wf keys none {} t hb hne).2
  generalize hnd0 : t.nodes[0] = nd at hnd hlab
  cases nd with
  | leaf ith lp => exact absurd hnd.1 (by show ¬ keys.length = 0 + 1; omega)
  | inner r =>
    obtain ⟨_, ws, _, _, hbig, hpref, hmem, hpw, _⟩ := hnd
    -- no key is dropped, so the root has two labels; each is the label at `ws` of a key, and the
    -- keys carry equal labels before position 2
    have h1l : 1 < r.labels.length := hlab.1
    have h0l : 0 < r.labels.length := Nat.lt_of_succ_lt h1l
    have hlt : r.labels[0] < r.labels[1] := List.pairwise_iff_getElem.mp hpw 0 1 h0l h1l (by decide)
    obtain ⟨t1, _, ht1, _, e1⟩ := (hmem r.labels[0]).mp (List.getElem_mem h0l)
    obtain ⟨t2, _, ht2, _, e2⟩ := (hmem r.labels[1]).mp (List.getElem_mem h1l)
    have hws2 : 2 ≤ ws := by
      refine Nat.le_of_not_lt fun hws => Nat.ne_of_lt hlt ?_
      obtain ⟨x, hx⟩ := hcommon keys[t1] (List.getElem_mem ht1)
      obtain ⟨y, hy⟩ := hcommon keys[t2] (List.getElem_mem ht2)
      rw [← e1, ← e2, labelOf, labelOf, knOf, knOf, ← List.getElem_eq_getD (h := ht1) [],
        ← List.getElem_eq_getD (h := ht2) [], hx, hy]
      exact label_common_byte b x y r.big hws fun h => (hbig h).1
    refine ⟨r, ws, hnd0 ▸ Array.getElem?_eq_getElem h0, ?_, hws2⟩
    rw [hpref, hopt, SizePrefix.prefOf_filter rfl]
    unfold SizePrefix.stepPref
    rw [if_neg (Nat.ne_of_gt (Nat.lt_of_lt_of_le (Nat.zero_lt_succ 1) hws2) : ¬ ws - 0 = 0),
      Nat.sub_zero]

end SizeRootStep
