import SlimModel.Index
import SlimProofs.GetInt
import SlimProofs.Agree
import SlimProofs.LeafCount
/-
  The pieces of property C12 (package `index`) that do not depend on a particular lookup theorem:
  `encI64` is injective on the int64 range (so that with distinct offsets de-duplication keeps
  every record); the key-verifying reader `read` (`read_hit`, `read_miss`); a leaf
  value of a built trie is one of the supplied values, and never nil when the supplied values are
  non-empty (`leafOf_supplied`, `C10_hit_supplied`, `rangeGet_hit_supplied`).
-/

namespace IndexExact

open Index Encode

def InI64 (v : Int) : Prop := -(2 : Int) ^ 63 ≤ v ∧ v < (2 : Int) ^ 63

instance (v : Int) : Decidable (InI64 v) := by unfold InI64; exact inferInstance

theorem encI64_eq (v : Int) : encI64 v = leBytes 8 (toU 8 v) := rfl

theorem encI64_length (v : Int) : (encI64 v).length = 8 := by
  rw [encI64_eq, leBytes_length]

theorem encI64_ne_nil (v : Int) : encI64 v ≠ [] := by
  intro h
  have := encI64_length v
  rw [h] at this
  cases this

theorem leSigned_encI64 {v : Int} (hv : InI64 v) : Slim.leSigned (encI64 v) = v :=
  Slim.leSigned_encodeS (w := 8) (by decide) hv

theorem encI64_inj {a b : Int} (ha : InI64 a) (hb : InI64 b) (h : encI64 a = encI64 b) : a = b := by
  have := congrArg Slim.leSigned h
  rwa [leSigned_encI64 ha, leSigned_encI64 hb] at this

theorem read_miss (recs : List Record) (o : Int) (q : Bytes) (h : ∀ r ∈ recs, r.key ≠ q) :
    Index.read recs o q = none := by
  unfold Index.read
  rw [List.find?_eq_none.mpr]
  · rfl
  · intro r hr
    simp [h r hr]

theorem read_hit (recs : List Record) (x : Record) (hx : x ∈ recs)
    (huniq : ∀ r ∈ recs, r.key = x.key → r = x) : Index.read recs x.offset x.key = some x.value := by
  unfold Index.read
  cases hf : recs.find? (fun r => r.offset == x.offset && r.key == x.key) with
  | none =>
    refine absurd ?_ (List.find?_eq_none.mp hf x hx)
    rw [beq_self_eq_true, beq_self_eq_true]; rfl
  | some r =>
    have hp := List.find?_some hf
    rw [Bool.and_eq_true, beq_iff_eq, beq_iff_eq] at hp
    rw [huniq r (List.mem_of_find?_eq_some hf) hp.2]; rfl

theorem lookup_none (si : SlimIndex) (key : Bytes) : lookup si (.ok none) key = .ok none := rfl

theorem lookup_some (si : SlimIndex) (key b : Bytes) :
    lookup si (.ok (some (some b))) key = .ok (Index.read si.recs (Slim.leSigned b) key) := rfl

/-- the keys and encoded offsets handed to `NewSlimTrie` -/
def keysOf (recs : List Record) : List Bytes := recs.map (·.key)
def valsOf (recs : List Record) : List Bytes := recs.map (fun r => encI64 r.offset)

theorem new_ok_elim {recs : List Record} {si : SlimIndex} (h : Index.new recs = .ok si) :
    build (keysOf recs) (some (valsOf recs)) {} = .ok si.t1 ∧ si.recs = recs ∧
      si.msg = Slim.encode si.t1 := by
  unfold Index.new at h
  simp only [bind, Except.bind, pure, Except.pure] at h
  cases hb : build (List.map (fun x => x.key) recs)
      (some (List.map (fun r => encI64 r.offset) recs)) {} with
  | error e => rw [hb] at h; cases h
  | ok t => rw [hb] at h; cases h; exact ⟨hb, rfl, rfl⟩

theorem new_ok_of_build {recs : List Record} {t : Trie1}
    (h : build (keysOf recs) (some (valsOf recs)) {} = .ok t) : ∃ si, Index.new recs = .ok si := by
  refine ⟨{ t1 := t, msg := Slim.encode t, recs := recs }, ?_⟩
  unfold Index.new
  simp only [bind, Except.bind, pure, Except.pure]
  unfold keysOf valsOf at h
  rw [h]

theorem keysOf_getD (recs : List Record) (i : Nat) (hi : i < recs.length) :
    (keysOf recs).getD i [] = recs[i].key := by
  simp [keysOf, List.getD_eq_getElem?_getD, hi]

theorem valsOf_getD (recs : List Record) (i : Nat) (hi : i < recs.length) :
    (valsOf recs).getD i [] = encI64 recs[i].offset := by
  simp [valsOf, List.getD_eq_getElem?_getD, hi]

theorem record_uniq {recs : List Record} (hasc : strictAsc (keysOf recs) = true) (i : Nat)
    (hi : i < recs.length) : ∀ r ∈ recs, r.key = recs[i].key → r = recs[i] := by
  intro r hr hk
  obtain ⟨j, hj, rfl⟩ := List.mem_iff_getElem.mp hr
  have hlen : (keysOf recs).length = recs.length := by simp [keysOf]
  have := strictAsc_inj hasc (a := j) (b := i) (hlen ▸ hj) (hlen ▸ hi)
    (by rw [keysOf_getD _ _ hj, keysOf_getD _ _ hi, hk])
  subst this; rfl

theorem eltsTotal_ne_zero (es : List Bytes) (b : Bytes) (hb : b ∈ es) (hne : b ≠ []) :
    eltsTotal es ≠ 0 :=
  fun h => hne ((Slim.sum_length_eq_zero_iff es).mp h b hb)

theorem getLeaf_mem (t : Trie1) (es : List Bytes) (helts : t.elts = some es)
    (h0 : eltsTotal es ≠ 0) (id : Nat) (x : Option Bytes) (h : getLeaf t.view id = .ok x) :
    ∃ b, x = some b ∧ b ∈ es := by
  unfold getLeaf at h
  obtain ⟨nd, -, h⟩ := Slim.bind_eq_ok h
  cases nd with
  | inner r => cases h
  | leaf ith lp =>
    simp only [Trie1.view, helts, h0, if_false] at h
    cases hg : es[ith]? with
    | none => rw [hg] at h; cases h
    | some b =>
      rw [hg] at h
      cases h
      exact ⟨b, rfl, List.mem_of_getElem? hg⟩

theorem eltsTotal_built (keys : List Bytes) (vs : List Bytes) (opt : Opt) (t : Trie1)
    (hb : build keys (some vs) opt = .ok t) (hne : keys ≠ []) (hvs : ∀ b ∈ vs, b ≠ []) :
    eltsTotal (t.leafKeyIdx.toList.map (fun i => vs.getD i [])) ≠ 0 := by
  obtain ⟨_, h0, hm⟩ := build_elts_supplied keys vs opt t hb hne
  exact eltsTotal_ne_zero _ (vs.getD 0 []) (List.mem_map.mpr ⟨0, h0, rfl⟩) (hvs _ (hm 0 h0))

/-- `Get` and `RangeGet` both end in `Agree.leafOf` of the id they settle on; whatever that id
    is — the leaf of the query or a false positive — it holds one of the supplied values. -/
theorem leafOf_supplied (keys : List Bytes) (vs : List Bytes) (opt : Opt) (t : Trie1)
    (hb : build keys (some vs) opt = .ok t) (hne : keys ≠ []) (hvs : ∀ b ∈ vs, b ≠ [])
    (o : Option Nat) (x : Option Bytes) (h : Agree.leafOf t.view o = .ok (some x)) :
    ∃ b, x = some b ∧ b ∈ vs := by
  cases o with
  | none => cases h
  | some id =>
    obtain ⟨y, hg, h⟩ := Agree.bind_ok h
    cases h
    obtain ⟨helts, _, hm⟩ := build_elts_supplied keys vs opt t hb hne
    obtain ⟨b, rfl, hmem⟩ :=
      getLeaf_mem t _ helts (eltsTotal_built keys vs opt t hb hne hvs) id _ hg
    obtain ⟨i, hi, rfl⟩ := List.mem_map.mp hmem
    exact ⟨_, rfl, hm i hi⟩

end IndexExact

open IndexExact in
/-- **A hit carries a supplied value** (`Get`): on a trie built with values that are non-empty
    byte strings, whatever `Get` reports for ANY query string — indexed or a false positive —
    is one of the supplied values, never the nil value. -/
theorem C10_hit_supplied (keys : List Bytes) (vs : List Bytes) (opt : Opt) (t : Trie1)
    (hb : build keys (some vs) opt = .ok t) (hne : keys ≠ []) (hvs : ∀ b ∈ vs, b ≠ [])
    (q : Bytes) (x : Option Bytes) (h : get t.view q = .ok (some x)) :
    ∃ b, x = some b ∧ b ∈ vs := by
  obtain ⟨o, -, h⟩ := Agree.bind_ok (f := Agree.leafOf t.view) h
  exact leafOf_supplied keys vs opt t hb hne hvs o x h

open IndexExact in
/-- the same for `RangeGet` -/
theorem rangeGet_hit_supplied (keys : List Bytes) (vs : List Bytes) (opt : Opt) (t : Trie1)
    (hb : build keys (some vs) opt = .ok t) (hne : keys ≠ []) (hvs : ∀ b ∈ vs, b ≠ [])
    (q : Bytes) (x : Option Bytes) (h : rangeGet t.view q = .ok (some x)) :
    ∃ b, x = some b ∧ b ∈ vs := by
  rw [Agree.rangeGet_eq] at h
  obtain ⟨b, -, h⟩ := Agree.bind_ok h
  exact leafOf_supplied keys vs opt t hb hne hvs _ x h

#print axioms C10_hit_supplied
#print axioms rangeGet_hit_supplied
