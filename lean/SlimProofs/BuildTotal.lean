import SlimProofs.BuildShape
/-
  On valid input the loop of `build` neither panics nor runs out of fuel:

  * the `wordStart smaller than o.fromKeyBit` panic is unreachable (`fb_le_minLcp`),
  * the fuel `2 * n` suffices: the potential `pot` (Σ over unprocessed queue entries of
    `2·(e−s) − 1`) drops by at least one per step, because at the branching position at least two
    different labels occur among the keys of a subset (`labels_differ`), while the children hold
    at most the keys of the subset, each the keys of one label (`potential_of_runs`),
  * `stepTooLong` needs `opt.inner = false` and a key of more than 0xffff half-bytes.

  Main result: `buildLoop_total`; consumed by SlimProps.C08Accept.
-/

namespace BuildTotal

open BuildInv BuildShape

theorem le_lcp_of_take_eq {a b : List Nat} {m : Nat} (h : a.take m = b.take m)
    (ha : m ≤ a.length) (hb : m ≤ b.length) : m ≤ lcp a b := by
  induction m generalizing a b with
  | zero => exact Nat.zero_le _
  | succ m ih =>
    match a, b with
    | [], _ => simp at ha
    | _ :: _, [] => simp at hb
    | x :: xs, y :: ys =>
      simp only [List.take_succ_cons, List.cons.injEq] at h
      simp only [List.length_cons] at ha hb
      simp only [lcp, if_pos h.1]
      exact Nat.succ_le_succ (ih h.2 (Nat.le_of_succ_le_succ ha) (Nat.le_of_succ_le_succ hb))

/-- the panic branch `ws < o.fb` is unreachable: all keys of the subset agree before `fb` -/
theorem fb_le_minLcp {keys : List Bytes} {keep : List Bool} {opt : Opt} {c : BCtx}
    (hc : CtxOK keys keep opt c) {o : Subset} (hsub : SubOK keys keep o) (h2 : o.s + 2 ≤ o.e) :
    o.fb ≤ minLcp c o.s o.e := by
  apply le_minLcp h2
  intro t h1 h3
  have ht : t < o.e := Nat.lt_of_succ_lt h3
  have ht1 : o.s ≤ t + 1 := Nat.le_succ_of_le h1
  rw [hc.lcps t (Nat.lt_of_lt_of_le h3 hsub.le)]
  apply le_lcp_of_take_eq
  · rw [hsub.agree t h1 ht, hsub.agree (t + 1) ht1 h3]
  · exact hsub.long t h1 ht
  · exact hsub.long (t + 1) ht1 h3

theorem label_ne_of_lcp {a b : List Nat} (ha : ∀ x ∈ a, x < 16) (hb : ∀ x ∈ b, x < 16)
    (hea : a.length % 2 = 0) (heb : b.length % 2 = 0) (hab : a ≠ b) (big : Bool) {ws : Nat}
    (hws : ws = if big then lcp a b - lcp a b % 2 else lcp a b) :
    labelAt a ws big ≠ labelAt b ws big := by
  intro hlab
  have hwsle : ws ≤ lcp a b := hws ▸ wsRound_le _ big
  have hwsev : big = true → ws % 2 = 0 := by
    intro h; rw [hws, if_pos h]; exact wsRound_even _
  have htake : a.take ws = b.take ws := take_eq_of_le_lcp hwsle
  -- equal labels: the keys agree up to behind the label, beyond their first difference
  have h1 := take_label_eq ⟨ha, fun h => ⟨hea, hwsev h⟩⟩ ⟨hb, fun h => ⟨heb, hwsev h⟩⟩ htake hlab
  have h2 := label_long (a := a) (ws := ws) (big := big) (fun _ => hea) hwsev
    (Nat.le_trans hwsle (lcp_le_left a b))
  have h3 := label_long (a := b) (ws := ws) (big := big) (fun _ => heb) hwsev
    (Nat.le_trans hwsle (lcp_le_right a b))
  rw [← hlab] at h3
  have h4 := le_lcp_of_take_eq h1 h2 h3
  by_cases h0 : labelAt a ws big = 0
  · -- both keys end at ws: they are equal
    have h5 := labelAt_eq_zero_iff.mp h0
    have h6 := labelAt_eq_zero_iff.mp (hlab ▸ h0)
    apply hab
    have e1 : a.take ws = a := List.take_of_length_le h5
    have e2 : b.take ws = b := List.take_of_length_le h6
    rw [← e1, ← e2, htake]
  · rw [labelLen_of_ne_zero big h0, hws] at h4
    exact Nat.lt_irrefl _ (Nat.lt_of_lt_of_le (lt_wsRound_add _ big) h4)

theorem knOf_ne {keys : List Bytes} (hasc : strictAsc keys = true) {a b : Nat} (hab : a < b)
    (hb : b < keys.length) : knOf keys a ≠ knOf keys b := by
  intro h
  have := knOf_lt hasc hab hb
  rw [h, lexCmp_self] at this
  cases this

theorem labels_differ {keys : List Bytes} {keep : List Bool} {opt : Opt} {c : BCtx}
    (hc : CtxOK keys keep opt c) (hasc : strictAsc keys = true) {s e : Nat}
    (he : e ≤ keys.length) (h2 : s + 2 ≤ e) (big : Bool) {ws : Nat}
    (hws : ws = if big then minLcp c s e - minLcp c s e % 2 else minLcp c s e) :
    ∃ t, s ≤ t ∧ t + 1 < e ∧ labelOf keys ws big t ≠ labelOf keys ws big (t + 1) := by
  obtain ⟨⟨t, h1, h3, h4⟩, _⟩ := minLcp_spec c h2
  refine ⟨t, h1, h3, ?_⟩
  have hlt : t + 1 < keys.length := Nat.lt_of_lt_of_le h3 he
  rw [hc.lcps t hlt] at h4
  unfold labelOf
  apply label_ne_of_lcp (knOf_lt16 keys t) (knOf_lt16 keys (t + 1)) (knOf_even keys t)
    (knOf_even keys (t + 1)) (knOf_ne hasc (Nat.lt_succ_self t) hlt) big
  rw [h4]; exact hws

/-- weight of a run / subset of `m` keys: `2 m − 1` (an upper bound for its number of nodes) -/
def runW (x : Nat × Nat × Nat) : Nat := 2 * (x.2.2 - x.2.1) - 1

theorem sum_runW (runs : List (Nat × Nat × Nat)) (h : ∀ x ∈ runs, x.2.1 < x.2.2) :
    (runs.map runW).sum + runs.length = 2 * (runs.map (fun x => x.2.2 - x.2.1)).sum := by
  induction runs with
  | nil => rfl
  | cons x rest ih =>
    have := h x List.mem_cons_self
    have := ih fun y hy => h y (List.mem_cons_of_mem _ hy)
    simp only [List.map_cons, List.sum_cons, List.length_cons, runW] at this ⊢
    omega

theorem weight_le {W L S n : Nat} (hw : W + L = 2 * S) (h : S + (2 - L) ≤ n) :
    W + 1 ≤ 2 * n - 1 := by
  omega

/-- runs of different labels, where two keys of `[s, e)` carry different labels, weigh less than
    `[s, e)`: together they hold at most its keys (`runs_size_le`), which leaves one to spare for
    each run but the first; a single run misses a key -/
theorem potential_of_runs {lab : Nat → Nat} {s e : Nat} {runs : List (Nat × Nat × Nat)}
    (hok : ∀ x ∈ runs, RunOK lab s e x) (hnd : (runs.map (·.1)).Nodup) (h2 : s + 2 ≤ e)
    (hne : ∃ a b, s ≤ a ∧ a < e ∧ s ≤ b ∧ b < e ∧ lab a ≠ lab b) :
    (runs.map runW).sum + 1 ≤ 2 * (e - s) - 1 := by
  refine weight_le (sum_runW runs fun x hx => (hok x hx).lt) ?_
  have hle := runs_size_le hok hnd
  match runs, hok, hle with
  | [], _, _ => exact Nat.le_sub_of_add_le' h2
  | [x], hok, _ =>
    obtain ⟨a, b, ha1, ha2, hb1, hb2, hab⟩ := hne
    have hrun := hok x List.mem_cons_self
    obtain ⟨t, ht1, ht2, ht3⟩ : ∃ t, s ≤ t ∧ t < e ∧ ¬ (x.2.1 ≤ t ∧ t < x.2.2) := by
      by_cases hal : lab a = x.1
      · exact ⟨b, hb1, hb2, fun h => hab (hal.trans ((hrun.iff b hb1 hb2).mp h).symm)⟩
      · exact ⟨a, ha1, ha2, fun h => hal ((hrun.iff a ha1 ha2).mp h)⟩
    have := hrun.ge
    have := hrun.le
    simp only [List.map_cons, List.map_nil, List.sum_cons, List.sum_nil, List.length_cons,
      List.length_nil]
    omega
  | _ :: _ :: l, _, hle =>
    rw [List.length_cons, List.length_cons, Nat.sub_eq_zero_of_le (Nat.le_add_left 2 l.length)]
    exact hle

def subW (o : Subset) : Nat := 2 * (o.e - o.s) - 1

def pot (st : BSt) (i : Nat) : Nat := ((st.queue.toList.drop i).map subW).sum

theorem pot_eq (st : BSt) (i : Nat) (hi : i < st.queue.size) :
    pot st i = subW st.queue[i] + ((st.queue.toList.drop (i + 1)).map subW).sum := by
  unfold pot
  rw [List.drop_eq_getElem_cons (by simpa using hi)]
  simp

theorem subW_kidOf (ws : Nat) (big : Bool) : subW ∘ kidOf ws big = runW := by
  funext x; rfl

theorem kids_potential {keys : List Bytes} {keep : List Bool} {opt : Opt} {c : BCtx}
    (hc : CtxOK keys keep opt c) (hasc : strictAsc keys = true)
    {o : Subset} (he : o.e ≤ keys.length) (h2 : o.s + 2 ≤ o.e) (goBig : Bool) {ws : Nat}
    (hws : ws = if goBig then minLcp c o.s o.e - minLcp c o.s o.e % 2 else minLcp c o.s o.e) :
    (((childRuns (keyLabel c ws goBig) o.e (keptLabels c o.s o.e ws goBig) o.s).map
      (kidOf ws goBig)).map subW).sum + 1 ≤ subW o := by
  have hpre := prefix_of_minLcp hc he h2 (hws ▸ wsRound_le _ goBig)
  have hmono := labelOf_mono hasc goBig he
    (fun h => by rw [hws, if_pos h]; exact wsRound_even _) (fun t h1 h3 => (hpre t h1 h3).2)
  obtain ⟨hmem, hpw⟩ := keptLabels_spec hc hmono
  have hcar : ∀ l ∈ keptLabels c o.s o.e ws goBig,
      ∃ t, o.s ≤ t ∧ t < o.e ∧ labelOf keys ws goBig t = l := by
    intro l hl
    obtain ⟨t, h1, h3, _, h5⟩ := (hmem l).mp hl
    exact ⟨t, h1, h3, h5⟩
  obtain ⟨t, ht1, ht2, ht3⟩ := labels_differ hc hasc he h2 goBig hws
  rw [keyLabel_eq hc, List.map_map, subW_kidOf]
  exact potential_of_runs (childRuns_spec (labelOf keys ws goBig) o.e _ o.s hmono hpw hcar)
    (by rw [childRuns_map_fst]; exact hpw.imp Nat.ne_of_lt) h2
    ⟨t, t + 1, ht1, Nat.lt_of_succ_lt ht2, Nat.le_succ_of_le ht1, ht2, ht3⟩

theorem buildStep_total {keys : List Bytes} {keep : List Bool} {opt : Opt} {c : BCtx}
    (hc : CtxOK keys keep opt c) (hasc : strictAsc keys = true)
    {st : BSt} {i : Nat} (hinv : BInv keys keep opt st i) (hi : i < st.queue.size) :
    (∃ st', buildStep c st st.queue[i] = .ok st' ∧ pot st' (i + 1) + 1 ≤ pot st i) ∨
    (buildStep c st st.queue[i] = .error .stepTooLong ∧ opt.inner = false ∧
      ∃ k ∈ keys, 0xffff < 2 * k.length) := by
  rw [pot_eq st i hi]
  generalize ho : st.queue[i] = o
  have ho' : st.queue[i]? = some o := by rw [← ho]; exact Array.getElem?_eq_getElem hi
  obtain ⟨hsub, heven⟩ := hinv.sub i o ho'
  by_cases hleaf : o.e - o.s = 1
  · left
    rw [buildStep_leaf_eq c st o hleaf]
    refine ⟨_, rfl, ?_⟩
    simp only [pot, subW, hleaf]
    exact Nat.le_of_eq (Nat.add_comm _ 1)
  · have h2 := two_le_of_not_leaf hsub.lt hleaf
    rw [buildStep_inner_eq c st o hleaf _ rfl _ rfl]
    generalize hgo : (st.isBig && decide (prefCnt c o.s o.e (minLcp c o.s o.e) > 10)) = goBig
    generalize hws : (if goBig = true then minLcp c o.s o.e - minLcp c o.s o.e % 2
      else minLcp c o.s o.e) = ws
    -- the panic is unreachable: an 8-bit node follows 8-bit nodes only, so `fb` is even
    have hfbws : o.fb ≤ ws := by
      rw [← hws]
      split
      · next hb =>
        exact le_wsRound (fb_le_minLcp hc hsub h2)
          (heven (Bool.and_eq_true_iff.mp (hgo ▸ hb)).1)
      · exact fb_le_minLcp hc hsub h2
    rw [if_neg (Nat.not_lt.mpr hfbws)]
    by_cases hguard : (!c.opt.inner && decide (ws - o.fb > 0xffff)) = true
    · right
      rw [if_pos hguard]
      simp only [Bool.and_eq_true, Bool.not_eq_true', decide_eq_true_eq, hc.opt] at hguard
      have hlt : o.s < keys.length := Nat.lt_of_lt_of_le hsub.lt hsub.le
      refine ⟨rfl, hguard.1, keys.getD o.s [], ?_, ?_⟩
      · rw [List.getD_eq_getElem?_getD, List.getElem?_eq_getElem hlt]
        exact List.getElem_mem hlt
      · have := (prefix_of_minLcp hc hsub.le h2 (hws ▸ wsRound_le _ goBig) o.s (Nat.le_refl _)
          hsub.lt).1
        rw [knOf, nibs_length] at this
        exact Nat.lt_of_lt_of_le hguard.2 (Nat.le_trans (Nat.sub_le _ _) this)
    · left
      rw [if_neg hguard]
      refine ⟨_, rfl, ?_⟩
      have hp := kids_potential hc hasc hsub.le h2 goBig hws.symm
      simp only [pot]
      rw [Array.toList_append, List.drop_append_of_le_length (by rw [Array.length_toList]; exact hi),
        List.map_append, List.sum_append, Nat.add_assoc, Nat.add_comm]
      exact Nat.add_le_add_right hp _

theorem buildLoop_total {keys : List Bytes} {keep : List Bool} {opt : Opt} {c : BCtx}
    (hc : CtxOK keys keep opt c) (hasc : strictAsc keys = true)
    (fuel i : Nat) (st : BSt) (hinv : BInv keys keep opt st i) (hpot : pot st i ≤ fuel) :
    (∃ st', buildLoop c fuel i st = .ok st') ∨
    (buildLoop c fuel i st = .error .stepTooLong ∧ opt.inner = false ∧
      ∃ k ∈ keys, 0xffff < 2 * k.length) := by
  induction fuel generalizing i st with
  | zero =>
    left
    simp only [buildLoop]
    have : ¬ i < st.queue.size := by
      intro hi
      rw [pot_eq st i hi] at hpot
      have := (hinv.sub i st.queue[i] (Array.getElem?_eq_getElem hi)).1.lt
      simp only [subW] at hpot
      omega
    rw [if_neg this]
    exact ⟨st, rfl⟩
  | succ fuel ih =>
    simp only [buildLoop]
    split
    · next hi =>
      rcases buildStep_total hc hasc hinv hi with ⟨st', h1, h2⟩ | ⟨h1, h2⟩
      · rw [h1]
        exact ih (i + 1) st' (buildStep_inv hc hasc hinv hi h1)
          (Nat.le_of_succ_le_succ (Nat.le_trans h2 hpot))
      · rw [h1]
        right
        exact ⟨rfl, h2⟩
    · left; exact ⟨st, rfl⟩

theorem pot_init (n : Nat) : pot (initSt n) 0 = 2 * n - 1 := by
  simp [pot, initSt, subW]

end BuildTotal
