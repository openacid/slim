import SlimProofs.Legacy3Wire
import SlimProofs.WireSlim
import SlimProofs.WireFrame
import SlimProofs.EncodeAt
import SlimProofs.EncodeWF
/-
  SlimProofs.UpgradeEmpty — the empty key set in the three-section layouts: the old writer makes
  three sections without any node, the conversion makes `emptyConverted` of them (`convert_empty`),
  and the message the loader then builds (`Slim.encodeCreator emptyConverted`: `creator.build` on a
  creator that holds nothing — only `NodeTypeBM` stays nil) is spelled out, with its
  well-formedness, normal form and size.  What the empty cases of both legacy families read off a
  message is that `NodeTypeBM` is nil (`initLevels_of_none`, `stat_of_none`).
-/
open Wire Frame Version Bits

namespace LegacyWrite
open Legacy

/-- what the conversion makes of three sections without any node -/
def emptyConverted : Trie1 := { opt := {}, nodes := #[], bigCnt := 0, leafKeyIdx := #[], elts := some [] }

theorem convert_loop_empty (ch st lv : Array32Msg) (e : Option Nat) (h1 : ch.bitmaps = [])
    (h3 : lv.bitmaps = []) (fuel : Nat) (q : QElt) (hq : q.leafOnly = false) :
    convert.loop ch st lv e (fuel + 2) 0 { queue := #[q] } = .ok { queue := #[q] } := by
  have hb1 : bmhas ch.bitmaps q.oldid = false := by rw [h1]; rfl
  have hb3 : bmhas lv.bitmaps q.oldid = false := by rw [h3]; rfl
  rw [convert.loop]
  simp only [Array.size_singleton, Nat.lt_one_iff, dite_true, Array.getElem_singleton, hb1, hb3, hq]
  simp only [Bool.not_false, Bool.and_false, Bool.or_false, Bool.false_eq_true, if_false, if_true]
  rw [convert.loop]
  simp

theorem convert_empty (ch st lv : Array32Msg) (e : Option Nat) (h1 : ch.bitmaps = [])
    (h2 : st.bitmaps = []) (h3 : lv.bitmaps = []) : convert ch st lv e = .ok emptyConverted := by
  unfold convert
  have hs : getStep st 0 = .ok 0 := by simp [getStep, bmhas, h2]; rfl
  have hf : 2 * 64 * (ch.bitmaps.length + lv.bitmaps.length) + 4 = 2 + 2 := by rw [h1, h3]; rfl
  simp only [hs, bind, Except.bind, hf]
  rw [convert_loop_empty ch st lv e h1 h3 2 _ rfl]
  simp [emptyConverted, pure, Except.pure]

theorem buildOld_nil (ls : Bool) : buildOld [] ls = .ok #[] := by
  unfold buildOld
  simp

theorem ofIdx_nil_zero : ofIdx [] 0 = [] := by decide

theorem idsWhere_nil (p : OldNode → Bool) : idsWhere [] p = [] := by
  unfold idsWhere idsFrom; rfl

theorem sections3_nil (vr : Variant) (vals : List Bytes) :
    sections3 vr [] vals = .ok (childrenMsg vr [] 0, stepsMsg [] 0, leavesMsg [] #[]) := by
  unfold sections3
  rw [buildOld_nil]
  have hl : leavesMsg [] vals.toArray = leavesMsg [] #[] := by
    unfold leavesMsg; simp
  cases vr.extendedIdx <;> simp [bind, Except.bind, pure, Except.pure, hl]

theorem sections3_nil_bitmaps (vr : Variant) :
    (childrenMsg vr [] 0).bitmaps = [] ∧ (stepsMsg [] 0).bitmaps = [] ∧ (leavesMsg [] #[]).bitmaps = [] := by
  have h : ∀ (p : OldNode → Bool) (e : Bytes), (initIndex (idsWhere [] p) 0 e).bitmaps = [] :=
    fun p e => by unfold initIndex; rw [idsWhere_nil]; exact ofIdx_nil_zero
  exact ⟨(childrenMsg_bitmaps vr [] 0).trans (h _ _), h _ _, h _ _⟩

theorem encodeCreator_emptyConverted_nodeTypeBM :
    (Slim.encodeCreator emptyConverted).nodeTypeBM = none := by
  rw [Refine.enc_nodeTypeBM]
  have : emptyConverted.nodes.size = 0 := by simp [emptyConverted]
  rw [if_pos this]

theorem initLevels_of_none (s : SlimMsg) (h : s.nodeTypeBM = none) : Slim.initLevels s = .ok [(0, 0, 0)] := by
  unfold Slim.initLevels
  rw [h]
  rfl

theorem stat_of_none (s : SlimMsg) (h : s.nodeTypeBM = none) :
    Slim.stat s [(0, 0, 0)] = .ok { levels := [(0, 0, 0)], keyCnt := 0, nodeCnt := 0 } := by
  unfold Slim.stat
  simp [h]

theorem initLevels_emptyConverted :
    Slim.initLevels (Slim.encodeCreator emptyConverted) = .ok [(0, 0, 0)] :=
  initLevels_of_none _ encodeCreator_emptyConverted_nodeTypeBM

theorem stat_emptyConverted :
    Slim.stat (Slim.encodeCreator emptyConverted) [(0, 0, 0)]
      = .ok { levels := [(0, 0, 0)], keyCnt := 0, nodeCnt := 0 } :=
  stat_of_none _ encodeCreator_emptyConverted_nodeTypeBM

theorem view_emptyConverted_isEmpty : (Slim.view (Slim.encodeCreator emptyConverted)).isEmpty = true := by
  show (Slim.encodeCreator emptyConverted).nodeTypeBM.isNone = true
  rw [encodeCreator_emptyConverted_nodeTypeBM]
  rfl

end LegacyWrite

open LegacyWrite Legacy

theorem encodeCreator_emptyConverted_eq :
    Slim.encodeCreator emptyConverted =
      { shortTable := [0],
        inners := some { rankIndex := [0] }, shortBM := some {},
        innerPrefixes := some { fixedSize := 2, presenceBM := some { rankIndex := [0] } } } := by
  rw [Refine.encodeCreator_eq_eval]
  decide +kernel

theorem emptyConverted_msg_ok :
    (Slim.encodeCreator emptyConverted).WF ∧ (Slim.encodeCreator emptyConverted).NF ∧
    BodyOK (encodeSlim (Slim.encodeCreator emptyConverted)) := by
  rw [encodeCreator_emptyConverted_eq]
  have hr : ({ rankIndex := [0] } : BitmapMsg).WF := by unfold BitmapMsg.WF; decide
  have he : ({} : BitmapMsg).WF := by unfold BitmapMsg.WF; decide
  refine ⟨⟨by decide, by decide, by decide, nofun, Refine.of_eq_some rfl hr, Refine.of_eq_some rfl he,
    Refine.of_eq_some rfl ⟨by decide, by decide, by decide, nofun, Refine.of_eq_some rfl hr⟩,
    nofun, nofun⟩, SlimMsg.NF_of_nil rfl, ?_⟩
  unfold BodyOK maxAlloc
  decide +kernel

#print axioms encodeCreator_emptyConverted_eq
#print axioms emptyConverted_msg_ok
