import SlimProofs.WireSlim
import SlimModel.ArrayMsg
/-
  SlimProofs.WireArray — array.Bits and array.Array32 (the message of all three sections of the
  pre-0.5.10 layout): normal form, decode ∘ encode = id, size = length.
-/

namespace Array32Msg
/-- Normal form: `XXX_unrecognized` holds only well-formed, canonically keyed fields that the
    Array32 unmarshaler does not consume itself. -/
def NF (a : Array32Msg) : Prop := Wire.unknownOnly Wire.array32Known a.unrecognized = true
end Array32Msg

namespace Wire

theorem decodeBits_encode (b : BitsMsg) (hwf : b.WF) (hsz : (encodeBits b).length < 2 ^ 64) :
    decodeBitsInto {} (encodeBits b) = .ok b := by
  obtain ⟨hfl, hn, hw, hr⟩ := hwf
  exact Eats.decode (h := bitsH) (b := b)
    (.append (.scalar (fun a x => { a with flags := x }) (fun _ => rfl) rfl hfl) <|
     .append (.scalar (fun a x => { a with n := x }) (fun _ => rfl) rfl (lt32 hn)) <|
     .append (.packed (fun a l => { a with words := l }) _ (by simp [bitsH, repU64_packed _ hw]) rfl) <|
     .packed (fun (a : BitsMsg) l => { a with rankIndex := l }) _ (by simp [bitsH, repI32_packed _ hr]) rfl)
    hsz

theorem bitsI32OK_of_WF (b : BitsMsg) (h : b.WF) : bitsI32OK b = true := by
  obtain ⟨_, hn, _, hr⟩ := h
  simp [bitsI32OK, i32ok, hn, all_i32ok _ hr]

theorem decodeBitsTop_encode (b : BitsMsg) (hwf : b.WF) (hsz : (encodeBits b).length < 2 ^ 64) :
    decodeBits (encodeBits b) = .ok b := by
  unfold decodeBits
  rw [decodeBits_encode b hwf hsz, checkI32_ok _ _ (bitsI32OK_of_WF b hwf)]

theorem protoSizeBits_eq (b : BitsMsg) : protoSizeBits b = (encodeBits b).length := by
  simp [protoSizeBits, encodeBits, encPackedF_length, encVarintF_length]

theorem array32H_unknown (acc : Array32Msg) (fno wire : Nat) (v : WVal)
    (hk : array32Known fno wire = false) (hf : Fits wire v) : array32H acc fno v = .ok none := by
  rcases hf with ⟨rfl, w, rfl⟩ | ⟨rfl, p, rfl⟩ | ⟨h0, h2, rfl⟩
  · unfold array32H; split <;> first | rfl | exact absurd hk (by decide)
  · unfold array32H; split <;> first | rfl | exact absurd hk (by decide)
  · unfold array32H; split <;> rfl

theorem decodeArray32Into_unknown (acc : Array32Msg) (bs : Bytes) (h : unknownOnly array32Known bs = true) :
    decodeArray32Into acc bs = .ok { acc with unrecognized := acc.unrecognized ++ bs } := by
  unfold decodeArray32Into
  exact decodeMsg_unknownOnly array32H array32U array32Known array32H_unknown
    (fun a => by simp [array32U]) (fun a x y => by simp [array32U]) bs acc h

theorem decodeArray32Into_encode (a : Array32Msg) (hwf : a.WF) (hnf : a.NF) (hsz : (encodeArray32 a).length < 2 ^ 64) :
    decodeArray32Into {} (encodeArray32 a) = .ok a := by
  obtain ⟨hc, hbm, hof, hfl, hw, hbe⟩ := hwf
  have E : Eats array32H array32U {} (encodeArray32Known a) { a with unrecognized := [] } :=
    .append (.scalar (fun a x => { a with cnt := x }) (fun _ => rfl) rfl (lt32 hc)) <|
    .append (.packed (fun a l => { a with bitmaps := l }) _ (by simp [array32H, repU64_packed _ hbm]) rfl) <|
    .append (.packed (fun a l => { a with offsets := l }) _ (by simp [array32H, repI32_packed _ hof]) rfl) <|
    .append (.bytes (fun a x => { a with elts := x }) _ rfl rfl) <|
    .append (.scalar (fun a x => { a with flags := x }) (fun _ => rfl) rfl hfl) <|
    .append (.scalar (fun a x => { a with eltWidth := x }) (fun _ => rfl) rfl (lt32 hw)) <|
    .sub (fun (a : Array32Msg) x => { a with bmElts := x }) _ decodeBits_encode hbe
      (fun _ _ hd => by simp [array32H, msgF, hd]) rfl
  rw [encodeArray32, List.length_append] at hsz
  rw [decodeArray32Into, encodeArray32, E (by omega), ← decodeArray32Into, decodeArray32Into_unknown _ _ hnf,
    List.nil_append]

theorem array32I32OK_of_WF (a : Array32Msg) (h : a.WF) : array32I32OK a = true := by
  obtain ⟨hc, _, hof, _, hw, hbe⟩ := h
  simp [array32I32OK, i32ok, hc, hw, all_i32ok _ hof,
    optOK_of bitsI32OK_of_WF hbe]

theorem decodeArray32_encode (a : Array32Msg) (hwf : a.WF) (hnf : a.NF) (hsz : (encodeArray32 a).length < 2 ^ 64) :
    decodeArray32 (encodeArray32 a) = .ok a := by
  unfold decodeArray32
  rw [decodeArray32Into_encode a hwf hnf hsz, checkI32_ok _ _ (array32I32OK_of_WF a hwf)]

theorem protoSizeArray32_eq (a : Array32Msg) : protoSizeArray32 a = (encodeArray32 a).length := by
  simp only [protoSizeArray32, encodeArray32, encodeArray32Known, List.length_append, encVarintF_length,
    encPackedF_length, encBytesF_length, encMsgF_length protoSizeBits_eq]

end Wire
