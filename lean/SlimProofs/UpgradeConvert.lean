import SlimProofs.LegacyConvertMain
import SlimProofs.LegacyConvertEnc
import SlimProofs.EncodeWF
import SlimProofs.SizeFields
import SlimProofs.InputCore
/-
  The records the loader makes of a three-section stream are `Refine.Small`
  (`LegacyConvert.Converted.small`), so their message is well formed and fits a frame by the
  theorems about every `Small` trie: the hypotheses of the Marshal/Unmarshal round trip in
  `SlimProps/C06Upgrade.lean` (`convert_msg_ok`).  `Small` is a matter of int32 counters; they are
  bounded by the number `n` of keys because every inner record of the converted trie has at least
  two labels and none is big (`counts_of_twoLab`: `n` leaves, at most `n − 1` inner nodes, `2n − 1`
  nodes, `17 (n − 1)` label bits), no prefix is stored without the prefix options, and the leaf
  array holds `n` values of width `w`.
-/

namespace Refine
open Slim Bits SizeFields

theorem inners_noBig {t : Trie1} (hs : ShapeOK t) (hbc : t.bigCnt = 0) :
    ∀ r ∈ eInners t, r.big = false := by
  intro r hr
  obtain ⟨m, hm⟩ := List.mem_iff_getElem?.mp hr
  obtain ⟨j, hj, _⟩ := inner_at t m r hm
  have := hs.bigPrefix j r hj
  rw [hbc] at this
  cases hb : r.big with
  | false => rfl
  | true => have := this.mp hb; omega

theorem counts_of_twoLab {t : Trie1} (hs : ShapeOK t)
    (hlab : ∀ nd ∈ t.nodes.toList, SizeLabels.LabelsOK nd) (hbc : t.bigCnt = 0) :
    (eInners t).length + 1 ≤ t.leafKeyIdx.size ∧ t.nodes.size + 1 ≤ 2 * t.leafKeyIdx.size ∧
    labelBits t ≤ 17 * (eInners t).length := by
  have hnb := inners_noBig hs hbc
  have h0 : bigCount t = 0 := by
    unfold bigCount
    rw [List.countP_eq_zero]
    intro r hr; rw [hnb r hr]; simp
  have hN := nodes_eq_labels hs
  have hNL := nodes_eq_leaves_inners t
  have hΛ := labelSum_ge t hlab
  have hB := sizes_sum_le hs
  have hL := hs.leafCnt
  rw [h0] at hΛ hB
  generalize labelBits t = B at hB ⊢
  generalize labelSum t = Λ at hN hΛ
  generalize (eInners t).length = I at *
  generalize t.nodes.size = N at *
  generalize leavesBefore t.nodes N = L at *
  generalize t.leafKeyIdx.size = K at *
  omega

theorem eStoredPs_nil {t : Trie1} (hs : ShapeOK t) (h : t.opt.inner = false) : eStoredPs t = [] := by
  refine List.filterMap_eq_nil_iff.mpr fun r hr => ?_
  obtain ⟨m, hm⟩ := List.mem_iff_getElem?.mp hr
  obtain ⟨j, hj, _⟩ := inner_at t m r hm
  have := hs.pref j r hj
  unfold storedOf
  cases hp : r.pref with
  | stored ns => rw [hp, PrefOK, h] at this; cases this.1
  | _ => rfl

theorem eLeafPs_nil {t : Trie1} (hs : ShapeOK t) (h : t.opt.leaf = false) : eLeafPs t = [] := by
  refine List.filterMap_eq_nil_iff.mpr fun lp hlp => ?_
  obtain ⟨n, hn, hl⟩ := List.mem_filterMap.mp hlp
  obtain ⟨j, hj⟩ := List.mem_iff_getElem?.mp hn
  rw [Array.getElem?_toList] at hj
  cases n with
  | inner r => cases hl
  | leaf ith lp' =>
    cases hl
    cases lp with
    | none => rfl
    | some b => rw [(hs.leafPref j ith b hj).1] at h; cases h

end Refine

theorem LegacyConvert.getD_flatten_le {vals : List Bytes} {w : Nat} (hw : ∀ v ∈ vals, v.length = w)
    (ks : List Nat) : (ks.map (fun k => vals.getD k [])).flatten.length ≤ w * ks.length := by
  rw [← List.flatMap_def]
  refine SizeV.flatMap_length_le _ w ks fun k _ => ?_
  rw [List.getD_eq_getElem?_getD]
  cases hg : vals[k]? with
  | none => exact Nat.zero_le w
  | some x => exact Nat.le_of_eq (hw x (List.mem_of_getElem? hg))

open LegacyConvert Refine in
/-- **The records the loader makes of a three-section stream are `Small`**, under the limits of
    `C06_load_legacy_3section`: `hcount` bounds the node and label counters, `hwn` the leaf bytes
    (`w · n + 64 ≤ w · (2n + 1)` once `w · n ≥ 64`). -/
theorem LegacyConvert.Converted.small {keys vals : List Bytes} {t' : Trie1} {lk : Array Nat}
    (C : Converted keys vals t' lk) {w : Nat} (hw : ∀ v ∈ vals, v.length = w)
    (hcount : 32 * keys.length + 143 < 2 ^ 31) (hwn : w * (2 * keys.length + 1) < 2 ^ 31) :
    Small (fixup lk t') ∧ t'.nodes.size + 1 ≤ 2 * keys.length := by
  obtain ⟨c1, c2, c3⟩ := counts_of_twoLab C.shape C.two C.big
  rw [show (fixup lk t').leafKeyIdx.size = keys.length from C.cnt] at c1 c2
  have hopt : (fixup lk t').opt = {} := C.opt
  refine ⟨InputCore.small_of_core (fun _ => C.shape)
    ⟨by rw [show (fixup lk t').bigCnt = 0 from C.big]; decide, by omega, by omega, ?_, ?_, ?_⟩,
    (show (fixup lk t').nodes.size = t'.nodes.size from fixNodes_size t'.nodes) ▸ c2⟩
  · rw [eStoredPs_nil C.shape (by rw [hopt])]; decide
  · rw [eLeafPs_nil C.shape (by rw [hopt])]; decide
  · intro es he
    cases (show (fixup lk t').elts = _ from C.elts).symm.trans he
    have hf := getD_flatten_le hw lk.toList
    have hmul : w * (2 * keys.length + 1) = 2 * (w * keys.length) + w := by
      rw [Nat.mul_add, Nat.mul_one, Nat.mul_left_comm]
    have hl : lk.toList.length = keys.length := Array.length_toList.trans C.cnt
    rw [hl] at hf
    rw [List.length_map, hl]
    omega

open LegacyConvert Refine Wire Frame in
theorem convert_msg_ok {keys vals : List Bytes} {t' : Trie1} {lk : Array Nat}
    (C : Converted keys vals t' lk) {w : Nat} (hw : ∀ v ∈ vals, v.length = w)
    (hcount : 32 * keys.length + 143 < 2 ^ 31) (hwn : w * (2 * keys.length + 1) < 2 ^ 31) :
    (Slim.encodeCreator t').WF ∧ (Slim.encodeCreator t').NF ∧
    BodyOK (encodeSlim (Slim.encodeCreator t')) ∧ t'.nodes.size + 1 ≤ 2 * keys.length := by
  obtain ⟨hsm, hsz⟩ := C.small hw hcount hwn
  have hwf := encodeCreator_WF C.shape hsm
  have hb := hsm.body
  rw [encode_eq _ (Nat.ne_of_gt C.shape.nonempty)] at hb
  rw [encodeCreator_fixup] at hwf hb
  exact ⟨hwf, SlimMsg.NF_of_nil (encodeCreator_unrecognized t'), hb, hsz⟩

#print axioms convert_msg_ok
