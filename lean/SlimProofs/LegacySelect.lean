import SlimProofs.LegacyPrefix
/-
  The position bitmaps of 0.5.10 / 0.5.11 streams carry *word indexes* in `SelectIndex`
  (`pos >> 6`; `LegacyWrite.wordIndexSelect`), while today's `bitmap.Select32R64` reads an entry as
  a bit position and starts its walk over the rank index at word `entry >> 6`.  An earlier start
  word only lengthens the walk (`Bits.select32R64_anySelect`), so the answers are the same, and the
  position bitmap as those versions wrote it still returns the element boundaries that
  `innerPrefixTobitstr_map` asks for.
-/
open Bits

namespace Legacy

theorem select32R64_wordIndex (ws : List Nat) (i a : Nat) (ha : (toArray ws)[i]? = some a) :
    select32R64 (LegacyWrite.wordIndexSelect (mk ws "s32")) i
      = .ok (a, ((toArray ws)[i + 1]?).getD (64 * ws.length)) := by
  obtain ⟨s0, hsel, hs0a⟩ := indexSelect32_entry ws i a ha
  unfold LegacyWrite.wordIndexSelect
  rw [mk_s32]
  simp only
  apply select32R64_anySelect ws _ i a (s0 / 64) ha
  · rw [List.getElem?_map, hsel]; rfl
  · exact Nat.le_trans (Nat.div_le_self _ _) (Nat.div_le_div_right hs0a)

theorem select_positions_old (sizes : List Nat) (hpos : ∀ s ∈ sizes, 0 < s) :
    SelectsBoundaries (LegacyWrite.wordIndexSelect (newBM (Slim.stepToPos sizes) 0 "s32")) sizes :=
  selectsBoundaries_of_toArray (toArray_positions_pos sizes hpos) (select32R64_wordIndex _)

end Legacy
