import SlimProofs.Shape
import SlimProofs.Refine.ListAux
/-
  SlimProofs.Refine.Enc — the components of `Slim.encodeCreator t` under names, the message as
  the record of these components (`encodeCreator_eq`), its fields as projections of that, and
  the flags `Slim.view` reads off them.  `eX t` is the local variable `X` of `Slim.encodeCreator`
  (Go: `creator.build`), as a function of the trie.
-/

namespace Refine

open Bits Slim

def innerOf : Node → Option InnerRec
  | .inner r => some r
  | .leaf _ _ => none

def leafOf : Node → Option (Option Bytes)
  | .leaf _ lp => some lp
  | .inner _ => none

abbrev eInners (t : Trie1) : List InnerRec := innerRecs t.nodes

def eCnts (t : Trie1) : Array (List (Nat × Nat)) :=
  (eInners t).foldl (fun (a : Array (List (Nat × Nat))) r =>
      if !r.big && r.labels.length < maxShortSize + 1
      then a.modify r.labels.length (fun tbl => bumpCount tbl (bm17 r.labels)) else a)
    (Array.replicate (maxShortSize + 1) [])

def eSorted (t : Trie1) : Array (List (Nat × Nat)) := (eCnts t).map sortCounts

def eShortSize (t : Trie1) : Nat := findMinShortSize (eSorted t)

def eTbl (t : Trie1) : List Nat := (shortTable (eSorted t) (eShortSize t)).1

def eMostUsed (t : Trie1) : List (Nat × Nat) := (shortTable (eSorted t) (eShortSize t)).2

/-- the substitution of one inner record: (bit positions, width, isShort) -/
def subOf (mostUsed : List (Nat × Nat)) (shortSize : Nat) (r : InnerRec) : List Nat × Nat × Bool :=
  if r.big then (r.labels, bigInnerSize, false) else
  match mostUsed.find? (·.1 == bm17 r.labels) with
  | some (_, short) => (toArray [short], shortSize, true)
  | none => (r.labels, innerSize, false)

def eSub (t : Trie1) : List (List Nat × Nat × Bool) :=
  (eInners t).map (subOf (eMostUsed t) (eShortSize t))

def eShortIndex (t : Trie1) : List Nat :=
  (List.range (eInners t).length).filter (fun i => ((eSub t).getD i ([], 0, false)).2.2)

def eInnerIdx (t : Trie1) : List Nat :=
  (List.range t.nodes.size).filter (fun i =>
    match t.nodes[i]? with | some (.inner _) => true | _ => false)

def ePrefIdx (t : Trie1) : List Nat :=
  (List.range (eInners t).length).filter (fun i =>
    match ((eInners t).getD i default).pref with | .none => false | _ => true)

def storedOf (r : InnerRec) : Option Bytes :=
  match r.pref with | .stored ns => some (bitstrOf ns) | _ => none

def stepOf (r : InnerRec) : Option Bytes :=
  match r.pref with | .step n => some (encStep n) | _ => none

def eStoredPs (t : Trie1) : List Bytes := (eInners t).filterMap storedOf

def eIps (t : Trie1) : VLenArrayMsg :=
  if t.opt.inner then
    { eltCnt := (ePrefIdx t).length
      presenceBM := some (newBM (ePrefIdx t) (eInners t).length "r128")
      positionBM := some (newBM (stepToPos ((eStoredPs t).map List.length)) 0 "s32")
      bytes := (eStoredPs t).flatten }
  else
    { eltCnt := (ePrefIdx t).length
      presenceBM := some (newBM (ePrefIdx t) (eInners t).length "r128")
      fixedSize := 2
      bytes := ((eInners t).filterMap stepOf).flatten }

def eLeafLps (t : Trie1) : List (Option Bytes) := t.nodes.toList.filterMap leafOf

def eLeafIdx (t : Trie1) : List Nat :=
  (List.range (eLeafLps t).length).filter (fun i => ((eLeafLps t).getD i none).isSome)

def eLeafPs (t : Trie1) : List Bytes := (eLeafLps t).filterMap id

def eLps (t : Trie1) : Option VLenArrayMsg :=
  if t.opt.leaf then
    some { presenceBM := some (newBM (eLeafIdx t) (eLeafLps t).length "r64")
           positionBM := some (newBM (stepToPos ((eLeafPs t).map List.length)) 0 "s32")
           bytes := (eLeafPs t).flatten }
  else none

def eInnersBM (t : Trie1) : BitmapMsg :=
  mk (ofMany ((eSub t).map (·.1)) ((eSub t).map (·.2.1))) "r128"

theorem eInners_eq (t : Trie1) : eInners t = t.nodes.toList.filterMap innerOf := by
  unfold eInners innerRecs
  congr 1

theorem innersBefore_eq (nodes : Array Node) (j : Nat) :
    innersBefore nodes j = (nodes.toList.take j).filterMap innerOf := by
  unfold innersBefore
  congr 1

theorem stepOf_length {l : List InnerRec} : ∀ p ∈ l.filterMap stepOf, p.length = 2 := by
  intro p hp
  obtain ⟨r, _, hr⟩ := List.mem_filterMap.mp hp
  unfold stepOf at hr
  split at hr
  · cases hr; rfl
  · cases hr

theorem eIps_positionBM_stored {t : Trie1} (h : t.opt.inner = true) :
    (eIps t).positionBM = some (newBM (stepToPos ((eStoredPs t).map List.length)) 0 "s32") := by
  unfold eIps; rw [h]; rfl

theorem eIps_bytes_stored {t : Trie1} (h : t.opt.inner = true) :
    (eIps t).bytes = (eStoredPs t).flatten := by
  unfold eIps; rw [h]; rfl

theorem eIps_positionBM_step {t : Trie1} (h : t.opt.inner = false) : (eIps t).positionBM = none := by
  unfold eIps; rw [h]; rfl

theorem eIps_bytes_step {t : Trie1} (h : t.opt.inner = false) :
    (eIps t).bytes = ((eInners t).filterMap stepOf).flatten := by
  unfold eIps; rw [h]; rfl

theorem eIps_filter (t : Trie1) (h : t.opt.inner = false) :
    eIps t = { eltCnt := (ePrefIdx t).length
               presenceBM := some (newBM (ePrefIdx t) (eInners t).length "r128")
               fixedSize := 2
               bytes := ((eInners t).filterMap stepOf).flatten } := by
  unfold eIps; simp [h]

theorem encodeCreator_eq (t : Trie1) : encodeCreator t =
    { bigInnerCnt := t.bigCnt
      shortSize := eShortSize t
      nodeTypeBM := if t.nodes.size = 0 then none else some (newBM (eInnerIdx t) t.nodes.size "r64")
      inners := some (eInnersBM t)
      shortBM := some (newBM (eShortIndex t) (eInners t).length "r64")
      shortTable := eTbl t
      innerPrefixes := some (eIps t)
      leafPrefixes := eLps t
      leaves := match t.elts with
        | some es => newVLenArray es
        | none => none } := by
  unfold encodeCreator eInnersBM eShortIndex eSub eTbl eMostUsed eShortSize eSorted eCnts
  dsimp only
  -- with the pair named, `rfl` does not evaluate `shortTable` to find its two components
  generalize shortTable _ _ = p
  rfl

theorem enc_bigInnerCnt (t : Trie1) : (encodeCreator t).bigInnerCnt = t.bigCnt := by
  rw [encodeCreator_eq]
theorem enc_shortSize (t : Trie1) : (encodeCreator t).shortSize = eShortSize t := by
  rw [encodeCreator_eq]
theorem enc_nodeTypeBM (t : Trie1) :
    (encodeCreator t).nodeTypeBM
      = if t.nodes.size = 0 then none else some (newBM (eInnerIdx t) t.nodes.size "r64") := by
  rw [encodeCreator_eq]
theorem enc_inners (t : Trie1) : (encodeCreator t).inners = some (eInnersBM t) := by
  rw [encodeCreator_eq]
theorem enc_shortBM (t : Trie1) :
    (encodeCreator t).shortBM = some (newBM (eShortIndex t) (eInners t).length "r64") := by
  rw [encodeCreator_eq]
theorem enc_shortTable (t : Trie1) : (encodeCreator t).shortTable = eTbl t := by
  rw [encodeCreator_eq]
theorem enc_innerPrefixes (t : Trie1) : (encodeCreator t).innerPrefixes = some (eIps t) := by
  rw [encodeCreator_eq]
theorem enc_leafPrefixes (t : Trie1) : (encodeCreator t).leafPrefixes = eLps t := by
  rw [encodeCreator_eq]

theorem encodeCreator_unrecognized (t : Trie1) : (encodeCreator t).unrecognized = [] := by
  rw [encodeCreator_eq]

theorem encode_eq (t : Trie1) (h : t.nodes.size ≠ 0) : encode t = encodeCreator t := by
  unfold encode; rw [if_neg h]

theorem view_encode_isEmpty (t : Trie1) : (view (encode t)).isEmpty = t.view.isEmpty := by
  show (encode t).nodeTypeBM.isNone = (t.nodes.size == 0)
  unfold encode
  by_cases h : t.nodes.size = 0
  · rw [if_pos h, h]; rfl
  · rw [if_neg h, enc_nodeTypeBM, if_neg h, beq_eq_false_iff_ne.mpr h]; rfl

theorem view_encode_leafPrefixesOn (t : Trie1) (h : t.nodes.size ≠ 0) :
    (view (encode t)).leafPrefixesOn = t.opt.leaf := by
  show (encode t).leafPrefixes.isSome = t.opt.leaf
  rw [encode_eq t h, enc_leafPrefixes, eLps]
  cases t.opt.leaf <;> rfl

theorem view_encode_scanOK (t : Trie1) (h : t.nodes.size ≠ 0) :
    (view (encode t)).scanOK = (t.opt.inner && t.opt.leaf) := by
  show (match (encode t).innerPrefixes, (encode t).leafPrefixes with
    | some ips, some _ => ips.positionBM.isSome
    | _, _ => false) = (t.opt.inner && t.opt.leaf)
  rw [encode_eq t h, enc_leafPrefixes, enc_innerPrefixes, eLps, eIps]
  cases t.opt.leaf <;> cases t.opt.inner <;> rfl

end Refine
