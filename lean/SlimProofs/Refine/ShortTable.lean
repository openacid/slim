import SlimProofs.Refine.Enc
/-
  SlimProofs.Refine.ShortTable — `bm17`, `toArray [c]`; `sortCounts` sorts (a permutation, ordered
  by a strict total order on tables with distinct bitmaps, hence the only ordered arrangement of
  the table: `sortCounts_unique`); the invariants of the counting fold, of `shortTable` and of
  `findMinShortSize`, each for an arbitrary table.

  `Refine/Sub` and `SizeShort` put in the statistics of a trie `t`.  What the rest of the development
  uses of its short table: `eShortSize_le` wherever the short size has to be a small number;
  `eTbl_length` and, under `ShapeOK`, `eTbl_spec` (both in `Refine/Sub`) for the readers
  (`Refine/Inner`, through `subOf_spec`), for `WF` and for the sizes; `SizeShort.eShortSize_small` for
  the size bound C17 and the evaluation of the encoder on small tries (`EncodeAt`);
  `sortCounts_perm` and `eCnts_nodup` for C05 (the iteration order of Go's map does not show).
  Nothing uses which bitmap gets which code, that `mostUsed` is a function, or that the rows are
  sorted (`sortCounts_sorted` serves `sortCounts_unique` only).
-/

namespace Refine

open Bits Slim

theorem foldl_or_testBit (labels : List Nat) (a k : Nat) :
    (labels.foldl (fun a i => a ||| (1 <<< i)) a).testBit k = (a.testBit k || decide (k ∈ labels)) := by
  induction labels generalizing a with
  | nil => simp
  | cons l ls ih =>
    rw [List.foldl_cons, ih, Nat.testBit_or, Nat.one_shiftLeft, Nat.testBit_two_pow]
    by_cases h : l = k
    · simp [h]
    · have : ¬ k = l := fun e => h e.symm
      simp [h, this]

theorem testBit_bm17 (labels : List Nat) (k : Nat) : (bm17 labels).testBit k = decide (k ∈ labels) := by
  unfold bm17; rw [foldl_or_testBit]; simp

theorem bm17_lt {labels : List Nat} {n : Nat} (h : ∀ l ∈ labels, l < n) : bm17 labels < 2 ^ n := by
  apply Nat.lt_pow_two_of_testBit
  intro i hi
  rw [testBit_bm17]
  exact decide_eq_false fun hm => Nat.not_lt.mpr hi (h i hm)

theorem popcount_bm17 {labels : List Nat} (h : Asc labels) (hlt : ∀ l ∈ labels, l < 64) :
    popcount (bm17 labels) = labels.length := by
  rw [popcount_eq_cnt]
  have : (bm17 labels).testBit = fun j => decide (j ∈ labels) := by
    funext k; exact testBit_bm17 labels k
  rw [this, cnt_mem_asc h, List.filter_eq_self.mpr]
  intro a ha; simp [hlt a ha]

theorem filter_bm17 {labels : List Nat} (h : Asc labels) (n : Nat) (hlt : ∀ l ∈ labels, l < n) :
    (List.range n).filter (fun k => (bm17 labels).testBit k) = labels := by
  apply filter_range_eq_of_asc h
  · intro x _; rw [testBit_bm17]; simp
  · exact hlt

theorem getBit_singleton (c i : Nat) (hi : i < 64) : getBit [c] i = c.testBit i := by
  rw [getBit_cons, if_pos hi]

theorem mem_toArray_singleton (c x : Nat) : x ∈ toArray [c] ↔ x < 64 ∧ c.testBit x = true := by
  rw [toArray_eq]
  simp only [List.length_singleton, Nat.mul_one, List.mem_filter, List.mem_range]
  exact and_congr_right fun h1 => by rw [getBit_singleton c x h1]

theorem length_toArray_singleton (c : Nat) : (toArray [c]).length = popcount c := by
  rw [toArray_length, popcount_eq_cnt]
  apply cnt_congr
  intro j hj
  exact getBit_singleton c j (by simpa using hj)

theorem lt_of_testBit {c x s : Nat} (hc : c < 2 ^ s) (hx : c.testBit x = true) : x < s := by
  rcases Nat.lt_or_ge x s with h | h
  · exact h
  · have : c < 2 ^ x := Nat.lt_of_lt_of_le hc (Nat.pow_le_pow_right (by decide) h)
    rw [Nat.testBit_lt_two_pow this] at hx; cases hx

theorem toArray_singleton_lt {c s : Nat} (hc : c < 2 ^ s) : ∀ x ∈ toArray [c], x < s := by
  intro x hx
  exact lt_of_testBit hc ((mem_toArray_singleton c x).mp hx).2

end Refine

namespace Slim

/-- the comparator of `sortedBMCounts`: count descending, then bitmap descending -/
def Before (x y : Nat × Nat) : Prop := x.2 > y.2 ∨ (x.2 = y.2 ∧ x.1 > y.1)

instance (x y : Nat × Nat) : Decidable (Before x y) := by unfold Before; infer_instance

theorem insertSorted_cons (x y : Nat × Nat) (ys : List (Nat × Nat)) :
    insertSorted x (y :: ys) = if Before x y then x :: y :: ys else y :: insertSorted x ys := by
  have hb : (decide (x.2 > y.2) || (x.2 == y.2 && decide (x.1 > y.1))) = true ↔ Before x y := by
    simp only [Before, Bool.or_eq_true, Bool.and_eq_true, decide_eq_true_eq, beq_iff_eq]
  rw [insertSorted]
  simp only [hb]

theorem Before.trans {x y z : Nat × Nat} (h1 : Before x y) (h2 : Before y z) : Before x z := by
  rcases h1 with h1 | ⟨e1, h1⟩ <;> rcases h2 with h2 | ⟨e2, h2⟩
  · exact .inl (Nat.lt_trans h2 h1)
  · exact .inl (e2 ▸ h1)
  · exact .inl (e1 ▸ h2)
  · exact .inr ⟨e1.trans e2, Nat.lt_trans h2 h1⟩

theorem Before.asymm {x y : Nat × Nat} (h1 : Before x y) (h2 : Before y x) : False := by
  rcases h1 with h1 | ⟨e1, h1⟩ <;> rcases h2 with h2 | ⟨e2, h2⟩
  · exact Nat.lt_asymm h1 h2
  · exact Nat.lt_irrefl _ (e2 ▸ h1)
  · exact Nat.lt_irrefl _ (e1 ▸ h2)
  · exact Nat.lt_asymm h1 h2

theorem Before.total {x y : Nat × Nat} (h : x.1 ≠ y.1) (hn : ¬ Before x y) : Before y x := by
  rcases Nat.lt_trichotomy x.2 y.2 with hlt | heq | hgt
  · exact .inl hlt
  · rcases Nat.lt_or_gt_of_ne h with h1 | h1
    · exact .inr ⟨heq.symm, h1⟩
    · exact absurd (.inr ⟨heq, h1⟩) hn
  · exact absurd (.inl hgt) hn

theorem insertSorted_perm (x : Nat × Nat) (l : List (Nat × Nat)) : (insertSorted x l).Perm (x :: l) := by
  induction l with
  | nil => simp [insertSorted]
  | cons y ys ih =>
    rw [insertSorted_cons]
    split
    · exact List.Perm.refl _
    · exact ((List.Perm.cons y ih).trans (List.Perm.swap x y ys))

theorem insertSorted_sorted (x : Nat × Nat) (l : List (Nat × Nat)) (hs : l.Pairwise Before)
    (hk : ∀ y ∈ l, x.1 ≠ y.1) : (insertSorted x l).Pairwise Before := by
  induction l with
  | nil => simp [insertSorted]
  | cons y ys ih =>
    rw [insertSorted_cons]
    obtain ⟨hy, hys⟩ := List.pairwise_cons.mp hs
    split
    · next hb =>
      refine List.pairwise_cons.mpr ⟨?_, hs⟩
      intro z hz
      rcases List.mem_cons.mp hz with rfl | hz
      · exact hb
      · exact hb.trans (hy z hz)
    · next hb =>
      have hyx : Before y x := Before.total (hk y (by simp)) hb
      refine List.pairwise_cons.mpr ⟨?_, ih hys (fun z hz => hk z (List.mem_cons_of_mem _ hz))⟩
      intro z hz
      rcases List.mem_cons.mp ((insertSorted_perm x ys).mem_iff.mp hz) with rfl | hz
      · exact hyx
      · exact hy z hz

/-- The accumulating `foldl` read as a `foldr`: the two inductions below need no accumulator. -/
theorem sortCounts_eq (l : List (Nat × Nat)) : sortCounts l = l.reverse.foldr insertSorted [] := by
  rw [List.foldr_reverse]
  rfl

theorem foldr_insertSorted_perm (l : List (Nat × Nat)) : (l.foldr insertSorted []).Perm l := by
  induction l with
  | nil => exact List.Perm.refl _
  | cons x xs ih => exact (insertSorted_perm x _).trans (ih.cons x)

theorem sortCounts_perm_self (l : List (Nat × Nat)) : (sortCounts l).Perm l := by
  rw [sortCounts_eq]
  exact (foldr_insertSorted_perm _).trans (List.reverse_perm l)

theorem foldr_insertSorted_sorted (l : List (Nat × Nat)) (hk : (l.map (·.1)).Nodup) :
    (l.foldr insertSorted []).Pairwise Before := by
  induction l with
  | nil => exact List.Pairwise.nil
  | cons x xs ih =>
    obtain ⟨hx, hxs⟩ := List.nodup_cons.mp hk
    exact insertSorted_sorted x _ (ih hxs) fun y hy e =>
      hx (List.mem_map.mpr ⟨y, (foldr_insertSorted_perm xs).mem_iff.mp hy, e.symm⟩)

theorem sortCounts_sorted (l : List (Nat × Nat)) (hk : (l.map (·.1)).Nodup) :
    (sortCounts l).Pairwise Before := by
  rw [sortCounts_eq]
  exact foldr_insertSorted_sorted _ (((List.reverse_perm l).map _).nodup_iff.mpr hk)

/-- On a table with distinct bitmaps the comparator is a strict total order, so `sortCounts l` is
    the only ordered arrangement of `l`.  This is why the model's insertion sort and Go's unstable
    `sort.Slice` over a slice filled by ranging over a map give the same list (the tables have
    distinct bitmaps: `C05_count_tables_nodup`). -/
theorem sortCounts_unique {l l' : List (Nat × Nat)} (hk : (l.map (·.1)).Nodup) (hp : l'.Perm l)
    (hs : l'.Pairwise Before) : l' = sortCounts l :=
  List.Perm.eq_of_pairwise (le := Before) (fun _ _ _ _ h1 h2 => (h1.asymm h2).elim) hs
    (sortCounts_sorted l hk) (hp.trans (sortCounts_perm_self l).symm)

theorem sortCounts_perm {l₁ l₂ : List (Nat × Nat)} (hp : l₁.Perm l₂) (hk : (l₁.map (·.1)).Nodup) :
    sortCounts l₁ = sortCounts l₂ :=
  sortCounts_unique ((hp.map (·.1)).nodup_iff.mp hk) ((sortCounts_perm_self l₁).trans hp)
    (sortCounts_sorted l₁ hk)

theorem mem_bumpCount {tbl : List (Nat × Nat)} {bm : Nat} {x : Nat × Nat} (h : x ∈ bumpCount tbl bm) :
    x.1 = bm ∨ x ∈ tbl := by
  induction tbl with
  | nil => exact .inl (List.mem_singleton.mp h ▸ rfl)
  | cons p tbl ih =>
    obtain ⟨b, c⟩ := p
    rw [bumpCount] at h
    split at h
    · next hb =>
      rcases List.mem_cons.mp h with rfl | h
      · exact .inl hb
      · exact .inr (List.mem_cons_of_mem _ h)
    · rcases List.mem_cons.mp h with rfl | h
      · exact .inr List.mem_cons_self
      · exact (ih h).imp_right (List.mem_cons_of_mem _)

theorem bumpCount_nodup (tbl : List (Nat × Nat)) (bm : Nat) (h : (tbl.map (·.1)).Nodup) :
    ((bumpCount tbl bm).map (·.1)).Nodup := by
  induction tbl with
  | nil => exact List.nodup_cons.mpr ⟨List.not_mem_nil, List.nodup_nil⟩
  | cons p tbl ih =>
    obtain ⟨b, c⟩ := p
    obtain ⟨hb, ht⟩ := List.nodup_cons.mp h
    rw [bumpCount]
    split
    · exact h
    · next hne =>
      refine List.nodup_cons.mpr ⟨fun hm => ?_, ih ht⟩
      obtain ⟨y, hy, e⟩ := List.mem_map.mp hm
      rcases mem_bumpCount hy with e' | hy'
      · exact hne (e.symm.trans e')
      · exact hb (List.mem_map.mpr ⟨y, hy', e⟩)

end Slim

namespace Refine

open Bits Slim

theorem getD_modify {α : Type} (a : Array α) (i n : Nat) (f : α → α) (d : α) :
    (a.modify i f).getD n d = if i = n ∧ n < a.size then f (a.getD n d) else a.getD n d := by
  rw [Array.getD_eq_getD_getElem?, Array.getD_eq_getD_getElem?, Array.getElem?_modify]
  by_cases h : n < a.size
  · rw [Array.getElem?_eq_getElem h]
    simp only [h, and_true]
    split <;> rfl
  · rw [Array.getElem?_eq_none (Nat.le_of_not_lt h)]
    simp only [h, and_false, if_false]
    split <;> rfl

theorem foldl_bump_inv {α : Type} (c : α → Bool) (idx key : α → Nat)
    (Q : Nat → List (Nat × Nat) → Prop) (l : List α)
    (hstep : ∀ r ∈ l, c r = true → ∀ tbl, Q (idx r) tbl → Q (idx r) (bumpCount tbl (key r)))
    (a : Array (List (Nat × Nat))) (ha : ∀ n, Q n (a.getD n [])) :
    ∀ n, Q n ((l.foldl (fun (a : Array (List (Nat × Nat))) r =>
      if c r then a.modify (idx r) (fun tbl => bumpCount tbl (key r)) else a) a).getD n []) := by
  induction l generalizing a with
  | nil => exact ha
  | cons r rs ih =>
    refine ih (fun r' hr' => hstep r' (List.mem_cons_of_mem _ hr')) _ fun n => ?_
    dsimp only
    split
    · next hc =>
      rw [getD_modify]
      split
      · next h => exact h.1 ▸ hstep r List.mem_cons_self hc _ (ha _)
      · exact ha n
    · exact ha n

theorem getD_replicate {α : Type} (k n : Nat) (d : α) : (Array.replicate k d).getD n d = d := by
  rw [Array.getD_eq_getD_getElem?, Array.getElem?_replicate]
  split <;> rfl

theorem eSorted_getD (t : Trie1) (n : Nat) :
    (eSorted t).getD n [] = sortCounts ((eCnts t).getD n []) := by
  unfold eSorted
  rw [Array.getD_eq_getD_getElem?, Array.getD_eq_getD_getElem?, Array.getElem?_map]
  cases (eCnts t)[n]? <;> rfl

theorem eCnts_nodup (t : Trie1) : ∀ n, (((eCnts t).getD n []).map (·.1)).Nodup := by
  unfold eCnts
  refine foldl_bump_inv _ _ _ (fun _ tbl => (tbl.map (·.1)).Nodup) _
    (fun _ _ _ tbl h => bumpCount_nodup tbl _ h) _ fun n => ?_
  rw [getD_replicate]
  exact List.nodup_nil

theorem getElem?_reverse_cons {tbl : List Nat} {i v : Nat} (b : Nat) (h : tbl.reverse[i]? = some v) :
    (b :: tbl).reverse[i]? = some v := by
  rw [List.reverse_cons, List.getElem?_append_left (List.getElem?_eq_some_iff.mp h).1]
  exact h

theorem mem_of_mem_setTail {sorted : Array (List (Nat × Nat))} {i : Nat} {x : Nat × Nat}
    {rest : List (Nat × Nat)} (hs : sorted.getD i [] = x :: rest) (n : Nat) :
    ∀ y ∈ (sorted.setIfInBounds i rest).getD n [], y ∈ sorted.getD n [] := by
  intro y hy
  rw [Array.getD_eq_getD_getElem?, Array.getElem?_setIfInBounds] at hy
  split at hy
  · next hn =>
    subst hn
    split at hy
    · rw [hs]; exact List.mem_cons_of_mem _ hy
    · exact absurd hy List.not_mem_nil
  · rwa [← Array.getD_eq_getD_getElem?] at hy

/-- The table grows by one entry per code; every code handed out (`mu`) points at its bitmap, a
    bitmap that was counted (`G`) for nodes with as many labels as the code has bits; every entry
    is such a bitmap or the filler 0. -/
theorem shortTable_go_inv (G : Nat → Nat → Prop) (k short : Nat) (sorted : Array (List (Nat × Nat)))
    (tbl : List Nat) (mu : List (Nat × Nat))
    (h1 : tbl.length = short)
    (h2 : ∀ x ∈ mu, tbl.reverse[x.2]? = some x.1 ∧ G (popcount x.2) x.1)
    (h3 : ∀ n, ∀ x ∈ sorted.getD n [], G n x.1)
    (h4 : ∀ b ∈ tbl, b = 0 ∨ ∃ n, G n b) :
    (shortTable.go k short sorted tbl mu).1.length = short + k ∧
    (∀ x ∈ (shortTable.go k short sorted tbl mu).2,
      (shortTable.go k short sorted tbl mu).1[x.2]? = some x.1 ∧ G (popcount x.2) x.1) ∧
    ∀ b ∈ (shortTable.go k short sorted tbl mu).1, b = 0 ∨ ∃ n, G n b := by
  induction k generalizing short sorted tbl mu with
  | zero =>
    simp only [shortTable.go, List.length_reverse, Nat.add_zero]
    exact ⟨h1, h2, fun b hb => h4 b (List.mem_reverse.mp hb)⟩
  | succ k ih =>
    unfold shortTable.go
    simp only
    rw [← Nat.add_assoc, Nat.add_right_comm]
    split
    · next bm c rest hs =>
      have hG : G (popcount short) bm := h3 (popcount short) (bm, c) (by rw [hs]; simp)
      refine ih (short + 1) (sorted.setIfInBounds (popcount short) rest) (bm :: tbl)
        ((bm, short) :: mu.filter (·.1 != bm)) (by simp [h1]) ?_
        (fun n x hx => h3 n x (mem_of_mem_setTail hs n x hx))
        (List.forall_mem_cons.mpr ⟨.inr ⟨_, hG⟩, h4⟩)
      intro x hx
      simp only [List.mem_cons, List.mem_filter] at hx
      rcases hx with rfl | ⟨hx, _⟩
      · refine ⟨?_, hG⟩
        rw [List.reverse_cons, List.getElem?_append_right (by simp [h1])]; simp [h1]
      · exact ⟨getElem?_reverse_cons bm (h2 x hx).1, (h2 x hx).2⟩
    · exact ih (short + 1) sorted (0 :: tbl) mu (by simp [h1])
        (fun x hx => ⟨getElem?_reverse_cons 0 (h2 x hx).1, (h2 x hx).2⟩) h3
        (List.forall_mem_cons.mpr ⟨.inl rfl, h4⟩)

theorem findMinShortSize_go_spec (sorted : Array (List (Nat × Nat))) (k ss sz : Nat) (mc : Int) :
    findMinShortSize.go sorted k ss sz mc = sz ∨
      (findMinShortSize.go sorted k ss sz mc < ss + k ∧
        memIncr sorted (findMinShortSize.go sorted k ss sz mc) < mc) := by
  induction k generalizing ss sz mc with
  | zero => exact .inl rfl
  | succ k ih =>
    rw [findMinShortSize.go, ← Nat.add_assoc, Nat.add_right_comm]
    split
    · next hlt =>
      rcases ih (ss + 1) ss (memIncr sorted ss) with h | ⟨h1, h2⟩
      · rw [h]; exact .inr ⟨Nat.lt_add_right k (Nat.lt_succ_self ss), hlt⟩
      · exact .inr ⟨h1, Int.lt_trans h2 hlt⟩
    · exact ih (ss + 1) sz mc

theorem findMinShortSize_spec (sorted : Array (List (Nat × Nat))) :
    findMinShortSize sorted ≤ 10 ∧
      (findMinShortSize sorted = 0 ∨ memIncr sorted (findMinShortSize sorted) < memIncr sorted 0) := by
  rcases findMinShortSize_go_spec sorted maxShortSize 1 0 (memIncr sorted 0) with h | ⟨h1, h2⟩
  · exact ⟨Nat.le_trans (Nat.le_of_eq h) (Nat.zero_le _), .inl h⟩
  · exact ⟨Nat.le_of_lt_succ h1, .inr h2⟩

theorem findMinShortSize_le (sorted : Array (List (Nat × Nat))) : findMinShortSize sorted ≤ 10 :=
  (findMinShortSize_spec sorted).1

theorem eShortSize_le (t : Trie1) : eShortSize t ≤ 10 := findMinShortSize_le _

end Refine
