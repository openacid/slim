import SlimProofs.Refine.ShortTable
import SlimProofs.Refine.Extract
/-
  SlimProofs.Refine.Sub — the short table of a trie under `ShapeOK` (`eTbl_spec`: the table maps each
  code handed out back to its bitmap, which has as many bits as the code) and the substitution list
  `sub` of `creator.build` (`subOf_spec`: its two forms; `sub_shape`: each satisfies the
  hypothesis of `ofMany` and keeps the number of bits), and the bit offset of the `m`-th inner node.
-/

namespace Refine

open Bits Slim

theorem inner_index (t : Trie1) (j : Nat) (r : InnerRec) (h : t.nodes[j]? = some (.inner r)) :
    (eInners t)[(innersBefore t.nodes j).length]? = some r := by
  rw [eInners_eq, innersBefore_eq]
  exact getElem?_filterMap_take innerOf _ j (.inner r) r (by rw [Array.getElem?_toList]; exact h) rfl

theorem inner_at (t : Trie1) (m : Nat) (r : InnerRec) (h : (eInners t)[m]? = some r) :
    ∃ j, t.nodes[j]? = some (.inner r) ∧ (innersBefore t.nodes j).length = m := by
  rw [eInners_eq] at h
  obtain ⟨j, a, h1, h2, h3⟩ := getElem?_filterMap_inv innerOf _ m r h
  cases a with
  | inner r' =>
    simp only [innerOf, Option.some.injEq] at h2
    subst h2
    refine ⟨j, ?_, ?_⟩
    · rw [← Array.getElem?_toList]; exact h1
    · rw [innersBefore_eq]; exact h3
  | leaf _ _ => simp [innerOf] at h2

theorem innersBefore_eq_take (t : Trie1) (j : Nat) :
    innersBefore t.nodes j = (eInners t).take (innersBefore t.nodes j).length := by
  rw [eInners_eq, innersBefore_eq]
  exact filterMap_take_eq_take innerOf _ j

theorem innersBefore_length_le (t : Trie1) (j : Nat) :
    (innersBefore t.nodes j).length ≤ (eInners t).length := by
  rw [eInners_eq, innersBefore_eq]
  exact length_filterMap_take_le innerOf _ j

theorem rec_labels {t : Trie1} (hs : ShapeOK t) {m : Nat} {r : InnerRec} (h : (eInners t)[m]? = some r) :
    r.labels ≠ [] ∧ Asc r.labels ∧ ∀ l ∈ r.labels, l < labelBound r.big := by
  obtain ⟨j, hj, _⟩ := inner_at t m r h
  exact hs.labels j r hj

theorem rec_big {t : Trie1} (hs : ShapeOK t) {m : Nat} {r : InnerRec} (h : (eInners t)[m]? = some r) :
    r.big = true ↔ m < t.bigCnt := by
  obtain ⟨j, hj, hm⟩ := inner_at t m r h
  rw [← hm]; exact hs.bigPrefix j r hj

theorem rec_pref {t : Trie1} (hs : ShapeOK t) {m : Nat} {r : InnerRec} (h : (eInners t)[m]? = some r) :
    PrefOK t.opt r.pref := by
  obtain ⟨j, hj, _⟩ := inner_at t m r h
  exact hs.pref j r hj

theorem mem_labels {t : Trie1} (hs : ShapeOK t) {r : InnerRec} (h : r ∈ eInners t) :
    r.labels ≠ [] ∧ Asc r.labels ∧ ∀ l ∈ r.labels, l < labelBound r.big := by
  obtain ⟨m, hm⟩ := List.mem_iff_getElem?.mp h
  exact rec_labels hs hm

theorem small_bm17 {t : Trie1} (hs : ShapeOK t) {r : InnerRec} (hr : r ∈ eInners t)
    (hbig : r.big = false) : popcount (bm17 r.labels) = r.labels.length ∧ bm17 r.labels < 2 ^ 17 := by
  obtain ⟨_, hasc, hlt⟩ := mem_labels hs hr
  rw [hbig] at hlt
  exact ⟨popcount_bm17 hasc fun l hl => Nat.lt_trans (hlt l hl) (by decide), bm17_lt hlt⟩

theorem eCnts_row {t : Trie1} (hs : ShapeOK t) :
    ∀ n, ∀ x ∈ (eCnts t).getD n [], popcount x.1 = n ∧ x.1 < 2 ^ 17 := by
  unfold eCnts
  refine foldl_bump_inv _ _ _ (fun n tbl => ∀ x ∈ tbl, popcount x.1 = n ∧ x.1 < 2 ^ 17) _ ?_ _ ?_
  · intro r hr hc tbl hQ x hx
    rw [Bool.and_eq_true, Bool.not_eq_true'] at hc
    rcases mem_bumpCount hx with e | h
    · exact e ▸ small_bm17 hs hr hc.1
    · exact hQ x h
  · intro n x hx
    rw [getD_replicate] at hx
    cases hx

theorem eSorted_row {t : Trie1} (hs : ShapeOK t) :
    ∀ n, ∀ x ∈ (eSorted t).getD n [], popcount x.1 = n ∧ x.1 < 2 ^ 17 := by
  intro n x hx
  rw [eSorted_getD] at hx
  exact eCnts_row hs n x ((sortCounts_perm_self _).mem_iff.mp hx)

theorem eTbl_length (t : Trie1) : (eTbl t).length = 2 ^ eShortSize t := by
  have h := (shortTable_go_inv (fun _ _ => True) (2 ^ eShortSize t) 0 (eSorted t) [] [] rfl nofun
    (fun _ _ _ => trivial) nofun).1
  rwa [Nat.zero_add] at h

theorem eTbl_spec {t : Trie1} (hs : ShapeOK t) :
    (∀ x ∈ eMostUsed t, (eTbl t)[x.2]? = some x.1 ∧ popcount x.1 = popcount x.2) ∧
    ∀ b ∈ eTbl t, b < 2 ^ 17 := by
  obtain ⟨_, h2, h3⟩ := shortTable_go_inv (fun n b => popcount b = n ∧ b < 2 ^ 17) (2 ^ eShortSize t)
    0 (eSorted t) [] [] rfl nofun (eSorted_row hs) nofun
  refine ⟨fun x hx => ⟨(h2 x hx).1, (h2 x hx).2.1⟩, fun b hb => ?_⟩
  rcases h3 b hb with rfl | ⟨_, _, h⟩
  · exact Nat.two_pow_pos 17
  · exact h

theorem subOf_spec {t : Trie1} (hs : ShapeOK t) {r : InnerRec} (hr : r ∈ eInners t) :
    subOf (eMostUsed t) (eShortSize t) r = (r.labels, labelBound r.big, false)
    ∨ (r.big = false ∧ ∃ c, subOf (eMostUsed t) (eShortSize t) r = (toArray [c], eShortSize t, true)
        ∧ c < 2 ^ eShortSize t ∧ (eTbl t)[c]? = some (bm17 r.labels) ∧ popcount c = r.labels.length
        ∧ 0 < eShortSize t) := by
  unfold subOf
  cases hbig : r.big with
  | true => exact .inl rfl
  | false =>
    rw [if_neg Bool.false_ne_true]
    cases hf : (eMostUsed t).find? (·.1 == bm17 r.labels) with
    | none => exact .inl rfl
    | some p =>
      refine .inr ⟨rfl, p.2, rfl, ?_⟩
      have hbm := List.find?_some hf
      have hmem : (bm17 r.labels, p.2) ∈ eMostUsed t := by
        rw [← eq_of_beq hbm]; exact List.mem_of_find?_eq_some hf
      obtain ⟨h2, hpc⟩ := (eTbl_spec hs).1 _ hmem
      simp only at h2 hpc
      rw [(small_bm17 hs hr hbig).1] at hpc
      have h1 := eTbl_length t ▸ (List.getElem?_eq_some_iff.mp h2).1
      refine ⟨h1, h2, hpc.symm, Nat.pos_of_ne_zero fun h0 => ?_⟩
      -- a code below `2 ^ 0` is `0` and has no bit set, but the node has a label
      rw [h0] at h1
      rw [Nat.lt_one_iff.mp h1, popcount_zero] at hpc
      exact (mem_labels hs hr).1 (List.length_eq_zero_iff.mp hpc)

theorem sub_shape {t : Trie1} (hs : ShapeOK t) {r : InnerRec} (hr : r ∈ eInners t) :
    Asc (subOf (eMostUsed t) (eShortSize t) r).1
    ∧ (∀ y ∈ (subOf (eMostUsed t) (eShortSize t) r).1, y < (subOf (eMostUsed t) (eShortSize t) r).2.1)
    ∧ (subOf (eMostUsed t) (eShortSize t) r).1.length = r.labels.length
    ∧ 0 < (subOf (eMostUsed t) (eShortSize t) r).2.1 := by
  obtain ⟨_, hasc, hlt⟩ := mem_labels hs hr
  rcases subOf_spec hs hr with e | ⟨_, c, e, h1, _, h3, h4⟩
  · rw [e]
    exact ⟨hasc, hlt, rfl, by cases r.big <;> exact Nat.succ_pos _⟩
  · rw [e]
    -- projections of the triple are reduced first: unification would evaluate `toArray [c]` instead
    dsimp only
    exact ⟨toArray_asc _, toArray_singleton_lt h1, by rw [length_toArray_singleton, h3], h4⟩

theorem eSub_getElem? (t : Trie1) (m : Nat) :
    (eSub t)[m]? = (eInners t)[m]?.map (subOf (eMostUsed t) (eShortSize t)) := by
  unfold eSub; rw [List.getElem?_map]

theorem eSub_length (t : Trie1) : (eSub t).length = (eInners t).length := by
  unfold eSub; rw [List.length_map]

abbrev eSubs (t : Trie1) : List (List Nat) := (eSub t).map (·.1)
abbrev eSizes (t : Trie1) : List Nat := (eSub t).map (·.2.1)

theorem subsOK_of_forall (l : List (List Nat × Nat × Bool))
    (h : ∀ x ∈ l, Asc x.1 ∧ ∀ y ∈ x.1, y < x.2.1) :
    SubsOK (l.map (·.1)) (l.map (·.2.1)) := by
  induction l with
  | nil => simp [SubsOK]
  | cons x l ih =>
    simp only [List.map_cons, SubsOK]
    exact ⟨(h x (by simp)).1, (h x (by simp)).2, ih (fun y hy => h y (List.mem_cons_of_mem _ hy))⟩

theorem eSub_ok {t : Trie1} (hs : ShapeOK t) : SubsOK (eSubs t) (eSizes t) := by
  apply subsOK_of_forall
  intro x hx
  obtain ⟨r, hr, rfl⟩ := List.mem_map.mp hx
  exact ⟨(sub_shape hs hr).1, (sub_shape hs hr).2.1⟩

/-- bit offset of the `m`-th inner node -/
def baseOf (t : Trie1) (m : Nat) : Nat := ((eSizes t).take m).sum

def shortsBefore (t : Trie1) (m : Nat) : Nat := ((eSub t).take m).countP (·.2.2)

theorem baseOf_succ (t : Trie1) (m : Nat) (x : List Nat × Nat × Bool) (hx : (eSub t)[m]? = some x) :
    baseOf t (m + 1) = baseOf t m + x.2.1 := by
  unfold baseOf
  rw [List.take_add_one, List.sum_append, List.getElem?_map, hx]
  simp

theorem shortsBefore_succ (t : Trie1) (m : Nat) (x : List Nat × Nat × Bool)
    (hx : (eSub t)[m]? = some x) :
    shortsBefore t (m + 1) = shortsBefore t m + (if x.2.2 then 1 else 0) := by
  unfold shortsBefore
  rw [List.take_add_one, List.countP_append, hx]
  simp [List.countP_cons]

theorem eSub_cases {t : Trie1} (hs : ShapeOK t) {m : Nat} (hlt : m < (eInners t).length) :
    ∃ x, (eSub t)[m]? = some x ∧
      ((m < t.bigCnt ∧ x.2 = (257, false))
      ∨ (t.bigCnt ≤ m ∧ (x.2 = (17, false) ∨ x.2 = (eShortSize t, true)))) := by
  have hr : (eInners t)[m]? = some (eInners t)[m] := List.getElem?_eq_getElem hlt
  generalize (eInners t)[m] = r at hr
  refine ⟨_, by rw [eSub_getElem?, hr]; rfl, ?_⟩
  have hbig := rec_big hs hr
  rcases subOf_spec hs (List.mem_of_getElem? hr) with e | ⟨hb, c, e, _⟩
  · rw [e]
    cases hb : r.big
    · exact .inr ⟨Nat.le_of_not_lt fun h => Bool.false_ne_true (hb ▸ hbig.mpr h), .inl rfl⟩
    · exact .inl ⟨hbig.mp hb, rfl⟩
  · rw [e]
    exact .inr ⟨Nat.le_of_not_lt fun h => Bool.false_ne_true (hb ▸ hbig.mpr h), .inr rfl⟩

theorem baseOf_big' {t : Trie1} (hs : ShapeOK t) (m : Nat) (hm : m ≤ (eInners t).length)
    (hb : m ≤ t.bigCnt) : baseOf t m = m * 257 ∧ shortsBefore t m = 0 := by
  induction m with
  | zero => exact ⟨by rw [Nat.zero_mul]; rfl, rfl⟩
  | succ m ih =>
    obtain ⟨ih1, ih2⟩ := ih (Nat.le_of_succ_le hm) (Nat.le_of_succ_le hb)
    obtain ⟨x, hx, ⟨_, e⟩ | ⟨h, _⟩⟩ := eSub_cases hs hm
    · rw [baseOf_succ t m x hx, shortsBefore_succ t m x hx, ih1, ih2, e, Nat.succ_mul]
      exact ⟨rfl, rfl⟩
    · exact absurd (Nat.lt_of_lt_of_le hb h) (Nat.lt_irrefl m)

theorem baseOf_big {t : Trie1} (hs : ShapeOK t) (m : Nat) (hm : m ≤ (eInners t).length)
    (hb : m ≤ t.bigCnt) : baseOf t m = m * 257 := (baseOf_big' hs m hm hb).1

/-- the offset formula of the reader (the `Int` expression `innerFrom` evaluates): past the big
    nodes every node has 17 bits, or `shortSize` bits if it is short.  The product
    `shortSize * shorts` stays an atom. -/
theorem baseOf_int {t : Trie1} (hs : ShapeOK t) (m : Nat) (hm : m ≤ (eInners t).length)
    (hb : t.bigCnt ≤ m) :
    ((bigInnerSize : Int) - innerSize) * t.bigCnt + (innerSize : Int) * m
      + ((eShortSize t : Int) - innerSize) * shortsBefore t m = (baseOf t m : Int) := by
  have e1 : ((bigInnerSize : Nat) : Int) = 257 := rfl
  have e2 : ((innerSize : Nat) : Int) = 17 := rfl
  rw [e1, e2]
  obtain ⟨d, rfl⟩ := Nat.exists_eq_add_of_le hb
  induction d with
  | zero =>
    obtain ⟨h1, h2⟩ := baseOf_big' hs t.bigCnt hm (Nat.le_refl _)
    rw [Nat.add_zero, h1, h2]
    omega
  | succ d ih =>
    have ih := ih (Nat.le_of_succ_le hm) (Nat.le_add_right _ _)
    obtain ⟨x, hx, ⟨h, _⟩ | ⟨_, e | e⟩⟩ := eSub_cases hs (m := t.bigCnt + d) hm
    · exact absurd h (Nat.not_lt.mpr (Nat.le_add_right _ _))
    all_goals
      rw [← Nat.add_assoc, baseOf_succ t _ x hx, shortsBefore_succ t _ x hx, e]
      simp only [Bool.false_eq_true, if_false, if_true, Nat.add_zero, Int.natCast_add, Int.mul_add,
        Int.natCast_one, Int.mul_one]
      omega

theorem eSubs_lengths {t : Trie1} (hs : ShapeOK t) :
    (eSubs t).map List.length = (eInners t).map fun r => r.labels.length := by
  unfold eSubs eSub
  rw [List.map_map, List.map_map]
  exact List.map_congr_left fun r hr => (sub_shape hs hr).2.2.1

end Refine
