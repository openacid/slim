import SlimProofs.Refine.Sub
import SlimProofs.Refine.Prefix
/-
  SlimProofs.Refine.Leaf — the node type bitmap and the leaf case of `getNode` on the message of a
  trie (`ReadsAs`: whatever select tables its prefix position bitmaps carry).
-/

namespace Refine

open Bits Slim

theorem length_leaf_add_inner (l : List Node) :
    (l.filterMap leafOf).length + (l.filterMap innerOf).length = l.length := by
  induction l with
  | nil => rfl
  | cons n l ih =>
    cases n with
    | inner r => simp only [List.filterMap_cons, leafOf, innerOf, List.length_cons]; rw [← Nat.add_assoc, ih]
    | leaf i lp => simp only [List.filterMap_cons, leafOf, innerOf, List.length_cons]; rw [Nat.add_right_comm, ih]

theorem countP_isInner (l : List Node) : l.countP Node.isInner = (l.filterMap innerOf).length := by
  rw [List.length_filterMap_eq_countP]
  apply List.countP_congr
  intro n _
  cases n <;> simp [Node.isInner, innerOf]

theorem leavesBefore_eq (nodes : Array Node) (j : Nat) :
    leavesBefore nodes j = ((nodes.toList.take j).filterMap leafOf).length := by
  unfold leavesBefore
  rw [List.length_filterMap_eq_countP, ← List.countP_eq_length_filter]
  apply List.countP_congr
  intro n _
  cases n <;> simp [Node.isInner, leafOf]

theorem leaves_add_inners (nodes : Array Node) (j : Nat) (hj : j ≤ nodes.size) :
    leavesBefore nodes j + (innersBefore nodes j).length = j := by
  rw [leavesBefore_eq, innersBefore_eq, length_leaf_add_inner, List.length_take]
  exact Nat.min_eq_left hj

/-- the predicate of `eInnerIdx` reads `Node.isInner` off the node list: the hypothesis `hq` of the
    `PositionsOf` lemmas (`Refine/ListAux`) for the node type bitmap -/
theorem nodeType_hq (t : Trie1) : ∀ (i : Nat) (a : Node), t.nodes.toList[i]? = some a →
    (match t.nodes[i]? with | some (.inner _) => true | _ => false) = a.isInner := by
  intro i a h
  rw [Array.getElem?_toList] at h
  rw [h]; cases a <;> rfl

theorem rank_nodeType (t : Trie1) (id : Nat) (n : Node) (hn : t.nodes[id]? = some n) :
    rank64 (newBM (eInnerIdx t) t.nodes.size "r64") id
      = .ok ((innersBefore t.nodes id).length, n.isInner) := by
  rw [innersBefore_eq, ← countP_isInner]
  exact rank64_filter_range t.nodes.toList Node.isInner _ (nodeType_hq t) id n
    (by rw [Array.getElem?_toList]; exact hn)

theorem getLeafPrefix_off (s : SlimMsg) (q : Nat) (h : s.leafPrefixes = none) :
    getLeafPrefix s q = .ok none := by
  unfold getLeafPrefix
  simp only [h, pure, Except.pure]

theorem eLeafPs_pos {t : Trie1} (hs : ShapeOK t) : ∀ z ∈ (eLeafPs t).map List.length, 0 < z := by
  intro z hz
  simp only [eLeafPs, eLeafLps, List.mem_map, List.mem_filterMap, id] at hz
  obtain ⟨b, ⟨lp, ⟨n, hn, hlp⟩, hb⟩, rfl⟩ := hz
  subst hb
  obtain ⟨j, hj⟩ := List.mem_iff_getElem?.mp hn
  rw [Array.getElem?_toList] at hj
  cases n with
  | inner r => simp [leafOf] at hlp
  | leaf ith lp' =>
    simp only [leafOf, Option.some.injEq] at hlp
    subst hlp
    have := (hs.leafPref j ith b hj).2
    exact List.length_pos_iff.mpr this

/-- `s` is the message of `t` except that the two prefix position bitmaps went through `f`, which
    may change how a position bitmap finds the element boundaries (its select table) but not the
    boundaries it finds.  `getNode` reads `s` like the message of `t`: with `f = id` this is
    today's message, with `f = LegacyWrite.wordIndexSelect` the one loaded from a 0.5.10 / 0.5.11
    stream. -/
structure ReadsAs (t : Trie1) (s : SlimMsg) (f : BitmapMsg → BitmapMsg) : Prop where
  nodeTypeBM : s.nodeTypeBM = (encodeCreator t).nodeTypeBM
  inners : s.inners = (encodeCreator t).inners
  bigInnerCnt : s.bigInnerCnt = (encodeCreator t).bigInnerCnt
  innerFrom : ∀ i, innerFrom s i = innerFrom (encodeCreator t) i
  innerPrefixes : s.innerPrefixes = some { eIps t with positionBM := (eIps t).positionBM.map f }
  leafPrefixes : s.leafPrefixes = (eLps t).map fun v => { v with positionBM := v.positionBM.map f }
  select : ∀ sizes : List Nat, (∀ z ∈ sizes, 0 < z) →
    SelectsBoundaries (f (newBM (stepToPos sizes) 0 "s32")) sizes

theorem ReadsAs.encodeCreator (t : Trie1) : ReadsAs t (encodeCreator t) id where
  nodeTypeBM := rfl
  inners := rfl
  bigInnerCnt := rfl
  innerFrom _ := rfl
  innerPrefixes := by rw [enc_innerPrefixes, Option.map_id, id]
  leafPrefixes := by
    rw [enc_leafPrefixes]
    cases eLps t with
    | none => rfl
    | some v => rw [Option.map_some, Option.map_id, id]
  select := select32R64_positions_pos

theorem getLeafPrefix_encode {t : Trie1} (hs : ShapeOK t) {s : SlimMsg} {f : BitmapMsg → BitmapMsg}
    (h : ReadsAs t s f) (id ith : Nat) (lp : Option Bytes)
    (hn : t.nodes[id]? = some (.leaf ith lp)) :
    getLeafPrefix s (leavesBefore t.nodes id) = .ok lp := by
  have hq : (eLeafLps t)[leavesBefore t.nodes id]? = some lp := by
    rw [leavesBefore_eq]
    exact getElem?_filterMap_take leafOf _ id (.leaf ith lp) lp
      (by rw [Array.getElem?_toList]; exact hn) rfl
  cases hl : t.opt.leaf with
  | false =>
    have hnone : lp = none := by
      cases lp with
      | none => rfl
      | some b => have := (hs.leafPref id ith b hn).1; rw [hl] at this; cases this
    rw [hnone]
    apply getLeafPrefix_off
    rw [h.leafPrefixes, eLps, if_neg (by rw [hl]; exact Bool.false_ne_true)]
    rfl
  | true =>
    have hlps : s.leafPrefixes = some
        { presenceBM := some (newBM (eLeafIdx t) (eLeafLps t).length "r64")
          positionBM := some (f (newBM (stepToPos ((eLeafPs t).map List.length)) 0 "s32"))
          bytes := (eLeafPs t).flatten } := by
      rw [h.leafPrefixes, eLps, if_pos hl]
      rfl
    have hqq : ∀ i a, (eLeafLps t)[i]? = some a → ((eLeafLps t).getD i none).isSome = a.isSome := by
      intro i a h; rw [List.getD_eq_getElem?_getD, h]; rfl
    rw [getLeafPrefix_of_rank hlps rfl rfl
      (rank64_filter_range (eLeafLps t) Option.isSome _ hqq _ lp hq)]
    cases lp with
    | none => rfl
    | some b =>
      have hk := getElem?_filterMap_take _root_.id _ _ (some b) b hq rfl
      rw [List.length_filterMap_eq_countP] at hk
      exact congrArg (Except.map some)
        (vlenTail_packed (eLeafPs t) rfl (Or.inl ⟨_, rfl, h.select _ (eLeafPs_pos hs)⟩) hk)

end Refine
