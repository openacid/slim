import SlimProofs.Refine.ListAux
import SlimModel.Slim
/-
  SlimProofs.Refine.Extract — `labelsIn` and `extractShort` read the bits `[frm, frm+len)` of a
  word list.  `extractShort` is the `window` of two adjacent words, whose bits `testBit_window` gives
  for both of its cases; `getBit_two_words` reads a bit from the same two words.
-/

namespace Refine

open Bits Slim

theorem labelsIn_eq (ws : List Nat) (frm size : Nat) (labels : List Nat) (h : Asc labels)
    (hlt : ∀ l ∈ labels, l < size)
    (hbit : ∀ x, x < size → getBit ws (frm + x) = decide (x ∈ labels)) :
    labelsIn ws frm size = labels := by
  have : labelsIn ws frm size = (List.range size).filter (fun k => getBit ws (frm + k)) := rfl
  rw [this]
  apply filter_range_eq_of_asc h
  · intro x hx; rw [hbit x hx]; simp
  · exact hlt

theorem getBit_two_words (ws : List Nat) (q j k : Nat) (h : j + k < 128) :
    getBit ws (64 * q + j + k) = if j + k < 64 then (ws.getD q 0).testBit (j + k)
      else (ws.getD (q + 1) 0).testBit (j + k - 64) := by
  rw [Nat.add_assoc]
  split
  · exact getBit_mul_add ws q (j + k) ‹_›
  · next hnot =>
    have h64 : 64 ≤ j + k := Nat.le_of_not_lt hnot
    rw [← getBit_mul_add ws (q + 1) (j + k - 64) (Nat.sub_lt_left_of_lt_add h64 h), Nat.mul_add,
      Nat.mul_one, Nat.add_assoc, Nat.add_sub_of_le h64]

theorem testBit_word_ge {w i : Nat} (hw : w < 2 ^ 64) (hi : 64 ≤ i) : w.testBit i = false :=
  Nat.testBit_lt_two_pow (Nat.lt_of_lt_of_le hw (Nat.pow_le_pow_right (by decide) hi))

/-- the `len` bits from bit `j` of the word pair `w`, `w2` on, as `extractShort` computes them -/
def window (w w2 j len : Nat) : Nat :=
  if j + len ≤ 64 then (w >>> j) % 2 ^ len else (w >>> j) ||| ((w2 <<< (64 - j)) % 2 ^ 64 % 2 ^ len)

theorem testBit_window (w w2 j len k : Nat) (hw : w < 2 ^ 64) (hj : j < 64) (hlen : len ≤ 64) :
    (window w w2 j len).testBit k
      = (decide (k < len) && if j + k < 64 then w.testBit (j + k) else w2.testBit (j + k - 64)) := by
  unfold window
  split
  · next hc =>
    rw [Nat.testBit_mod_two_pow, Nat.testBit_shiftRight]
    by_cases hk : k < len
    · rw [if_pos (Nat.lt_of_lt_of_le (Nat.add_lt_add_left hk j) hc)]
    · simp only [hk, decide_false, Bool.false_and]
  · next hc =>
    rw [Nat.testBit_or, Nat.testBit_shiftRight, Nat.testBit_mod_two_pow, Nat.testBit_mod_two_pow,
      Nat.testBit_shiftLeft, Nat.sub_sub_right k (Nat.le_of_lt hj), Nat.add_comm k j]
    by_cases hjk : j + k < 64
    · -- the bit lies in `w`: the second word contributes nothing below bit `64 - j`
      have h1 : k < len := Nat.lt_of_add_lt_add_left (Nat.lt_trans hjk (Nat.lt_of_not_le hc))
      have h2 : ¬ k ≥ 64 - j := Nat.not_le.mpr (Nat.lt_sub_of_add_lt (Nat.add_comm j k ▸ hjk))
      simp only [hjk, h1, h2, if_true, decide_true, decide_false, Bool.true_and, Bool.false_and,
        Bool.and_false, Bool.or_false]
    · -- the bit lies in `w2`: `w` has no bit from 64 on
      have h2 : k ≥ 64 - j := Nat.sub_le_of_le_add (Nat.add_comm j k ▸ Nat.le_of_not_lt hjk)
      rw [testBit_word_ge hw (Nat.le_of_not_lt hjk), if_neg hjk]
      by_cases hk : k < len
      · have h1 : k < 64 := Nat.lt_of_lt_of_le hk hlen
        simp only [hk, h1, h2, decide_true, Bool.true_and, Bool.false_or]
      · simp only [hk, decide_false, Bool.false_and, Bool.false_or]

theorem getElem?_eq_some_getD {l : List Nat} {i : Nat} (h : i < l.length) : l[i]? = some (l.getD i 0) := by
  rw [getD_eq_getElem l 0 h, List.getElem?_eq_getElem h]

theorem extractShort_eq_window (ws : List Nat) (q j len : Nat) (hj : j < 64) (hlen64 : len ≤ 64)
    (hend : 64 * q + j + len ≤ 64 * ws.length) (hq : q < ws.length) :
    extractShort ws (64 * q + j) len
      = .ok (window (ws.getD q 0) (ws.getD (q + 1) 0) j len) := by
  unfold extractShort window
  simp only [Nat.mul_add_mod, Nat.mod_eq_of_lt hj, Nat.mul_add_div (show 64 > 0 by decide),
    Nat.div_eq_of_lt hj, Nat.add_zero, getElem?_eq_some_getD hq]
  split
  · rfl
  · next hc =>
    have hq2 : (64 * q + j + len) / 64 = q + 1 := by
      rw [Nat.add_assoc, Nat.mul_add_div (by decide), Nat.div_eq_of_lt_le (k := 1)
        (Nat.le_of_lt (Nat.lt_of_not_le hc)) (Nat.add_lt_add_of_lt_of_le hj hlen64)]
    have : q + 1 < ws.length := by
      refine Nat.lt_of_mul_lt_mul_left (a := 64) (Nat.lt_of_lt_of_le ?_ hend)
      rw [Nat.mul_add, Nat.mul_one, Nat.add_assoc]
      exact Nat.add_lt_add_left (Nat.lt_of_not_le hc) _
    simp only [hq2, getElem?_eq_some_getD this]
    rfl

theorem extractShort_eq (ws : List Nat) (frm len c : Nat) (hw : ∀ w ∈ ws, w < 2 ^ 64)
    (hlen : 0 < len) (hlen64 : len ≤ 64) (hend : frm + len ≤ 64 * ws.length) (hc : c < 2 ^ len)
    (hbit : ∀ k, k < len → getBit ws (frm + k) = c.testBit k) :
    extractShort ws frm len = .ok c := by
  obtain ⟨q, j, hj, rfl⟩ : ∃ q j, j < 64 ∧ frm = 64 * q + j :=
    ⟨frm / 64, frm % 64, Nat.mod_lt _ (by decide), (Nat.div_add_mod frm 64).symm⟩
  have hq : q < ws.length := Nat.lt_of_mul_lt_mul_left (a := 64) (Nat.lt_of_lt_of_le
    (Nat.lt_of_le_of_lt (Nat.le_add_right _ j) (Nat.lt_add_of_pos_right hlen)) hend)
  have hw1 : ws.getD q 0 < 2 ^ 64 := by
    rw [getD_eq_getElem ws 0 hq]; exact hw _ (List.getElem_mem hq)
  rw [extractShort_eq_window ws q j len hj hlen64 hend hq]
  congr 1
  apply Nat.eq_of_testBit_eq
  intro k
  rw [testBit_window _ _ _ _ k hw1 hj hlen64]
  by_cases hk : k < len
  · rw [← getBit_two_words ws q j k (Nat.add_lt_add hj (Nat.lt_of_lt_of_le hk hlen64)), hbit k hk, decide_eq_true hk, Bool.true_and]
  · rw [decide_eq_false hk, Bool.false_and,
      Nat.testBit_lt_two_pow (Nat.lt_of_lt_of_le hc (Nat.pow_le_pow_right (by decide) (Nat.le_of_not_lt hk)))]

end Refine
