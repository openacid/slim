import SlimProofs.BitsLemmas
/-
  SlimProofs.Refine.ListAux — generic list facts used by the refinement proof:
  the `k`-th element of a `filterMap`, positions selected from `List.range`, slices of `flatten`.
-/

namespace Refine

open Bits

theorem split_at {α : Type} {l : List α} {j : Nat} {a : α} (hj : l[j]? = some a) :
    l = l.take j ++ a :: l.drop (j + 1) := by
  obtain ⟨hlt, rfl⟩ := List.getElem?_eq_some_iff.mp hj
  rw [← List.drop_eq_getElem_cons hlt, List.take_append_drop]

theorem getElem?_filterMap_take {α β : Type} (f : α → Option β) (l : List α) (j : Nat) (a : α) (b : β)
    (hj : l[j]? = some a) (hf : f a = some b) :
    (l.filterMap f)[((l.take j).filterMap f).length]? = some b := by
  conv => lhs; arg 1; rw [split_at hj]
  rw [List.filterMap_append, List.getElem?_append_right (Nat.le_refl _), Nat.sub_self,
    List.filterMap_cons, hf]
  rfl

theorem getElem?_filter_take {α : Type} (p : α → Bool) (l : List α) (j : Nat) (a : α)
    (hj : l[j]? = some a) (hp : p a = true) : (l.filter p)[(l.take j).countP p]? = some a := by
  rw [← List.filterMap_eq_filter, List.countP_eq_length_filter, ← List.filterMap_eq_filter]
  exact getElem?_filterMap_take (Option.guard p) l j a a hj (by simp [Option.guard, hp])

theorem length_filterMap_take_lt {α β : Type} (f : α → Option β) (l : List α) (j : Nat) (a : α) (b : β)
    (hj : l[j]? = some a) (hf : f a = some b) :
    ((l.take j).filterMap f).length < (l.filterMap f).length :=
  (List.getElem?_eq_some_iff.mp (getElem?_filterMap_take f l j a b hj hf)).1

theorem length_filterMap_take_le {α β : Type} (f : α → Option β) (l : List α) (j : Nat) :
    ((l.take j).filterMap f).length ≤ (l.filterMap f).length :=
  ((List.take_prefix j l).filterMap f).length_le

theorem filter_range_lt (n : Nat) (p : Nat → Bool) : ∀ i ∈ (List.range n).filter p, i < n := by
  intro i hi
  simpa using (List.mem_filter.mp hi).1

theorem filter_range_length_le (n : Nat) (p : Nat → Bool) : ((List.range n).filter p).length ≤ n :=
  Nat.le_trans (List.length_filter_le _ _) (Nat.le_of_eq List.length_range)

theorem mem_le_sum (l : List Nat) : ∀ x ∈ l, x ≤ l.sum := by
  induction l with
  | nil => intro x hx; cases hx
  | cons a as ih =>
    intro x hx
    rcases List.mem_cons.mp hx with rfl | hx
    · rw [List.sum_cons]; exact Nat.le_add_right _ _
    · rw [List.sum_cons]; exact Nat.le_trans (ih x hx) (Nat.le_add_left _ _)

section PositionsOf

variable {α : Type} (l : List α) (p : α → Bool) (q : Nat → Bool)
  (hq : ∀ i a, l[i]? = some a → q i = p a)
include hq

/-! ### the bitmap of the positions of a list that satisfy a predicate

  `newBM ((List.range l.length).filter q) l.length` where `q i` reads `p l[i]`: the node type
  bitmap, the short bitmap and the two presence bitmaps of the encoder are all of this form.
  `hq` is an `include`d hypothesis of every lemma of the section; the `…_hq` lemmas of
  `Refine/Leaf`, `Refine/Inner` discharge it for one bitmap each. -/

theorem getBit_filter_range (m : Nat) (a : α) (hm : l[m]? = some a) :
    getBit (ofIdx ((List.range l.length).filter q) l.length) m = p a := by
  rw [getBit_ofIdx_filter_range q _ m (List.getElem?_eq_some_iff.mp hm).1, hq m a hm]

theorem cnt_getBit_filter_range (m : Nat) (hm : m ≤ l.length) :
    cnt (getBit (ofIdx ((List.range l.length).filter q) l.length)) m = (l.take m).countP p := by
  rw [cnt_getBit_ofIdx_filter_range q _ m hm, cnt_eq_countP_take l p q hq m hm]

theorem rank64_filter_range (m : Nat) (a : α) (hm : l[m]? = some a) :
    rank64 (newBM ((List.range l.length).filter q) l.length "r64") m
      = .ok ((l.take m).countP p, p a) := by
  have hlt := (List.getElem?_eq_some_iff.mp hm).1
  rw [newBM, mk_r64, rank64_of_index _ _ _ _ (Nat.lt_of_lt_of_le hlt (capa_le_ofIdx_length _ _)),
    cnt_getBit_filter_range l p q hq m (Nat.le_of_lt hlt), getBit_filter_range l p q hq m a hm]

theorem rank128_filter_range (m : Nat) (a : α) (hm : l[m]? = some a) :
    rank128 (newBM ((List.range l.length).filter q) l.length "r128") m
      = .ok ((l.take m).countP p, p a) := by
  have hlt := (List.getElem?_eq_some_iff.mp hm).1
  rw [newBM, rank128_mk_cnt _ _ (Nat.lt_of_lt_of_le hlt (capa_le_ofIdx_length _ _)),
    cnt_getBit_filter_range l p q hq m (Nat.le_of_lt hlt), getBit_filter_range l p q hq m a hm]

end PositionsOf

theorem countP_isSome_eq_length_filterMap {α β : Type} (f : α → Option β) (l : List α) :
    l.countP (fun a => (f a).isSome) = (l.filterMap f).length :=
  List.length_filterMap_eq_countP.symm

theorem take_sum_map_length_succ {α : Type} (ps : List (List α)) (k : Nat) (x : List α)
    (hk : ps[k]? = some x) :
    ((ps.map List.length).take (k + 1)).sum = ((ps.map List.length).take k).sum + x.length := by
  rw [List.take_add_one, List.sum_append, List.getElem?_map, hk]
  simp

theorem drop_take_flatten {α : Type} (ps : List (List α)) (k : Nat) (x : List α)
    (hk : ps[k]? = some x) :
    (ps.flatten.drop ((ps.map List.length).take k).sum).take x.length = x := by
  obtain ⟨hlt, rfl⟩ := List.getElem?_eq_some_iff.mp hk
  have hsplit : ps.flatten = (ps.take k).flatten ++ (ps[k] ++ (ps.drop (k + 1)).flatten) := by
    rw [← List.flatten_cons, ← List.flatten_append, ← List.drop_eq_getElem_cons hlt,
      List.take_append_drop]
  rw [← List.map_take, ← List.length_flatten, hsplit, List.drop_left, List.take_left]

theorem take_sum_map_length_le {α : Type} (ps : List (List α)) (k : Nat) :
    ((ps.map List.length).take k).sum ≤ ps.flatten.length := by
  rw [List.length_flatten]; exact take_sum_le _ _

theorem sum_map_const {α : Type} (l : List α) (f : α → Nat) (c : Nat) (h : ∀ a ∈ l, f a = c) :
    (l.map f).sum = l.length * c := by
  rw [List.map_congr_left h, List.map_const', List.sum_replicate_nat]

theorem sum_take_map_length {α : Type} (ps : List (List α)) (w : Nat) (h : ∀ p ∈ ps, p.length = w)
    (i : Nat) (hi : i ≤ ps.length) : ((ps.take i).map List.length).sum = i * w := by
  rw [sum_map_const _ _ w (fun p hp => h p (List.mem_of_mem_take hp)), List.length_take,
    Nat.min_eq_left hi]

theorem flatMap_fixed_slice {α β : Type} (f : α → List β) (w : Nat) (l : List α)
    (hf : ∀ a ∈ l, (f a).length = w) (k : Nat) (hk : k < l.length) :
    k * w + w ≤ (l.flatMap f).length ∧ ((l.flatMap f).drop (k * w)).take w = f l[k] := by
  have hk' : (l.map f)[k]? = some (f l[k]) := by
    rw [List.getElem?_map, List.getElem?_eq_getElem hk]; rfl
  have hsum : ∀ j, j ≤ l.length → (((l.map f).map List.length).take j).sum = j * w := fun j hj => by
    rw [← List.map_take]
    exact sum_take_map_length (l.map f) w (fun p hp => by
      obtain ⟨a, ha, rfl⟩ := List.mem_map.mp hp; exact hf a ha) j (by rw [List.length_map]; exact hj)
  have h1 := drop_take_flatten (l.map f) k _ hk'
  have h2 := take_sum_map_length_le (l.map f) (k + 1)
  rw [hsum k (Nat.le_of_lt hk), hf _ (List.getElem_mem hk), ← List.flatMap_def] at h1
  rw [hsum (k + 1) hk, Nat.succ_mul, ← List.flatMap_def] at h2
  exact ⟨h2, h1⟩

theorem flatMap_fixed_getElem? {α β : Type} (f : α → List β) (w : Nat) (l : List α)
    (hf : ∀ a ∈ l, (f a).length = w) (k : Nat) (hk : k < l.length) (j : Nat) (hj : j < w) :
    (l.flatMap f)[k * w + j]? = (f l[k])[j]? := by
  rw [← (flatMap_fixed_slice f w l hf k hk).2, List.getElem?_take_of_lt hj, List.getElem?_drop]

theorem sum_map_congr {α : Type} (l : List α) (f g : α → Nat) (h : ∀ a ∈ l, f a = g a) :
    (l.map f).sum = (l.map g).sum :=
  congrArg List.sum (List.map_congr_left h)

theorem map_range_getD {α β : Type} (l : List α) (g : α → β) (d : α) :
    (List.range l.length).map (fun i => g (l.getD i d)) = l.map g := by
  apply List.ext_getElem
  · simp
  · intro i h1 h2
    simp only [List.getElem_map, List.getElem_range]
    rw [getD_eq_getElem l d (by simpa using h1)]

theorem mem_take_iff {α : Type} (l : List α) (j : Nat) (a : α) :
    a ∈ l.take j ↔ ∃ i, i < j ∧ l[i]? = some a := by
  rw [List.mem_take_iff_getElem]
  constructor
  · rintro ⟨i, hm, rfl⟩
    exact ⟨i, (Nat.lt_min.mp hm).1, List.getElem?_eq_getElem _⟩
  · rintro ⟨i, h1, h2⟩
    obtain ⟨hl, rfl⟩ := List.getElem?_eq_some_iff.mp h2
    exact ⟨i, Nat.lt_min.mpr ⟨h1, hl⟩, rfl⟩

theorem getElem?_filterMap_inv {α β : Type} (f : α → Option β) (l : List α) (m : Nat) (b : β)
    (h : (l.filterMap f)[m]? = some b) :
    ∃ j a, l[j]? = some a ∧ f a = some b ∧ ((l.take j).filterMap f).length = m := by
  induction l generalizing m with
  | nil => simp at h
  | cons a l ih =>
    rw [List.filterMap_cons] at h
    cases hf : f a with
    | none =>
      rw [hf] at h
      obtain ⟨j, a', h1, h2, h3⟩ := ih m h
      refine ⟨j + 1, a', by simpa using h1, h2, ?_⟩
      rw [List.take_succ_cons, List.filterMap_cons, hf]; exact h3
    | some b0 =>
      rw [hf] at h
      cases m with
      | zero =>
        simp only [List.getElem?_cons_zero, Option.some.injEq] at h
        exact ⟨0, a, by simp, by rw [hf, h], by simp⟩
      | succ m =>
        simp only [List.getElem?_cons_succ] at h
        obtain ⟨j, a', h1, h2, h3⟩ := ih m h
        refine ⟨j + 1, a', by simpa using h1, h2, ?_⟩
        rw [List.take_succ_cons, List.filterMap_cons, hf]; simp [h3]

theorem filterMap_take_eq_take {α β : Type} (f : α → Option β) (l : List α) (j : Nat) :
    (l.take j).filterMap f = (l.filterMap f).take ((l.take j).filterMap f).length := by
  conv => rhs; arg 2; rw [← List.take_append_drop j l, List.filterMap_append]
  rw [List.take_left']
  rfl

end Refine
