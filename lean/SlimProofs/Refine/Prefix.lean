import SlimProofs.Refine.ListAux
import SlimProofs.Order
import SlimModel.Slim
import SlimProofs.Refine.GetNodeEq
/-
  SlimProofs.Refine.Prefix — the byte-level encodings of prefixes read back:
  `bitstrNibs ∘ bitstrOf`, `decStep ∘ encStep`, `sliceBytes` of a `flatten`, and the element that
  `vlenTail` returns at rank `k` from an array that packs a list of byte strings (`vlenTail_packed`).
-/

namespace Refine

open Bits Slim

theorem unnibs_length (ns : List Nat) : (unnibs ns).length = (ns.length + 1) / 2 := by
  fun_induction unnibs ns with
  | case1 => rfl
  | case2 h => simp
  | case3 h l rest ih =>
    rw [List.length_cons, ih, List.length_cons, List.length_cons, Nat.add_right_comm _ 1 1,
      Nat.add_right_comm _ 1 1, Nat.add_assoc _ 1 1, Nat.add_div_right _ (Nat.zero_lt_succ 1)]

theorem bitstrOf_ne_nil (ns : List Nat) : bitstrOf ns ≠ [] := by
  unfold bitstrOf; simp

theorem bitstrOf_length_pos (ns : List Nat) : 0 < (bitstrOf ns).length := by
  unfold bitstrOf; simp

/-- the half-byte count `bitstrLen` recovers from byte count and trailing mask, by parity -/
theorem bitstrLen_even (q : Nat) : (((2 * q + 1) / 2 + 1) * 8 + 8 - 16) / 4 = 2 * q := by
  rw [Nat.mul_add_div (by decide), (by decide : 1 / 2 = 0), Nat.add_zero,
    Nat.succ_mul, Nat.add_assoc, Nat.add_sub_cancel, Nat.mul_comm q, (by decide : 8 = 4 * 2),
    Nat.mul_assoc, Nat.mul_div_cancel_left _ (by decide)]

theorem bitstrLen_odd (q : Nat) : (((2 * q + 1 + 1) / 2 + 1) * 8 + 4 - 16) / 4 = 2 * q + 1 := by
  rw [Nat.add_assoc, Nat.mul_add_div (by decide), (by decide : (1 + 1) / 2 = 1),
    show (q + 1 + 1) * 8 + 4 - 16 = 4 * (2 * q + 1) by
      rw [Nat.add_assoc q, Nat.add_mul, Nat.add_right_comm, Nat.add_sub_cancel, Nat.mul_add,
        ← Nat.mul_assoc, Nat.mul_comm q],
    Nat.mul_div_cancel_left _ (by decide)]

theorem bitstrNibs_bitstrOf (ns : List Nat) (h : ∀ x ∈ ns, x < 16) :
    bitstrNibs (bitstrOf ns) = ns := by
  unfold bitstrNibs bitstrLen bitstrOf
  rw [List.dropLast_concat, List.getLast?_concat, Option.getD_some, List.length_append,
    List.length_singleton, unnibs_length]
  have p1 : popcount (0xff : UInt8).toNat = 8 := by decide
  have p2 : popcount (0xf0 : UInt8).toNat = 4 := by decide
  have hlen : (((ns.length + 1) / 2 + 1) * 8
      + popcount (if ns.length % 2 = 0 then (0xff : UInt8) else 0xf0).toNat - 16) / 4 = ns.length := by
    have e := Nat.div_add_mod ns.length 2
    rcases Nat.mod_two_eq_zero_or_one ns.length with h2 | h2
    · rw [h2, Nat.add_zero] at e
      rw [if_pos h2, p1, ← e]; exact bitstrLen_even _
    · rw [h2] at e
      rw [if_neg (by rw [h2]; decide), p2, ← e]; exact bitstrLen_odd _
  rw [hlen]
  exact take_nibs_unnibs ns h

theorem decStep_encStep (n : Nat) (h : n < 65536) :
    decStep (UInt8.ofNat (n / 256)) (UInt8.ofNat (n % 256)) = n := by
  unfold decStep
  rw [UInt8.toNat_ofNat', UInt8.toNat_ofNat', Nat.mod_mod,
    Nat.mod_eq_of_lt (Nat.div_lt_of_lt_mul (show n < 256 * 2 ^ 8 from h)), Nat.div_add_mod']

theorem encStep_length (n : Nat) : (encStep n).length = 2 := rfl

theorem sliceBytes_flatten (ps : List Bytes) (k : Nat) (x : Bytes) (hk : ps[k]? = some x) :
    sliceBytes ps.flatten ((ps.map List.length).take k).sum ((ps.map List.length).take (k + 1)).sum
      = .ok x := by
  have h1 := take_sum_map_length_succ ps k x hk
  have h2 := take_sum_map_length_le ps (k + 1)
  unfold sliceBytes
  rw [if_pos ⟨h1 ▸ Nat.le_add_right _ _, h2⟩, h1, Nat.add_sub_cancel_left, drop_take_flatten ps k x hk]

theorem flatten_pair_getElem? (ps : List Bytes) (hlen : ∀ p ∈ ps, p.length = 2) (k : Nat) (b0 b1 : UInt8)
    (hk : ps[k]? = some [b0, b1]) :
    ps.flatten[k * 2]? = some b0 ∧ ps.flatten[k * 2 + 1]? = some b1 := by
  obtain ⟨hlt, he⟩ := List.getElem?_eq_some_iff.mp hk
  have e := flatMap_fixed_getElem? id 2 ps hlen k hlt
  rw [List.flatMap_id, he] at e
  exact ⟨e 0 (by decide), e 1 (by decide)⟩

end Refine

namespace Slim
open Bits Refine

theorem sliceBytes_ok (bs : Bytes) (a n : Nat) (h : a + n ≤ bs.length) :
    sliceBytes bs a (a + n) = .ok ((bs.drop a).take n) := by
  unfold sliceBytes
  rw [if_pos ⟨Nat.le_add_right a n, h⟩, Nat.add_sub_cancel_left]

theorem vlenTail_packed (ps : List Bytes) {va : VLenArrayMsg} (hb : va.bytes = ps.flatten)
    (hl : (∃ pos, va.positionBM = some pos ∧ SelectsBoundaries pos (ps.map List.length))
      ∨ (va.positionBM = none ∧ ∀ p ∈ ps, p.length = va.fixedSize))
    {k : Nat} {b : Bytes} (hk : ps[k]? = some b) : vlenTail va k = .ok b := by
  obtain ⟨hlt, rfl⟩ := List.getElem?_eq_some_iff.mp hk
  unfold vlenTail
  rcases hl with ⟨pos, hpos, hsel⟩ | ⟨hpos, hw⟩
  · rw [hpos]
    simp only [bind, Except.bind, hsel k (by rw [List.length_map]; exact hlt), hb]
    exact sliceBytes_flatten ps k _ hk
  · obtain ⟨h1, h2⟩ := flatMap_fixed_slice id va.fixedSize ps hw k hlt
    rw [List.flatMap_id] at h1 h2
    rw [hpos, hb]
    simp only
    rw [sliceBytes_ok _ _ _ h1, h2]
    rfl

end Slim
