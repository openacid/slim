import SlimProofs.Refine.Leaf
import SlimProofs.Refine.GetNodeEq
/-
  SlimProofs.Refine.Inner — the inner-node case of `getNode (encode t)`: `innerFrom`, the label
  bitmap (plain or through the short table), `firstChild` and the inner prefix.
-/

namespace Refine

open Bits Slim

theorem eInnersBM_words (t : Trie1) : (eInnersBM t).words = ofMany (eSubs t) (eSizes t) := by
  unfold eInnersBM; rw [mk_r128]

/-- block `m` of `ofMany`, said of the `m`-th record.  The components of the triple are variables:
    with `toArray [c]` in a projection, unification would evaluate it. -/
theorem inner_block {t : Trie1} (hs : ShapeOK t) {m : Nat} {r : InnerRec}
    (hr : (eInners t)[m]? = some r) {sub : List Nat} {sz : Nat} {sh : Bool}
    (hc : subOf (eMostUsed t) (eShortSize t) r = (sub, sz, sh)) :
    baseOf t m + sz ≤ 64 * (ofMany (eSubs t) (eSizes t)).length
    ∧ (∀ x, x < sz → getBit (ofMany (eSubs t) (eSizes t)) (baseOf t m + x) = decide (x ∈ sub))
    ∧ cnt (getBit (ofMany (eSubs t) (eSizes t))) (baseOf t m)
        = (((eSubs t).take m).map List.length).sum := by
  have hm : m < (eSizes t).length := by
    rw [List.length_map, eSub_length]; exact (List.getElem?_eq_some_iff.mp hr).1
  have e1 : (eSizes t).getD m 0 = sz := by
    rw [List.getD_eq_getElem?_getD, List.getElem?_map, eSub_getElem?, hr, Option.map_some, hc]; rfl
  have e2 : (eSubs t).getD m [] = sub := by
    rw [List.getD_eq_getElem?_getD, List.getElem?_map, eSub_getElem?, hr, Option.map_some, hc]; rfl
  refine ⟨?_, fun x hx => ?_, cnt_getBit_ofMany (eSub_ok hs) m (Nat.le_of_lt hm)⟩
  · rw [← e1, ofMany_length (eSub_ok hs)]
    exact Nat.le_trans (take_sum_add_getD_le _ m) (le_mul_words _)
  · rw [← e2]; exact getBit_ofMany (eSub_ok hs) m x hm (e1 ▸ hx)

theorem baseOf_lt {t : Trie1} (hs : ShapeOK t) (m : Nat) (r : InnerRec)
    (hr : (eInners t)[m]? = some r) :
    baseOf t m < 64 * (ofMany (eSubs t) (eSizes t)).length :=
  Nat.lt_of_lt_of_le (Nat.lt_add_of_pos_right (sub_shape hs (List.mem_of_getElem? hr)).2.2.2)
    (inner_block hs hr rfl).1

theorem shortBM_rank {t : Trie1} (m : Nat) (r : InnerRec) (hr : (eInners t)[m]? = some r) :
    rank64 (newBM (eShortIndex t) (eInners t).length "r64") m
      = .ok (shortsBefore t m, (subOf (eMostUsed t) (eShortSize t) r).2.2) := by
  have hq : ∀ (i : Nat) (a : List Nat × Nat × Bool), (eSub t)[i]? = some a →
      ((eSub t).getD i ([], 0, false)).2.2 = a.2.2 := by
    intro i a h; rw [List.getD_eq_getElem?_getD, h]; rfl
  have hx : (eSub t)[m]? = some (subOf (eMostUsed t) (eShortSize t) r) := by
    rw [eSub_getElem?, hr]; rfl
  have := rank64_filter_range (eSub t) (·.2.2) _ hq m _ hx
  rw [eSub_length] at this
  exact this

/-- what `innerFrom` returns besides the offset serves only to decode the labels, so it stays
    existential -/
theorem labels_encode {t : Trie1} (hs : ShapeOK t) (m : Nat) (r : InnerRec)
    (hr : (eInners t)[m]? = some r) :
    ∃ size short, innerFrom (encodeCreator t) m = .ok (baseOf t m, size, short) ∧
      labelsOf short (eInnersBM t).words (baseOf t m) size = r.labels := by
  have hm : m ≤ (eInners t).length := Nat.le_of_lt (List.getElem?_eq_some_iff.mp hr).1
  obtain ⟨_, hasc, hlt⟩ := rec_labels hs hr
  have hbig := rec_big hs hr
  have hrk := shortBM_rank m r hr
  -- a small node: the reader's offset formula gives `baseOf t m`
  have hsmall : ∀ c, ¬ m < t.bigCnt →
      rank64 (newBM (eShortIndex t) (eInners t).length "r64") m = .ok (shortsBefore t m, c) →
      innerFrom (encodeCreator t) m = if c then shortPart (encodeCreator t) (baseOf t m)
        else .ok (baseOf t m, innerSize, none) := by
    intro c hb hrk
    rw [innerFrom_small _ m _ _ _ (by rw [enc_bigInnerCnt]; exact hb) (enc_shortBM t) hrk,
      BridgeSem.smallFrom, enc_bigInnerCnt, enc_shortSize, baseOf_int hs m hm (Nat.le_of_not_lt hb),
      if_neg (Int.not_lt.mpr (Int.natCast_nonneg _)), Int.toNat_natCast]
  rw [eInnersBM_words]
  rcases subOf_spec hs (List.mem_of_getElem? hr) with e | ⟨hb, c, e, hc1, hc2, _, hc3⟩
  · -- a node that keeps its labels: they are read back bit by bit
    have hl := labelsIn_eq _ _ _ _ hasc hlt (inner_block hs hr e).2.1
    rw [e] at hrk
    by_cases hb : m < t.bigCnt
    · rw [hbig.mpr hb] at hl
      exact ⟨257, none, by rw [innerFrom_big _ _ (by rw [enc_bigInnerCnt]; exact hb),
        baseOf_big hs m hm (Nat.le_of_lt hb), Nat.mul_comm], hl⟩
    · rw [Bool.eq_false_iff.mpr (mt hbig.mp hb)] at hl
      exact ⟨17, none, hsmall _ hb hrk, hl⟩
  · -- a short node: its code is extracted, and the short table holds its 17-bit bitmap at the code
    obtain ⟨hend, hbit, _⟩ := inner_block hs hr e
    have hss := Nat.le_trans (eShortSize_le t) (show 10 ≤ 64 by decide)
    have hext : extractShort (eInnersBM t).words (baseOf t m) (encodeCreator t).shortSize = .ok c := by
      rw [enc_shortSize, eInnersBM_words]
      apply extractShort_eq _ _ _ _ (ofMany_lt _ _) hc3 hss hend hc1
      intro k hk
      rw [hbit k hk, Bool.eq_iff_iff, decide_eq_true_eq, mem_toArray_singleton]
      exact ⟨fun h => h.2, fun h => ⟨Nat.lt_of_lt_of_le hk hss, h⟩⟩
    rw [e] at hrk
    rw [hb] at hlt
    refine ⟨eShortSize t, some (bm17 r.labels), ?_, filter_bm17 hasc innerSize hlt⟩
    rw [hsmall _ (fun h => Bool.false_ne_true (hb ▸ hbig.mpr h)) hrk, if_pos rfl,
      shortPart_of (enc_inners t) hext (by rw [enc_shortTable]; exact hc2), enc_shortSize]

theorem rank128_encode {t : Trie1} (hs : ShapeOK t) (m : Nat) (r : InnerRec)
    (hr : (eInners t)[m]? = some r) :
    ∃ b, rank128 (eInnersBM t) (baseOf t m)
      = .ok ((((eInners t).take m).map (fun r => r.labels.length)).sum, b) := by
  refine ⟨getBit (ofMany (eSubs t) (eSizes t)) (baseOf t m), ?_⟩
  rw [show eInnersBM t = mk (ofMany (eSubs t) (eSizes t)) "r128" from rfl,
    rank128_mk_cnt _ _ (baseOf_lt hs m r hr), (inner_block hs hr rfl).2.2, List.map_take,
    eSubs_lengths hs, ← List.map_take]

def hasPref (r : InnerRec) : Bool := match r.pref with | .none => false | _ => true

theorem eIps_eltCnt (t : Trie1) : (eIps t).eltCnt = (ePrefIdx t).length := by
  unfold eIps; split <;> rfl

theorem eIps_presenceBM (t : Trie1) :
    (eIps t).presenceBM = some (newBM (ePrefIdx t) (eInners t).length "r128") := by
  unfold eIps; split <;> rfl

/-- the hypothesis `hq` of the `PositionsOf` lemmas (`Refine/ListAux`) for the prefix presence bitmap -/
theorem prefIdx_hq (t : Trie1) : ∀ (i : Nat) (a : InnerRec), (eInners t)[i]? = some a →
    (match ((eInners t).getD i default).pref with | .none => false | _ => true) = hasPref a := by
  intro i a h
  rw [List.getD_eq_getElem?_getD, h]
  rfl

theorem ePrefIdx_eq (t : Trie1) : ePrefIdx t = (List.range (eInners t).length).filter
    (fun i => match ((eInners t).getD i default).pref with | .none => false | _ => true) := rfl

theorem prefIdx_pos_of_hasPref (t : Trie1) (m : Nat) (r : InnerRec) (hr : (eInners t)[m]? = some r)
    (hp : hasPref r = true) : 0 < (ePrefIdx t).length := by
  have hm : m < (eInners t).length := (List.getElem?_eq_some_iff.mp hr).1
  have : m ∈ ePrefIdx t := by
    rw [ePrefIdx_eq]
    exact List.mem_filter.mpr ⟨List.mem_range.mpr hm, by rw [prefIdx_hq t m r hr]; exact hp⟩
  exact List.length_pos_of_mem this

theorem countP_hasPref_stored {t : Trie1} (hs : ShapeOK t) (hi : t.opt.inner = true) (m : Nat) :
    ((eInners t).take m).countP hasPref = (((eInners t).take m).filterMap storedOf).length := by
  rw [List.length_filterMap_eq_countP]
  apply List.countP_congr
  intro r hr
  obtain ⟨i, hi'⟩ := List.mem_iff_getElem?.mp (List.mem_of_mem_take hr)
  have hp := rec_pref hs hi'
  unfold hasPref storedOf
  cases hpr : r.pref with
  | none => simp
  | step n => rw [hpr] at hp; have := hp.1; rw [hi] at this; cases this
  | stored ns => simp

theorem countP_hasPref_step {t : Trie1} (hs : ShapeOK t) (hi : t.opt.inner = false) (m : Nat) :
    ((eInners t).take m).countP hasPref = (((eInners t).take m).filterMap stepOf).length := by
  rw [List.length_filterMap_eq_countP]
  apply List.countP_congr
  intro r hr
  obtain ⟨i, hi'⟩ := List.mem_iff_getElem?.mp (List.mem_of_mem_take hr)
  have hp := rec_pref hs hi'
  unfold hasPref stepOf
  cases hpr : r.pref with
  | none => simp
  | step n => simp
  | stored ns => rw [hpr] at hp; have := hp.1; rw [hi] at this; cases this

theorem eStoredPs_pos (t : Trie1) : ∀ z ∈ (eStoredPs t).map List.length, 0 < z := by
  intro z hz
  simp only [eStoredPs, List.mem_map, List.mem_filterMap] at hz
  obtain ⟨b, ⟨r, _, hb⟩, rfl⟩ := hz
  unfold storedOf at hb
  split at hb
  · simp only [Option.some.injEq] at hb; subst hb; exact bitstrOf_length_pos _
  · cases hb

end Refine
