import SlimProofs.Refine.Enc
/-
  SlimProofs.Refine.EncCongr — what `Slim.encodeCreator` reads of the record array: the node kinds,
  the leaf prefixes and, of an inner record, `big`, `labels` and `pref` — the last for
  `InnerPrefixes` only (`encodeCreator_congr`, `eIps_congr`); `firstChild` and `leafKeyIdx` nowhere.
  Two tries are compared through a normaliser on `InnerRec` (`noPref`, `noChild`), so that "this
  component reads only `big` and `labels`" is `rfl` (`map_norm`, `foldl_norm`).
  Used by the prefix clause of C17 (`SizePrefixEnc.Lengthened`: the root's step differs) and by the
  legacy conversion (`LegacyConvert.encodeCreator_fixup`: `firstChild` and `leafKeyIdx` differ).
-/

namespace Refine

open Bits Slim

/-- an inner record without what the encoder does not read outside `InnerPrefixes` -/
def noPref (r : InnerRec) : InnerRec := { r with firstChild := 0, pref := .none }

def noChild (r : InnerRec) : InnerRec := { r with firstChild := 0 }

variable {α : Type} {l l' : List InnerRec} {g : InnerRec → InnerRec}

theorem map_norm (h : l'.map g = l.map g) (f : InnerRec → α) (hf : ∀ r, f r = f (g r)) :
    l'.map f = l.map f := by
  have e : ∀ l : List InnerRec, l.map f = (l.map g).map f := fun l => by
    rw [List.map_map]; exact List.map_congr_left fun r _ => hf r
  rw [e l', e l, h]

theorem foldl_norm (h : l'.map g = l.map g) (F : α → InnerRec → α) (hF : ∀ a r, F a r = F a (g r))
    (a : α) : l'.foldl F a = l.foldl F a := by
  have e : ∀ l : List InnerRec, l.foldl F a = (l.map g).foldl F a := fun l => by
    rw [List.foldl_map]; congr; funext a r; exact hF a r
  rw [e l', e l, h]

/-- `t'` has the node kinds and leaf prefixes of `t` and, in each inner record, its `big` and
    `labels` -/
structure SameCore (t t' : Trie1) : Prop where
  opt : t'.opt = t.opt
  bigCnt : t'.bigCnt = t.bigCnt
  elts : t'.elts = t.elts
  leaves : t'.nodes.toList.map leafOf = t.nodes.toList.map leafOf
  inners : (eInners t').map noPref = (eInners t).map noPref

variable {t t' : Trie1}

theorem SameCore.length (h : SameCore t t') : (eInners t').length = (eInners t).length := by
  have := congrArg List.length h.inners
  rwa [List.length_map, List.length_map] at this

/-- every field but `InnerPrefixes` is computed from the node kinds, the leaf prefixes and `big` and
    `labels` of the inner records -/
theorem encodeCreator_congr (h : SameCore t t') :
    encodeCreator t' = { encodeCreator t with innerPrefixes := some (eIps t') } := by
  have hsorted : eSorted t' = eSorted t := by
    unfold eSorted eCnts
    rw [foldl_norm h.inners _ fun _ _ => rfl]
  have hss : eShortSize t' = eShortSize t := by unfold eShortSize; rw [hsorted]
  have htbl : eTbl t' = eTbl t := by unfold eTbl; rw [hsorted, hss]
  have hsub : eSub t' = eSub t := by
    unfold eSub eMostUsed
    rw [hsorted, hss]
    exact map_norm h.inners _ fun _ => rfl
  have hsize : t'.nodes.size = t.nodes.size := by
    have := congrArg List.length h.leaves
    rwa [List.length_map, List.length_map, Array.length_toList, Array.length_toList] at this
  have kind : ∀ (t : Trie1) (i : Nat), (match t.nodes[i]? with | some (.inner _) => true | _ => false)
      = ((t.nodes.toList.map leafOf)[i]? == some none) := fun t i => by
    rw [List.getElem?_map, Array.getElem?_toList]
    cases t.nodes[i]? with
    | none => rfl
    | some nd => cases nd <;> rfl
  have hidx : eInnerIdx t' = eInnerIdx t := by
    unfold eInnerIdx
    rw [hsize]
    exact List.filter_congr fun i _ => (kind t' i).trans ((congrArg (fun l => l[i]? == some none) h.leaves).trans (kind t i).symm)
  have hbm : eInnersBM t' = eInnersBM t := by unfold eInnersBM; rw [hsub]
  have hsi : eShortIndex t' = eShortIndex t := by unfold eShortIndex; rw [h.length, hsub]
  have hlps : eLps t' = eLps t := by
    have e : ∀ t : Trie1, eLeafLps t = (t.nodes.toList.map leafOf).filterMap id := fun t => by
      rw [List.filterMap_map]; rfl
    unfold eLps eLeafIdx eLeafPs
    rw [h.opt, e, e, h.leaves]
  rw [encodeCreator_eq, encodeCreator_eq, h.bigCnt, hss, hsize, hidx, hbm, hsi, h.length, htbl, hlps, h.elts]

/-- `InnerPrefixes` reads `pref` of the inner records -/
theorem eIps_congr (hopt : t'.opt = t.opt) (h : (eInners t').map noChild = (eInners t).map noChild) :
    eIps t' = eIps t := by
  have hlen : (eInners t').length = (eInners t).length := by
    have := congrArg List.length h
    rwa [List.length_map, List.length_map] at this
  have hget : ∀ i, ((eInners t').getD i default).pref = ((eInners t).getD i default).pref := fun i => by
    have e : ∀ l : List InnerRec, (l.getD i default).pref = ((l.map noChild).getD i default).pref :=
      fun l => by
        rw [List.getD_eq_getElem?_getD, List.getD_eq_getElem?_getD, List.getElem?_map]
        cases l[i]? <;> rfl
    rw [e (eInners t'), e (eInners t), h]
  have hidx : ePrefIdx t' = ePrefIdx t := by
    unfold ePrefIdx
    rw [hlen]
    exact List.filter_congr fun i _ => by rw [hget]
  have fm : ∀ f : InnerRec → Option Bytes, (∀ r, f r = f (noChild r)) →
      (eInners t').filterMap f = (eInners t).filterMap f := fun f hf => by
    have e : ∀ l : List InnerRec, l.filterMap f = (l.map f).filterMap id := fun l => by
      rw [List.filterMap_map]; rfl
    rw [e, e, map_norm h f hf]
  unfold eIps eStoredPs
  rw [hopt, hidx, hlen, fm storedOf fun _ => rfl, fm stepOf fun _ => rfl]

end Refine
