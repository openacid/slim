import SlimModel.Slim
import SlimProofs.BitsLemmas.Rank
/-
  SlimProofs.Refine.GetNodeEq — `Slim.getNode`, `Slim.innerFrom` and the readers of a `VLenArrayMsg`
  taken apart.

  The model writes the prefix block of `getNode`, its label decoding, the offset of a small node
  and the short-table lookup of `innerFrom` inline.  Here they get names (`prefBlock`, `labelsOf`,
  `innerNode`, `BridgeSem.smallFrom`, `shortPart`), `getNode` is their composition
  (`getNode_unfold`), and `getNode_ok_iff` / `innerNode_ok_iff` say when a node is returned: read
  forward they show that a message decodes to a given record (SlimProofs/Refine.lean), read
  backward what a successful call has found (SlimProofs/GetInt.lean, SlimProps/BridgeSem/GetNode.lean).

  The three readers of a presence + position array (`vlenGet`, `getLeafPrefix`, `prefBlock`) inline
  the rank lookup; `…_of_rank` states each as "`rank64`/`rank128` of the presence bitmap, then
  `vlenTail` at that rank", so that their users reason with the rank lemmas of the bitmap library.
-/

/-- the offset `Slim.innerFrom` computes for a small node (an `Int`: `ShortSize - 17` is negative) -/
def BridgeSem.smallFrom (s : SlimMsg) (ith ithShort : Nat) : Int :=
  ((Slim.bigInnerSize : Int) - Slim.innerSize) * s.bigInnerCnt + (Slim.innerSize : Int) * ith
    + ((s.shortSize : Int) - Slim.innerSize) * ithShort

namespace Slim
open Bits BridgeSem

def labelsOf (short : Option Nat) (ws : List Nat) (frm size : Nat) : List Nat :=
  match short with
  | some bm => (List.range innerSize).filter (fun k => bm.testBit k)
  | none => labelsIn ws frm size

def prefBlock (ips : VLenArrayMsg) (ithInner : Nat) : Except Err Pref := do
  if ips.eltCnt = 0 then return Pref.none
  let some pres := ips.presenceBM | .error (.panic "nil PresenceBM")
  let some w := pres.words[ithInner / 64]? | .error (.panic "index out of range (prefix presence)")
  if !w.testBit (ithInner % 64) then return Pref.none
  let (ithPref, _) ← rank128 pres ithInner
  match ips.positionBM with
  | some pos =>
    let (a, b) ← select32R64 pos ithPref
    let bs ← sliceBytes ips.bytes a b
    if bs.isEmpty then .error (.panic "index out of range (bitstr.Len)")
    return Pref.stored (bitstrNibs bs)
  | none =>
    match ips.bytes[ithPref * 2]?, ips.bytes[ithPref * 2 + 1]? with
    | some b0, some b1 => return Pref.step (decStep b0 b1)
    | _, _ => .error (.panic "index out of range (decStep)")

def innerNode (s : SlimMsg) (ith : Nat) : Except Err Node := do
  let (frm, size, short) ← innerFrom s ith
  let some inn := s.inners | .error (.panic "nil Inners")
  let (r0, _) ← rank128 inn frm
  let some ips := s.innerPrefixes | .error (.panic "nil InnerPrefixes")
  let pref ← prefBlock ips ith
  return .inner { big := decide (ith < s.bigInnerCnt), labels := labelsOf short inn.words frm size,
                  firstChild := r0 + 1, pref := pref }

theorem getNode_unfold (s : SlimMsg) (id : Nat) :
    getNode s id = (do
      let some nt := s.nodeTypeBM | .error (.panic "nil NodeTypeBM")
      let (ith, isInner) ← rank64 nt id
      if !isInner then return .leaf (id - ith) (← getLeafPrefix s (id - ith))
      innerNode s ith) := by
  unfold getNode innerNode prefBlock labelsOf
  rfl

theorem bind_eq_ok {ε α β : Type} {x : Except ε α} {f : α → Except ε β} {b : β}
    (h : x >>= f = .ok b) : ∃ a, x = .ok a ∧ f a = .ok b := by
  cases x with
  | error e => cases h
  | ok a => exact ⟨a, rfl, h⟩

theorem innerNode_ok_iff (s : SlimMsg) (ith : Nat) (node : Node) :
    innerNode s ith = .ok node ↔ ∃ frm size short inn r0 c ips p,
      innerFrom s ith = .ok (frm, size, short) ∧ s.inners = some inn ∧
      rank128 inn frm = .ok (r0, c) ∧ s.innerPrefixes = some ips ∧ prefBlock ips ith = .ok p ∧
      node = .inner ⟨decide (ith < s.bigInnerCnt), labelsOf short inn.words frm size, r0 + 1, p⟩ := by
  unfold innerNode
  constructor
  · intro h
    obtain ⟨⟨frm, size, short⟩, hif, h⟩ := bind_eq_ok h
    cases hinn : s.inners with
    | none => rw [hinn] at h; cases h
    | some inn =>
      rw [hinn] at h
      obtain ⟨⟨r0, c⟩, hr, h⟩ := bind_eq_ok h
      cases hips : s.innerPrefixes with
      | none => rw [hips] at h; cases h
      | some ips =>
        rw [hips] at h
        obtain ⟨p, hp, h⟩ := bind_eq_ok h
        cases h
        exact ⟨frm, size, short, inn, r0, c, ips, p, hif, rfl, hr, rfl, hp, rfl⟩
  · rintro ⟨frm, size, short, inn, r0, c, ips, p, hif, hinn, hr, hips, hp, rfl⟩
    rw [hif, hinn, hips]
    simp only [bind, Except.bind, hr, hp]
    rfl

theorem getNode_ok_iff (s : SlimMsg) (id : Nat) (node : Node) :
    getNode s id = .ok node ↔ ∃ nt ith b, s.nodeTypeBM = some nt ∧ rank64 nt id = .ok (ith, b) ∧
      match b with
      | true => innerNode s ith = .ok node
      | false => ∃ lp, getLeafPrefix s (id - ith) = .ok lp ∧ node = .leaf (id - ith) lp := by
  rw [getNode_unfold]
  constructor
  · intro h
    cases hnt : s.nodeTypeBM with
    | none => rw [hnt] at h; cases h
    | some nt =>
      rw [hnt] at h
      obtain ⟨⟨ith, b⟩, hrk, h⟩ := bind_eq_ok h
      refine ⟨nt, ith, b, rfl, hrk, ?_⟩
      cases b with
      | true => exact h
      | false =>
        obtain ⟨lp, hlp, h⟩ := bind_eq_ok h
        cases h
        exact ⟨lp, hlp, rfl⟩
  · rintro ⟨nt, ith, b, hnt, hrk, h⟩
    rw [hnt]
    simp only [bind, Except.bind, hrk]
    cases b with
    | true => exact h
    | false =>
      obtain ⟨lp, hlp, rfl⟩ := h
      simp only [Bool.not_false, if_true, hlp]
      rfl

/-- what every reader of a `VLenArrayMsg` does once it has the rank `k` of a present element -/
def vlenTail (va : VLenArrayMsg) (k : Nat) : Except Err Bytes :=
  match va.positionBM with
  | none => sliceBytes va.bytes (k * va.fixedSize) (k * va.fixedSize + va.fixedSize)
  | some pos => do
    let (a, b) ← select32R64 pos k
    sliceBytes va.bytes a b

theorem vlenGet_of_rank {va : VLenArrayMsg} {i k : Nat} {b : Bool} {pres : BitmapMsg}
    (hn : i < va.n) (hp : va.presenceBM = some pres) (hr : rank64 pres i = .ok (k, b)) :
    vlenGet va i = if b then vlenTail va k else .ok [] := by
  obtain ⟨w, r, hw, hri, rfl, rfl⟩ := rank64_ok_inv _ _ _ _ hr
  unfold vlenGet vlenTail
  simp only [Nat.not_le.mpr hn, hp, hw, hri, if_false]
  cases w.testBit (i % 64)
  · rfl
  · simp only [Bool.not_true, Bool.false_eq_true, if_false, if_true]
    cases va.positionBM <;> rfl

theorem getLeafPrefix_of_rank {s : SlimMsg} {q k : Nat} {b : Bool} {lp : VLenArrayMsg}
    {pres pos : BitmapMsg} (h1 : s.leafPrefixes = some lp) (h2 : lp.presenceBM = some pres)
    (h3 : lp.positionBM = some pos) (hr : rank64 pres q = .ok (k, b)) :
    getLeafPrefix s q = if b then (vlenTail lp k).map some else .ok none := by
  obtain ⟨w, r, hw, hri, rfl, rfl⟩ := rank64_ok_inv _ _ _ _ hr
  unfold getLeafPrefix vlenTail
  simp only [h1, h2, h3, hw, hri]
  cases w.testBit (q % 64)
  · rfl
  · simp only [Bool.not_true, Bool.false_eq_true, if_false, if_true]
    cases select32R64 pos (r + popcount (w % 2 ^ (q % 64))) with
    | error e => rfl
    | ok ab => cases sliceBytes lp.bytes ab.1 ab.2 <;> rfl

theorem prefBlock_of_rank {ips : VLenArrayMsg} {ith k : Nat} {b : Bool} {pres : BitmapMsg}
    (h1 : ips.presenceBM = some pres) (hr : rank128 pres ith = .ok (k, b))
    (h0 : b = true → ¬ ips.eltCnt = 0) :
    prefBlock ips ith =
      if b then
        match ips.positionBM with
        | some _ => do
          let bs ← vlenTail ips k
          if bs.isEmpty then .error (.panic "index out of range (bitstr.Len)")
          return Pref.stored (bitstrNibs bs)
        | none =>
          match ips.bytes[k * 2]?, ips.bytes[k * 2 + 1]? with
          | some b0, some b1 => return Pref.step (decStep b0 b1)
          | _, _ => .error (.panic "index out of range (decStep)")
      else .ok Pref.none := by
  obtain ⟨w, hw, rfl⟩ := rank128_ok_inv _ _ _ _ hr
  unfold prefBlock vlenTail
  rw [h1]
  dsimp only
  rw [hw]
  dsimp only
  cases hb : w.testBit (ith % 64)
  · split <;> rfl
  · rw [if_neg (h0 hb), hr]
    cases ips.positionBM with
    | none => rfl
    | some pos =>
      dsimp only [bind, Except.bind]
      cases select32R64 pos k <;> rfl

def shortPart (s : SlimMsg) (frm : Nat) : Except Err (Nat × Nat × Option Nat) := do
  let some inn := s.inners | .error (.panic "nil Inners")
  let code ← extractShort inn.words frm s.shortSize
  let some bm := s.shortTable[code]? | .error (.panic "index out of range (ShortTable)")
  return (frm, s.shortSize, some bm)

theorem innerFrom_big (s : SlimMsg) (ith : Nat) (hb : ith < s.bigInnerCnt) :
    innerFrom s ith = .ok (257 * ith, 257, none) := by
  unfold innerFrom
  rw [if_pos hb, Nat.mul_comm]
  rfl

theorem innerFrom_small (s : SlimMsg) (ith : Nat) (sbm : BitmapMsg) (k : Nat) (c : Bool)
    (hb : ¬ ith < s.bigInnerCnt) (hsbm : s.shortBM = some sbm) (hrs : rank64 sbm ith = .ok (k, c)) :
    innerFrom s ith
      = if smallFrom s ith k < 0 then .error (.panic "negative bit offset")
        else if c then shortPart s (smallFrom s ith k).toNat
        else .ok ((smallFrom s ith k).toNat, innerSize, none) := by
  unfold innerFrom shortPart smallFrom
  simp only [hb, if_false, hsbm, hrs, bind, Except.bind]
  split
  · rfl
  · cases c <;> rfl

theorem shortPart_of {s : SlimMsg} {frm code bm : Nat} {inn : BitmapMsg} (h1 : s.inners = some inn)
    (h2 : extractShort inn.words frm s.shortSize = .ok code) (h3 : s.shortTable[code]? = some bm) :
    shortPart s frm = .ok (frm, s.shortSize, some bm) := by
  unfold shortPart
  simp only [h1, h2, h3, bind, Except.bind]
  rfl

end Slim
