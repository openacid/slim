import SlimModel.Build
/-
  Order facts on `lexCmp`, `bytesLt`, `strictAsc`, `nibs`, `lcp`.  `lexCmp` is core's `compare`
  on `List Nat` (`lexCmp_eq_compare`), so its order laws are core's; everything about `take`,
  `drop` and `++` is a case of `lexCmp_split` (cut both lists at one position: the comparison is
  that of the fronts, then that of the rests).  The one with content: the byte order on keys is
  the order of their half-byte strings (`lexCmp_nibs`, `bytesLt_iff_nibs`), so an argument about
  the trie, which branches on half-bytes, speaks about `bytesLt` on the keys.
-/

/-- `lexCmp` is core's `compare` on `List Nat`, so reflexivity, `= .eq ↔ =`, swapping and
    transitivity are those of `List.compareLex` -/
theorem lexCmp_eq_compare (a b : List Nat) : lexCmp a b = compare a b := by
  induction a generalizing b with
  | nil => cases b <;> rfl
  | cons x xs ih =>
    cases b with
    | nil => rfl
    | cons y ys =>
      rw [lexCmp, List.compare_cons_cons, ← ih, Nat.compare_eq_ite_lt]
      split
      · rfl
      · split <;> rfl

theorem lexCmp_self (a : List Nat) : lexCmp a a = .eq :=
  lexCmp_eq_compare a a ▸ Std.ReflCmp.compare_self

theorem lexCmp_lt_irrefl (a : List Nat) : lexCmp a a ≠ .lt := by
  rw [lexCmp_self]; decide

theorem lexCmp_eq_iff {a b : List Nat} : lexCmp a b = .eq ↔ a = b :=
  lexCmp_eq_compare a b ▸ Std.compare_eq_iff_eq

theorem lexCmp_swap (a b : List Nat) : lexCmp b a = (lexCmp a b).swap := by
  rw [lexCmp_eq_compare, lexCmp_eq_compare]; exact Std.OrientedCmp.eq_swap

theorem lexCmp_gt_iff (a b : List Nat) : lexCmp a b = .gt ↔ lexCmp b a = .lt := by
  rw [lexCmp_eq_compare, lexCmp_eq_compare]; exact Std.OrientedCmp.gt_iff_lt

theorem lexCmp_lt_trans {a b c : List Nat} (h1 : lexCmp a b = .lt) (h2 : lexCmp b c = .lt) :
    lexCmp a c = .lt := by
  rw [lexCmp_eq_compare] at *; exact Std.TransCmp.lt_trans h1 h2

theorem lexCmp_cons_lt {a b : Nat} {xs ys : List Nat} (h : lexCmp (a :: xs) (b :: ys) = .lt) :
    a < b ∨ (a = b ∧ lexCmp xs ys = .lt) := by
  simp only [lexCmp] at h
  split at h
  · next hlt => exact Or.inl hlt
  · split at h
    · cases h
    · next h1 h2 =>
      exact Or.inr ⟨Nat.le_antisymm (Nat.le_of_not_lt h2) (Nat.le_of_not_lt h1), h⟩

theorem lexCmp_cons_of_lt {a b : Nat} (xs ys : List Nat) (h : a < b) :
    lexCmp (a :: xs) (b :: ys) = .lt := by
  simp only [lexCmp, if_pos h]

theorem lexCmp_cons_self (a : Nat) (xs ys : List Nat) :
    lexCmp (a :: xs) (a :: ys) = lexCmp xs ys := by
  simp only [lexCmp, if_neg (Nat.lt_irrefl a)]

/-- two lists are compared by their first `w` entries, and by the rest where those agree; the
    facts about `take`, `drop` and `++` below are its cases -/
theorem lexCmp_split (w : Nat) (a b : List Nat) :
    lexCmp a b = (lexCmp (a.take w) (b.take w)).then (lexCmp (a.drop w) (b.drop w)) := by
  induction w generalizing a b with
  | zero => rfl
  | succ w ih =>
    cases a with
    | nil => cases b <;> rfl
    | cons x xs =>
      cases b with
      | nil => rfl
      | cons y ys =>
        simp only [List.take_succ_cons, List.drop_succ_cons, lexCmp]
        split
        · rfl
        · split
          · rfl
          · exact ih xs ys

theorem lexCmp_append (x1 y1 x2 y2 : List Nat) (h : x1.length = y1.length) :
    lexCmp (x1 ++ x2) (y1 ++ y2) = (lexCmp x1 y1).then (lexCmp x2 y2) := by
  rw [lexCmp_split x1.length, List.take_left' rfl, List.drop_left' rfl, List.take_left' h.symm,
    List.drop_left' h.symm]

theorem lexCmp_drop {a b : List Nat} (w : Nat) (h : a.take w = b.take w) :
    lexCmp a b = lexCmp (a.drop w) (b.drop w) := by
  rw [lexCmp_split w a b, h, lexCmp_self]; rfl

theorem lexCmp_take_lt (w : Nat) (a b : List Nat) (h : lexCmp (a.take w) (b.take w) = .lt) :
    lexCmp a b = .lt := by
  rw [lexCmp_split w a b, h]; rfl

theorem lexCmp_take_gt (w : Nat) (a b : List Nat) (h : lexCmp (a.take w) (b.take w) = .gt) :
    lexCmp b a = .lt :=
  (lexCmp_gt_iff a b).mp (by rw [lexCmp_split w a b, h]; rfl)

theorem lexCmp_append_right_of_lt (x p pad : List Nat) (h : x.length < p.length) :
    lexCmp x (p ++ pad) = lexCmp x p := by
  rw [lexCmp_split p.length x (p ++ pad), List.take_left' rfl,
    List.take_of_length_le (Nat.le_of_lt h)]
  cases hc : lexCmp x p with
  | eq => exact absurd (congrArg List.length (lexCmp_eq_iff.mp hc)) (Nat.ne_of_lt h)
  | _ => rfl

theorem bytesLt_iff {a b : Bytes} :
    bytesLt a b = true ↔ lexCmp (a.map UInt8.toNat) (b.map UInt8.toNat) = .lt := by
  simp [bytesLt, cmpBytes]

theorem cmpBytes_self (a : Bytes) : cmpBytes a a = .eq := lexCmp_self _

theorem bytesLt_irrefl (a : Bytes) : bytesLt a a = false := by
  simp [bytesLt, cmpBytes_self]

theorem bytesLt_trans {a b c : Bytes} (h1 : bytesLt a b = true) (h2 : bytesLt b c = true) :
    bytesLt a c = true := by
  rw [bytesLt_iff] at *
  exact lexCmp_lt_trans h1 h2

theorem strictAsc_cons {a : Bytes} {rest : List Bytes} (h : strictAsc (a :: rest) = true) :
    strictAsc rest = true := by
  cases rest with
  | nil => rfl
  | cons b rest =>
    simp only [strictAsc, Bool.and_eq_true] at h
    exact h.2

theorem strictAsc_head_lt {a : Bytes} {rest : List Bytes} (h : strictAsc (a :: rest) = true)
    {b : Nat} (hb : b < rest.length) : bytesLt a (rest.getD b []) = true := by
  induction rest generalizing a b with
  | nil => simp at hb
  | cons x xs ih =>
    simp only [strictAsc, Bool.and_eq_true] at h
    cases b with
    | zero => simpa using h.1
    | succ b =>
      have hb' : b < xs.length := by simpa using hb
      have := ih h.2 hb'
      simp only [List.getD_cons_succ]
      exact bytesLt_trans h.1 this

theorem strictAsc_lt {keys : List Bytes} {a b : Nat} (h : strictAsc keys = true) (hab : a < b)
    (hb : b < keys.length) : bytesLt (keys.getD a []) (keys.getD b []) = true := by
  induction keys generalizing a b with
  | nil => simp at hb
  | cons x xs ih =>
    cases b with
    | zero => exact absurd hab (Nat.not_lt_zero _)
    | succ b =>
      have hb' : b < xs.length := by simpa using hb
      cases a with
      | zero =>
        simp only [List.getD_cons_zero, List.getD_cons_succ]
        exact strictAsc_head_lt h hb'
      | succ a =>
        simp only [List.getD_cons_succ]
        exact ih (strictAsc_cons h) (Nat.lt_of_succ_lt_succ hab) hb'

theorem strictAsc_inj {keys : List Bytes} {a b : Nat} (h : strictAsc keys = true)
    (ha : a < keys.length) (hb : b < keys.length)
    (heq : keys.getD a [] = keys.getD b []) : a = b := by
  rcases Nat.lt_trichotomy a b with hab | hab | hab
  · have := strictAsc_lt h hab hb
    rw [heq, bytesLt_irrefl] at this
    cases this
  · exact hab
  · have := strictAsc_lt h hab ha
    rw [heq, bytesLt_irrefl] at this
    cases this

theorem nibs_length (a : Bytes) : (nibs a).length = 2 * a.length := by
  induction a with
  | nil => rfl
  | cons x xs ih => simp only [nibs, List.length_cons, ih]; omega

theorem nibs_injective {a b : Bytes} (h : nibs a = nibs b) : a = b := by
  induction a generalizing b with
  | nil =>
    cases b with
    | nil => rfl
    | cons y ys => simp [nibs] at h
  | cons x xs ih =>
    cases b with
    | nil => simp [nibs] at h
    | cons y ys =>
      simp only [nibs, List.cons.injEq] at h
      obtain ⟨h1, h2, h3⟩ := h
      have hxy : x.toNat = y.toNat := by rw [← Nat.div_add_mod x.toNat 16, h1, h2, Nat.div_add_mod]
      rw [UInt8.toNat_inj.mp hxy, ih h3]

theorem nibs_lt16 (a : Bytes) : ∀ x ∈ nibs a, x < 16 := by
  induction a with
  | nil => intro x hx; simp [nibs] at hx
  | cons b bs ih =>
    intro x hx
    simp only [nibs, List.mem_cons] at hx
    rcases hx with rfl | rfl | hx
    · exact Nat.div_lt_of_lt_mul b.toNat_lt
    · exact Nat.mod_lt _ (by decide)
    · exact ih x hx

theorem nibs_append (a b : Bytes) : nibs (a ++ b) = nibs a ++ nibs b := by
  induction a with
  | nil => rfl
  | cons x xs ih => simp only [List.cons_append, nibs, ih]

theorem nibs_take (a : Bytes) (h : Nat) : nibs (a.take h) = (nibs a).take (2 * h) := by
  induction h generalizing a with
  | zero => rfl
  | succ h ih =>
    cases a with
    | nil => rfl
    | cons x xs => simp only [Nat.mul_succ, List.take_succ_cons, nibs, ih]

theorem nibs_drop (a : Bytes) (h : Nat) : nibs (a.drop h) = (nibs a).drop (2 * h) := by
  induction h generalizing a with
  | zero => rfl
  | succ h ih =>
    cases a with
    | nil => rfl
    | cons x xs => simp only [Nat.mul_succ, List.drop_succ_cons, nibs, ih]

theorem nibs_cons_ofNat (a b : Nat) (ha : a < 16) (hb : b < 16) (bs : Bytes) :
    nibs (UInt8.ofNat (a * 16 + b) :: bs) = a :: b :: nibs bs := by
  have hlt : a * 16 + b < 256 := by omega
  rw [nibs, UInt8.toNat_ofNat', Nat.mod_eq_of_lt hlt, Nat.mul_comm a 16,
    Nat.mul_add_div (by decide), Nat.mul_add_mod, Nat.div_eq_of_lt hb, Nat.mod_eq_of_lt hb,
    Nat.add_zero]

theorem nibs_unnibs (p : List Nat) (h : ∀ x ∈ p, x < 16) :
    nibs (unnibs p) = p ++ (if p.length % 2 = 0 then [] else [0]) := by
  fun_induction unnibs p with
  | case1 => rfl
  | case2 a => rw [← Nat.add_zero (a * 16), nibs_cons_ofNat a 0 (h a (by simp)) (by decide)]; rfl
  | case3 a b rest ih =>
    rw [nibs_cons_ofNat a b (h a (by simp)) (h b (by simp)), ih (fun x hx => h x (by simp [hx])),
      List.length_cons, List.length_cons, Nat.add_assoc, Nat.add_mod_right]
    rfl

theorem take_nibs_unnibs (ns : List Nat) (h : ∀ x ∈ ns, x < 16) :
    (nibs (unnibs ns)).take ns.length = ns := by
  rw [nibs_unnibs ns h, List.take_left' rfl]

theorem lt_iff_mod_lt {a b : Nat} (h : a / 16 = b / 16) : a < b ↔ a % 16 < b % 16 := by
  have ha := Nat.div_add_mod a 16
  have hb := Nat.div_add_mod b 16
  rw [h] at ha
  exact (by rw [ha, hb] : a < b ↔ 16 * (b / 16) + a % 16 < 16 * (b / 16) + b % 16).trans
    Nat.add_lt_add_iff_left

theorem cmp_divmod (a b : Nat) (r : Ordering) :
    (if a / 16 < b / 16 then Ordering.lt else if b / 16 < a / 16 then .gt else
      if a % 16 < b % 16 then .lt else if b % 16 < a % 16 then .gt else r) =
    (if a < b then .lt else if b < a then .gt else r) := by
  by_cases h1 : a / 16 < b / 16
  · rw [if_pos h1, if_pos (Nat.lt_of_div_lt_div h1)]
  · by_cases h2 : b / 16 < a / 16
    · rw [if_neg h1, if_pos h2, if_neg (Nat.lt_asymm (Nat.lt_of_div_lt_div h2)),
        if_pos (Nat.lt_of_div_lt_div h2)]
    · have he : a / 16 = b / 16 := Nat.le_antisymm (Nat.le_of_not_lt h2) (Nat.le_of_not_lt h1)
      simp only [if_neg h1, if_neg h2, lt_iff_mod_lt he, lt_iff_mod_lt he.symm]

theorem lexCmp_nibs (a b : Bytes) :
    lexCmp (nibs a) (nibs b) = lexCmp (a.map UInt8.toNat) (b.map UInt8.toNat) := by
  induction a generalizing b with
  | nil => cases b <;> rfl
  | cons x xs ih =>
    cases b with
    | nil => rfl
    | cons y ys =>
      simp only [nibs, List.map_cons, lexCmp, ih]
      exact cmp_divmod _ _ _

theorem bytesLt_iff_nibs {a b : Bytes} : bytesLt a b = true ↔ lexCmp (nibs a) (nibs b) = .lt := by
  rw [lexCmp_nibs, bytesLt_iff]

theorem take_eq_of_le {α : Type} {a b : List α} {w w' : Nat} (h : a.take w = b.take w)
    (hw : w' ≤ w) : a.take w' = b.take w' := by
  have := congrArg (List.take w') h
  rwa [List.take_take, List.take_take, Nat.min_eq_left hw] at this

theorem le_length_of_take_eq {a b : List Nat} {w : Nat} (h : a.take w = b.take w)
    (hb : w ≤ b.length) : w ≤ a.length := by
  have := congrArg List.length h
  rw [List.length_take, List.length_take, Nat.min_eq_left hb] at this
  exact this ▸ Nat.min_le_right _ _

theorem lcp_le (a b : List Nat) : lcp a b ≤ a.length ∧ lcp a b ≤ b.length := by
  induction a generalizing b with
  | nil => simp [lcp]
  | cons x xs ih =>
    cases b with
    | nil => simp [lcp]
    | cons y ys =>
      simp only [lcp]
      split
      · exact ⟨Nat.succ_le_succ (ih ys).1, Nat.succ_le_succ (ih ys).2⟩
      · exact ⟨Nat.zero_le _, Nat.zero_le _⟩

theorem lcp_le_left (a b : List Nat) : lcp a b ≤ a.length := (lcp_le a b).1

theorem lcp_le_right (a b : List Nat) : lcp a b ≤ b.length := (lcp_le a b).2

theorem lcp_take (a b : List Nat) : a.take (lcp a b) = b.take (lcp a b) := by
  induction a generalizing b with
  | nil => simp [lcp]
  | cons x xs ih =>
    cases b with
    | nil => simp [lcp]
    | cons y ys =>
      simp only [lcp]
      split
      · next h => simp only [List.take_succ_cons, h, ih ys]
      · simp

theorem lcp_max (a b : List Nat) (ha : lcp a b < a.length) (hb : lcp a b < b.length) :
    a[lcp a b]? ≠ b[lcp a b]? := by
  induction a generalizing b with
  | nil => simp at ha
  | cons x xs ih =>
    cases b with
    | nil => simp at hb
    | cons y ys =>
      simp only [lcp] at ha hb ⊢
      split
      · next h =>
        rw [if_pos h] at ha hb
        simp only [List.length_cons] at ha hb
        simp only [List.getElem?_cons_succ]
        exact ih ys (Nat.lt_of_succ_lt_succ ha) (Nat.lt_of_succ_lt_succ hb)
      · next h => simpa using h

theorem lcp_spec (a b : List Nat) :
    a.take (lcp a b) = b.take (lcp a b) ∧
    (lcp a b < a.length → lcp a b < b.length → a[lcp a b]? ≠ b[lcp a b]?) ∧
    lcp a b ≤ a.length ∧ lcp a b ≤ b.length :=
  ⟨lcp_take a b, lcp_max a b, lcp_le a b⟩

theorem take_eq_of_le_lcp {a b : List Nat} {m : Nat} (h : m ≤ lcp a b) : a.take m = b.take m :=
  take_eq_of_le (lcp_take a b) h

namespace LeafCount

theorem keepMaskVals_length (p : Option Bytes) (vs : List Bytes) :
    (keepMaskVals p vs).length = vs.length := by
  induction vs generalizing p with
  | nil => cases p <;> rfl
  | cons v vs ih => cases p <;> simp [keepMaskVals, ih]

theorem keepMaskVals_succ (p : Option Bytes) (vs : List Bytes) (i : Nat) (h : i + 1 < vs.length) :
    (keepMaskVals p vs).getD (i + 1) false = (vs.getD i [] != vs.getD (i + 1) []) := by
  induction vs generalizing p i with
  | nil => cases h
  | cons v rest ih =>
    -- past the head, the mask only depends on the element in front
    have hstep : (keepMaskVals p (v :: rest)).getD (i + 1) false
        = (keepMaskVals (some v) rest).getD i false := by
      cases p <;> rfl
    rw [hstep]
    cases rest with
    | nil => exact absurd (Nat.lt_of_succ_lt_succ h) (Nat.not_lt_zero i)
    | cons w rest' =>
      cases i with
      | zero => rfl
      | succ i' => exact ih (some v) i' (Nat.lt_of_succ_lt_succ h)

end LeafCount
