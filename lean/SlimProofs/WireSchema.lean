import SlimProofs.WireArray
import SlimModel.WireSchema
/-
  SlimProofs.WireSchema — the decoders consume exactly the (number, wire type) pairs of the struct
  tags, and decline everything else; field numbers are pairwise distinct.
-/
namespace Wire

theorem slimKnown_schema (fno wire : Nat) : slimKnown fno wire = accepts slimSchema fno wire := by
  simp only [slimKnown, accepts, slimSchema, List.any_cons, List.any_nil]
  by_cases h0 : wire = 0 <;> by_cases h2 : wire = 2 <;> simp [h0, h2] <;> grind

theorem array32Known_schema (fno wire : Nat) : array32Known fno wire = accepts array32Schema fno wire := by
  simp only [array32Known, accepts, array32Schema, List.any_cons, List.any_nil]
  by_cases h0 : wire = 0 <;> by_cases h2 : wire = 2 <;> simp [h0, h2] <;> grind

theorem bitmapH_unknown (acc : BitmapMsg) (fno wire : Nat) (v : WVal)
    (hk : accepts bitmapSchema fno wire = false) (hf : Fits wire v) : bitmapH acc fno v = .ok none := by
  rcases hf with ⟨rfl, w, rfl⟩ | ⟨rfl, p, rfl⟩ | ⟨h0, h2, rfl⟩
  · unfold bitmapH; split <;> first | rfl | exact absurd hk (by decide)
  · unfold bitmapH; split <;> first | rfl | exact absurd hk (by decide)
  · unfold bitmapH; split <;> rfl

theorem vlenH_unknown (acc : VLenArrayMsg) (fno wire : Nat) (v : WVal)
    (hk : accepts vlenArraySchema fno wire = false) (hf : Fits wire v) : vlenH acc fno v = .ok none := by
  rcases hf with ⟨rfl, w, rfl⟩ | ⟨rfl, p, rfl⟩ | ⟨h0, h2, rfl⟩
  · unfold vlenH; split <;> first | rfl | exact absurd hk (by decide)
  · unfold vlenH; split <;> first | rfl | exact absurd hk (by decide)
  · unfold vlenH; split <;> rfl

theorem bitsH_unknown (acc : BitsMsg) (fno wire : Nat) (v : WVal)
    (hk : accepts bitsSchema fno wire = false) (hf : Fits wire v) : bitsH acc fno v = .ok none := by
  rcases hf with ⟨rfl, w, rfl⟩ | ⟨rfl, p, rfl⟩ | ⟨h0, h2, rfl⟩
  · unfold bitsH; split <;> first | rfl | exact absurd hk (by decide)
  · unfold bitsH; split <;> first | rfl | exact absurd hk (by decide)
  · unfold bitsH; split <;> rfl

theorem schema_nodup :
    ((bitmapSchema.map (·.num)).Nodup ∧ (vlenArraySchema.map (·.num)).Nodup ∧ (slimSchema.map (·.num)).Nodup ∧
      (array32Schema.map (·.num)).Nodup ∧ (bitsSchema.map (·.num)).Nodup) := by
  decide

end Wire
