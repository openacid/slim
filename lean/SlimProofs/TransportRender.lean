import SlimProofs.Transport
import SlimProofs.Render
/-
  `String()` (`Slim.render`, `Slim.toStringSlim`) carries over along a `Transport.ViewSim`:
  rendering only reads `node` and `leafBytes`.
  (Separate from `SlimProofs.Transport` only to keep that file free of the `Render` import.)
-/
namespace Transport
open Slim
variable {v₁ v₂ : View} {n : Nat}

theorem kids_le (fmtVal : Option Bytes → String) (f₁ f₂ : Nat) (r : InnerRec) (indent : String)
    (ih : ∀ inb id, Le (render v₁ fmtVal f₁ inb id) (render v₂ fmtVal f₂ inb id)) :
    ∀ labels k, Le (render.kids v₁ fmtVal f₁ r indent labels k)
      (render.kids v₂ fmtVal f₂ r indent labels k) := by
  intro labels
  induction labels with
  | nil => intro k; unfold render.kids; exact Le.refl _
  | cons l ls ihl =>
    intro k
    unfold render.kids
    exact Le.bind (ih _ _) (fun _ => Le.bind (ihl _) (fun _ => Le.refl _))

theorem render_le (s : ViewSim v₁ v₂ n) (fmtVal : Option Bytes → String) :
    ∀ f₁ f₂, f₁ ≤ f₂ → ∀ inb id, Le (render v₁ fmtVal f₁ inb id) (render v₂ fmtVal f₂ inb id) := by
  refine Le.fuel (fun f₂ inb id => ?_) (fun f₁ f₂ ih inb id => ?_)
  · unfold render; exact Le.error _ _
  · rw [render_succ, render_succ]
    refine Le.bind (s.node_le id) (fun nd => ?_)
    cases nd with
    | leaf ith lp => exact Le.bind (s.leaf ith) (fun _ => Le.refl _)
    | inner r => exact Le.bind (kids_le fmtVal f₁ f₂ r _ ih _ _) (fun _ => Le.refl _)

theorem toStringSlim_le (s : ViewSim v₁ v₂ n) (fmtVal : Option Bytes → String) :
    Le (toStringSlim v₁ fmtVal) (toStringSlim v₂ fmtVal) := by
  unfold toStringSlim
  rw [s.isEmpty]
  exact Le.else _ fun _ =>
    Le.bind (render_le s fmtVal _ _ (Nat.succ_le_succ s.cnt) _ _) (fun _ => Le.refl _)

end Transport
