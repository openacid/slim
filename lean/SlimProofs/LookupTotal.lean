import SlimProofs.SearchDescent
import SlimProofs.BuildShape
/-
  The lookups of a built trie (`build keys vals opt = .ok t`: any keys — also the empty list —,
  values, options) return normally for EVERY query string: no panic (`key[i>>3:]` out of range,
  node id out of range, `getLeaf` on an inner node, leaf array out of bound), no fuel exhaustion.
  All of it comes from `SearchDescent.searchID_post`: the three ids of `searchID` are leaves, and
  `GetID` answers its exact match.  In the same way `getID_kept` is `searchID_kept`.
-/

namespace LookupTotal

open Descent Agree Subtree SearchDescent

def IsLeafId (t : Trie1) (id : Nat) : Prop := ∃ ith lp, t.nodes[id]? = some (.leaf ith lp)

theorem getLeaf_ok {t : Trie1} (hs : ShapeOK t) {id : Nat} (h : IsLeafId t id) :
    ∃ x, getLeaf t.view id = .ok x := by
  obtain ⟨ith, lp, hn⟩ := h
  obtain ⟨val, hval⟩ := Tree.leafBytes_ok hs hn
  exact ⟨val, by simp only [getLeaf, view_node_of t id _ hn, bind, Except.bind, hval]⟩

theorem leafOf_ok {t : Trie1} (hs : ShapeOK t) {o : Option Nat}
    (ho : ∀ id, o = some id → IsLeafId t id) : ∃ z, leafOf t.view o = .ok z := by
  cases o with
  | none => exact ⟨none, rfl⟩
  | some id =>
    obtain ⟨x, hx⟩ := getLeaf_ok hs (ho id rfl)
    exact ⟨some x, by simp only [leafOf, bind, Except.bind, pure, Except.pure, hx]⟩

section wf
variable {keys : List Bytes} {keep : List Bool} {t : Trie1} {queue : Array Subset}

theorem get_total_wf (h : QOK keys keep t queue)
    (hroot : queue[0]? = some { s := 0, e := keys.length, fb := 0 })
    (hasc : strictAsc keys = true) (hs : ShapeOK t)
    (key : Bytes) : ∃ r, _root_.get t.view key = .ok r := by
  obtain ⟨a, ha, hleaf⟩ := getID_total_wf h hroot hasc key
  unfold _root_.get
  simp only [bind, Except.bind, ha]
  cases a <;> exact leafOf_ok hs hleaf

theorem searchID_total_wf (h : QOK keys keep t queue)
    (hroot : queue[0]? = some { s := 0, e := keys.length, fb := 0 })
    (hasc : strictAsc keys = true) (key : Bytes) :
    ∃ b, searchID t.view key = .ok b ∧ (∀ id, b.1 = some id → IsLeafId t id) ∧
      (∀ id, b.2.1 = some id → IsLeafId t id) ∧ (∀ id, b.2.2 = some id → IsLeafId t id) := by
  obtain ⟨a, b, l, e, r, hs, _, hlres, hrres, he, _⟩ := searchID_post h hroot hasc key
  refine ⟨_, hs, ?_, ?_, ?_⟩
  · rintro id rfl
    obtain ⟨_, ⟨ith, lp, hnd, _⟩, _⟩ := hlres
    exact ⟨ith, lp, hnd⟩
  · rintro id rfl
    obtain ⟨_, ith, lp, hnd, _⟩ := he
    exact ⟨ith, lp, hnd⟩
  · rintro id rfl
    obtain ⟨_, ⟨ith, lp, hnd, _⟩, _⟩ := hrres
    exact ⟨ith, lp, hnd⟩

theorem rangeGet_total_wf (h : QOK keys keep t queue)
    (hroot : queue[0]? = some { s := 0, e := keys.length, fb := 0 })
    (hasc : strictAsc keys = true) (hs : ShapeOK t)
    (key : Bytes) : ∃ r, _root_.rangeGet t.view key = .ok r := by
  obtain ⟨⟨l, e, r⟩, hb, hl, he, _⟩ := searchID_total_wf h hroot hasc key
  unfold _root_.rangeGet
  simp only [bind, Except.bind, pure, Except.pure, hb]
  -- the exact match if there is one, else the left neighbour
  cases e with
  | some id => exact leafOf_ok hs he
  | none => exact leafOf_ok hs hl

theorem search_total_wf (h : QOK keys keep t queue)
    (hroot : queue[0]? = some { s := 0, e := keys.length, fb := 0 })
    (hasc : strictAsc keys = true) (hs : ShapeOK t)
    (key : Bytes) : ∃ r, search t.view key = .ok r := by
  obtain ⟨⟨l, e, r⟩, hb, hl, he, hr⟩ := searchID_total_wf h hroot hasc key
  obtain ⟨zl, hzl⟩ := leafOf_ok hs hl
  obtain ⟨ze, hze⟩ := leafOf_ok hs he
  obtain ⟨zr, hzr⟩ := leafOf_ok hs hr
  rw [search_eq]
  simp only [bind, Except.bind, pure, Except.pure, hb, hzl, hze, hzr]
  exact ⟨_, rfl⟩

end wf

end LookupTotal

open LookupTotal

theorem getID_total (keys : List Bytes) (vals : Option (List Bytes)) (opt : Opt) (t : Trie1)
    (hb : build keys vals opt = .ok t) (q : Bytes) :
    ∃ a, getID t.view q = .ok a ∧ ∀ id, a = some id → IsLeafId t id := by
  rcases BuildShape.build_nil_or hb with ⟨rfl, rfl⟩ | hne
  · exact ⟨none, rfl, nofun⟩
  · obtain ⟨queue, hq, hroot, hasc, _⟩ := build_tree keys vals opt t hb hne
    exact Agree.getID_total_wf hq hroot hasc q

theorem get_total (keys : List Bytes) (vals : Option (List Bytes)) (opt : Opt) (t : Trie1)
    (hb : build keys vals opt = .ok t) (q : Bytes) : ∃ r, get t.view q = .ok r := by
  rcases BuildShape.build_nil_or hb with ⟨rfl, rfl⟩ | hne
  · exact ⟨none, rfl⟩
  · obtain ⟨queue, hq, hroot, hasc, htree⟩ := build_tree keys vals opt t hb hne
    exact get_total_wf hq hroot hasc htree.shape q

theorem searchID_total (keys : List Bytes) (vals : Option (List Bytes)) (opt : Opt) (t : Trie1)
    (hb : build keys vals opt = .ok t) (q : Bytes) :
    ∃ b, searchID t.view q = .ok b ∧ (∀ id, b.1 = some id → IsLeafId t id) ∧
      (∀ id, b.2.1 = some id → IsLeafId t id) ∧ (∀ id, b.2.2 = some id → IsLeafId t id) := by
  rcases BuildShape.build_nil_or hb with ⟨rfl, rfl⟩ | hne
  · refine ⟨(none, none, none), rfl, ?_, ?_, ?_⟩ <;> (intro id hid; cases hid)
  · obtain ⟨queue, hq, hroot, hasc, _⟩ := build_tree keys vals opt t hb hne
    exact searchID_total_wf hq hroot hasc q

theorem rangeGet_total (keys : List Bytes) (vals : Option (List Bytes)) (opt : Opt) (t : Trie1)
    (hb : build keys vals opt = .ok t) (q : Bytes) : ∃ r, rangeGet t.view q = .ok r := by
  rcases BuildShape.build_nil_or hb with ⟨rfl, rfl⟩ | hne
  · exact ⟨none, rfl⟩
  · obtain ⟨queue, hq, hroot, hasc, htree⟩ := build_tree keys vals opt t hb hne
    exact rangeGet_total_wf hq hroot hasc htree.shape q

theorem search_total (keys : List Bytes) (vals : Option (List Bytes)) (opt : Opt) (t : Trie1)
    (hb : build keys vals opt = .ok t) (q : Bytes) : ∃ r, search t.view q = .ok r := by
  rcases BuildShape.build_nil_or hb with ⟨rfl, rfl⟩ | hne
  · exact ⟨(none, none, none), rfl⟩
  · obtain ⟨queue, hq, hroot, hasc, htree⟩ := build_tree keys vals opt t hb hne
    exact search_total_wf hq hroot hasc htree.shape q

open Subtree Agree SearchDescent in
/-- **Descent theorem.**  In a well-formed trie `GetID` on a kept key returns the id of a leaf
    whose recorded key index is exactly that key: `GetID` returns, and what it returns is the
    exact match of `searchID`. -/
theorem getID_kept (keys : List Bytes) (keep : List Bool) (t : Trie1)
    (hasc : strictAsc keys = true)
    (hwf : WF keys keep t) (i : Nat) (hi : i < keys.length) (hk : keptAt keep i = true) :
    ∃ id ith lp, getID t.view (keys.getD i []) = .ok (some id) ∧
      t.nodes[id]? = some (.leaf ith lp) ∧ t.leafKeyIdx[ith]? = some i := by
  obtain ⟨l, id, r, hs, ⟨ith, lp, hnd, hidx⟩, _⟩ := searchID_kept keys keep t hasc hwf i hi hk
  obtain ⟨queue, hq, hroot⟩ := (wf_iff keys keep t).mp hwf
  obtain ⟨_, _, _, _, _, hs', hg, _⟩ := searchID_post hq hroot hasc (keys.getD i [])
  cases hs.symm.trans hs'
  exact ⟨id, ith, lp, hg, hnd, hidx⟩

#print axioms getID_total
#print axioms get_total
#print axioms searchID_total
#print axioms rangeGet_total
#print axioms search_total
